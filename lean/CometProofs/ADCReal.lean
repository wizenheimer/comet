/-
  The model's ADC arithmetic instantiated at commutative rings and at ℝ
  (the only Mathlib-dependent helper file of C14): over ℝ the square root of `sqDist` is
  the distance of `EuclideanSpace ℝ (Fin n)`, from which C14 takes the triangle inequality.
-/
import Mathlib.Analysis.InnerProductSpace.PiL2
import CometProofs.ADC
namespace Comet.PQ

def Ops.ofRing (R : Type) [CommRing R] : Ops R := ⟨0, (· + ·), (· - ·), (· * ·)⟩

theorem Ops.ofRing_laws (R : Type) [CommRing R] : (Ops.ofRing R).Laws :=
  ⟨add_assoc, zero_add, add_zero⟩

/-- only used for lists of length `n` -/
noncomputable def toE (n : Nat) (l : List ℝ) : EuclideanSpace ℝ (Fin n) :=
  WithLp.toLp 2 (fun i => l.getD i 0)

theorem sqDist_eq_sum (R : Type) [CommRing R] (a c : List R) :
    sqDist (Ops.ofRing R) a c = (List.zipWith (fun x y => (x - y) * (x - y)) a c).sum := by
  rw [List.sum_eq_foldl]; rfl

theorem sqDist_cons {R : Type} [CommRing R] (x y : R) (a c : List R) :
    sqDist (Ops.ofRing R) (x :: a) (y :: c) = (x - y) * (x - y) + sqDist (Ops.ofRing R) a c := by
  simp only [sqDist_eq_sum, List.zipWith_cons_cons, List.sum_cons]

theorem sqDist_real : ∀ (a c : List ℝ) (n : Nat), a.length = n → c.length = n →
    sqDist (Ops.ofRing ℝ) a c = ∑ i : Fin n, (a.getD i 0 - c.getD i 0) ^ 2
  | [], [], _, rfl, _ => rfl
  | x :: a, y :: c, _, rfl, hc => by
    rw [sqDist_cons, sqDist_real a c _ rfl (Nat.succ.inj hc), List.length_cons,
      Fin.sum_univ_succ, sq]
    rfl

theorem sqrt_sqDist_eq_dist (a c : List ℝ) (n : Nat) (ha : a.length = n) (hc : c.length = n) :
    Real.sqrt (sqDist (Ops.ofRing ℝ) a c) = dist (toE n a) (toE n c) := by
  rw [sqDist_real a c n ha hc, EuclideanSpace.dist_eq]
  simp only [toE, Real.dist_eq, sq_abs]

theorem sqDist_nonneg (a c : List ℝ) : 0 ≤ sqDist (Ops.ofRing ℝ) a c := by
  induction a generalizing c with
  | nil => exact le_rfl
  | cons x a ih =>
    cases c with
    | nil => exact le_rfl
    | cons y c => rw [sqDist_cons]; exact add_nonneg (mul_self_nonneg _) (ih c)

theorem sqDist_vsub_vsub : ∀ (q x c : List ℝ), q.length = c.length → x.length = c.length →
    sqDist (Ops.ofRing ℝ) (vsub (Ops.ofRing ℝ) q c) (vsub (Ops.ofRing ℝ) x c) =
      sqDist (Ops.ofRing ℝ) q x
  | [], _, _, _, _ => rfl
  | _ :: _, [], [], _, _ => rfl
  | a :: q, b :: x, d :: c, hq, hx => by
    have ih := sqDist_vsub_vsub q x c (Nat.succ.inj hq) (Nat.succ.inj hx)
    simp only [vsub, List.zipWith_cons_cons] at ih ⊢
    rw [sqDist_cons, sqDist_cons, ih]
    simp only [Ops.ofRing, sub_sub_sub_cancel_right]

end Comet.PQ
