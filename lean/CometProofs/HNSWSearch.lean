/-
  searchLayer (helper lemmas for C12): the heap insertions and the sort are permutations;
  the soundness and completeness invariants of its two loops.
-/
import CometProofs.HNSW
namespace Comet.HNSW

variable {V S : Type}

theorem insAsc_perm (lt : S → S → Bool) (c : Hit S) (l : List (Hit S)) : (insAsc lt c l).Perm (c :: l) := by
  induction l with
  | nil => exact .refl _
  | cons a as ih =>
    simp only [insAsc]
    split
    · exact .refl _
    · exact (ih.cons a).trans (.swap c a as)

theorem insDesc_perm (lt : S → S → Bool) (c : Hit S) (l : List (Hit S)) : (insDesc lt c l).Perm (c :: l) := by
  induction l with
  | nil => exact .refl _
  | cons a as ih =>
    simp only [insDesc]
    split
    · exact .refl _
    · exact (ih.cons a).trans (.swap c a as)

theorem insStable_perm (lt : S → S → Bool) (c : Hit S) (l : List (Hit S)) :
    (insStable lt c l).Perm (c :: l) := by
  induction l with
  | nil => exact .refl _
  | cons a as ih =>
    simp only [insStable]
    split
    · exact (ih.cons a).trans (.swap c a as)
    · exact .refl _

theorem sortAsc_perm (lt : S → S → Bool) (l : List (Hit S)) : (sortAsc lt l).Perm l := by
  induction l with
  | nil => exact .refl _
  | cons a as ih => exact (insStable_perm lt a _).trans (ih.cons a)

theorem mem_insAsc {lt : S → S → Bool} {c x : Hit S} {l : List (Hit S)} :
    x ∈ insAsc lt c l ↔ x = c ∨ x ∈ l := by
  rw [(insAsc_perm lt c l).mem_iff]; simp

theorem mem_insDesc {lt : S → S → Bool} {c x : Hit S} {l : List (Hit S)} :
    x ∈ insDesc lt c l ↔ x = c ∨ x ∈ l := by
  rw [(insDesc_perm lt c l).mem_iff]; simp

theorem length_insDesc (lt : S → S → Bool) (c : Hit S) (l : List (Hit S)) :
    (insDesc lt c l).length = l.length + 1 := by
  rw [(insDesc_perm lt c l).length_eq]; simp

/-- `heap.Push(result, …)` followed by `if result.Len() > ef { heap.Pop(result) }`; restates
    the two `let rs` of the model's `scanNbrs` (`scanNbrs_induct` needs them definitionally equal) -/
def pushPop (lt : S → S → Bool) (ef : Nat) (c : Hit S) (rs : List (Hit S)) : List (Hit S) :=
  if (insDesc lt c rs).length > ef then (insDesc lt c rs).tail else insDesc lt c rs

theorem le_length_pushPop (lt : S → S → Bool) {ef : Nat} (c : Hit S) {rs : List (Hit S)}
    (h : ef ≤ rs.length) : ef ≤ (pushPop lt ef c rs).length := by
  unfold pushPop
  split
  · rw [List.length_tail, length_insDesc]; exact h
  · rw [length_insDesc]; exact Nat.le_succ_of_le h

theorem pushPop_of_lt (lt : S → S → Bool) {ef : Nat} (c : Hit S) {rs : List (Hit S)}
    (h : rs.length < ef) : pushPop lt ef c rs = insDesc lt c rs :=
  if_neg (by rw [length_insDesc]; exact Nat.not_lt.2 h)

theorem node!_eq {s : State V} {i : Id} {n : Node V} (h : node! s i = .ok n) :
    s.nodes.get? i = some n := by
  simp only [node!] at h
  split at h
  · next n' hn' => cases h; exact hn'
  · cases h

/-! ### the loop invariants (searchLayer since fix f6a780e: soft-deleted vertices are
    walked through — candidate heap — but never reported — result heap) -/

section Loop
variable (m : Metric V S) (s : State V) (q : V) (ef layer : Nat) (ep : Id)

def Good (h : Hit S) : Prop := ∃ n, s.nodes.get? h.id = some n ∧ h.score = m.dist q n.vec

/-- along the edges of `layer`, through ANY stored vertex, soft-deleted ones included -/
abbrev RL (v : Id) : Prop := Reach (nbrsAt s layer) ep v

/-- soundness invariant of `searchLayer`'s two heaps -/
structure SInv (cs rs : List (Hit S)) (vis : IdMap Unit) : Prop where
  cs_ok : ∀ c ∈ cs, RL s layer ep c.id
  rs_ok : ∀ r ∈ rs, RL s layer ep r.id ∧ isDeleted s r.id = false ∧ vis.contains r.id = true ∧ Good m s q r
  rs_nodup : (rs.map (·.id)).Nodup

/-- completeness invariant while the result heap is not full; `exc` is the vertex being
    expanded right now -/
structure CInv (exc : Option Id) (cs rs : List (Hit S)) (vis : IdMap Unit) : Prop where
  ep_vis : vis.contains ep = true
  vis_rs : ∀ v, RL s layer ep v → isDeleted s v = false → vis.contains v = true → v ∈ rs.map (·.id)
  pending : ∀ v, RL s layer ep v → vis.contains v = true →
    v ∈ cs.map (·.id) ∨ some v = exc ∨ ∀ w ∈ nbrsAt s layer v, vis.contains w = true

variable {m s q ef layer ep} {cs rs cs' rs' : List (Hit S)} {vis vis' : IdMap Unit}

/-- A completed neighbour scan handles the neighbours one by one (`P`'s first argument:
    those still to come): one that is marked already is left alone; an unvisited one is
    marked and, when admitted, pushed on the candidate heap and, unless it is soft-deleted,
    on the result heap.  What these moves carry along holds at the end. -/
theorem scanNbrs_induct (P : List Id → List (Hit S) → List (Hit S) → IdMap Unit → Prop)
    (hseen : ∀ nb rest cs rs vis, vis.contains nb = true → P (nb :: rest) cs rs vis → P rest cs rs vis)
    (hskip : ∀ nb rest n cs rs vis, vis.contains nb = false → s.nodes.get? nb = some n →
      admits m.sc.lt ef rs (m.dist q n.vec) = .ok false →
      P (nb :: rest) cs rs vis → P rest cs rs (vis.set nb ()))
    (hpush : ∀ nb rest n cs rs vis, vis.contains nb = false → s.nodes.get? nb = some n →
      admits m.sc.lt ef rs (m.dist q n.vec) = .ok true → P (nb :: rest) cs rs vis →
      P rest (insAsc m.sc.lt ⟨nb, m.dist q n.vec⟩ cs)
        (if isDeleted s nb then rs else pushPop m.sc.lt ef ⟨nb, m.dist q n.vec⟩ rs) (vis.set nb ()))
    {nbs : List Id} (h : scanNbrs m s q ef nbs (cs, rs, vis) = .ok (cs', rs', vis'))
    (hP : P nbs cs rs vis) : P [] cs' rs' vis' := by
  induction nbs generalizing cs rs vis with
  | nil =>
    simp only [scanNbrs, Except.ok.injEq, Prod.mk.injEq] at h
    obtain ⟨rfl, rfl, rfl⟩ := h
    exact hP
  | cons nb rest ih =>
    cases hvis : vis.contains nb with
    | true =>
      simp only [scanNbrs, hvis, if_true] at h
      exact ih h (hseen nb rest cs rs vis hvis hP)
    | false =>
      cases hn : node! s nb with
      | error e => simp [scanNbrs, hvis, hn] at h
      | ok n =>
        cases hadm : admits m.sc.lt ef rs (m.dist q n.vec) with
        | error e => simp [scanNbrs, hvis, hn, hadm] at h
        | ok b =>
          simp only [scanNbrs, hvis, hn, hadm, Bool.false_eq_true, if_false] at h
          cases b with
          | false => exact ih h (hskip nb rest n cs rs vis hvis (node!_eq hn) hadm hP)
          | true =>
            have hP' := hpush nb rest n cs rs vis hvis (node!_eq hn) hadm hP
            cases hdel : isDeleted s nb with
            | true =>
              simp only [hdel, if_true] at h hP'
              exact ih h hP'
            | false =>
              simp only [hdel, Bool.false_eq_true, if_false] at h hP'
              exact ih h hP'

theorem scanNbrs_marks (nbs : List Id) (h : scanNbrs m s q ef nbs (cs, rs, vis) = .ok (cs', rs', vis')) :
    ∀ w ∈ nbs, vis'.contains w = true := by
  have hmark : ∀ nb rest (v : IdMap Unit), (∀ w ∈ nbs, w ∈ nb :: rest ∨ v.contains w = true) →
      ∀ w ∈ nbs, w ∈ rest ∨ (v.set nb ()).contains w = true := by
    intro nb rest v h2 w hw
    rcases h2 w hw with hw' | hw'
    · rcases List.mem_cons.1 hw' with rfl | hw'
      · exact Or.inr (IdMap.contains_set_self v w ())
      · exact Or.inl hw'
    · exact Or.inr (IdMap.contains_set_of v nb () hw')
  have := scanNbrs_induct (P := fun rem _ _ v => ∀ w ∈ nbs, w ∈ rem ∨ v.contains w = true)
    (hseen := fun nb rest _ _ v hv h2 w hw => (h2 w hw).elim
      (fun hw' => (List.mem_cons.1 hw').elim (fun he => Or.inr (he ▸ hv)) Or.inl) Or.inr)
    (hskip := fun nb rest _ _ _ v _ _ _ hP => hmark nb rest v hP)
    (hpush := fun nb rest _ _ _ v _ _ _ hP => hmark nb rest v hP)
    h (fun w hw => Or.inl hw)
  exact fun w hw => (this w hw).resolve_left (by simp)

theorem SInv.mark (h : SInv m s q layer ep cs rs vis) (nb : Id) :
    SInv m s q layer ep cs rs (vis.set nb ()) :=
  ⟨h.cs_ok,
   fun c hc => let ⟨a, b, c', d⟩ := h.rs_ok c hc; ⟨a, b, IdMap.contains_set_of vis nb () c', d⟩,
   h.rs_nodup⟩

theorem SInv.pushC (h : SInv m s q layer ep cs rs vis) (c : Hit S) (hc : RL s layer ep c.id) :
    SInv m s q layer ep (insAsc m.sc.lt c cs) rs vis :=
  ⟨fun x hx => (mem_insAsc.1 hx).elim (fun he => he ▸ hc) (h.cs_ok x), h.rs_ok, h.rs_nodup⟩

theorem SInv.pushR (h : SInv m s q layer ep cs rs vis) (c : Hit S)
    (hc : RL s layer ep c.id ∧ isDeleted s c.id = false ∧ vis.contains c.id = true ∧ Good m s q c)
    (hnew : c.id ∉ rs.map (·.id)) :
    SInv m s q layer ep cs (pushPop m.sc.lt ef c rs) vis := by
  have h2 : SInv m s q layer ep cs (insDesc m.sc.lt c rs) vis := by
    refine ⟨h.cs_ok, ?_, ?_⟩
    · intro x hx
      rcases mem_insDesc.1 hx with rfl | hx
      · exact hc
      · exact h.rs_ok x hx
    · rw [((insDesc_perm m.sc.lt c rs).map (·.id)).nodup_iff]
      simp only [List.map_cons, List.nodup_cons]
      exact ⟨hnew, h.rs_nodup⟩
  unfold pushPop
  split
  · exact ⟨h2.cs_ok, fun r hr => h2.rs_ok r (List.mem_of_mem_tail hr),
      h2.rs_nodup.sublist ((List.tail_sublist _).map _)⟩
  · exact h2

theorem scanNbrs_sound (nbs : List Id) (hnb : ∀ nb ∈ nbs, RL s layer ep nb)
    (h : scanNbrs m s q ef nbs (cs, rs, vis) = .ok (cs', rs', vis'))
    (hinv : SInv m s q layer ep cs rs vis) : SInv m s q layer ep cs' rs' vis' := by
  have htail : ∀ {nb : Id} {rest : List Id}, (∀ x ∈ nb :: rest, RL s layer ep x) →
      ∀ x ∈ rest, RL s layer ep x := fun h x hx => h x (List.mem_cons_of_mem _ hx)
  refine (scanNbrs_induct
    (P := fun rem cs rs vis => (∀ nb ∈ rem, RL s layer ep nb) ∧ SInv m s q layer ep cs rs vis)
    (hseen := fun nb rest cs rs vis _ ⟨hr, hinv⟩ => ⟨htail hr, hinv⟩)
    (hskip := fun nb rest n cs rs vis _ _ _ ⟨hr, hinv⟩ => ⟨htail hr, hinv.mark nb⟩) (hpush := ?_)
    h ⟨hnb, hinv⟩).2
  intro nb rest n cs rs vis hvis hn _ ⟨hr, hinv⟩
  have hR := hr nb (by simp)
  have hgood : Good m s q (⟨nb, m.dist q n.vec⟩ : Hit S) := ⟨n, hn, rfl⟩
  have hself := IdMap.contains_set_self vis nb ()
  have hinv2 := (hinv.mark nb).pushC ⟨nb, m.dist q n.vec⟩ hR
  refine ⟨htail hr, ?_⟩
  split
  · exact hinv2
  · next hdel =>
    refine hinv2.pushR ⟨nb, m.dist q n.vec⟩ ⟨hR, by simpa using hdel, hself, hgood⟩ ?_
    -- everything on the result heap is marked, `nb` was not
    intro hmem'
    obtain ⟨r, hr', hrid⟩ := List.mem_map.1 hmem'
    have := (hinv.rs_ok r hr').2.2.1
    rw [hrid, hvis] at this
    cases this

theorem nbrs_reach {c : Id} {n : Node V} {nbs : List Id}
    (hc : RL s layer ep c) (hn : s.nodes.get? c = some n) (he : n.edges[layer]? = some nbs) :
    ∀ nb ∈ nbs, RL s layer ep nb := by
  intro nb hnb
  refine Reach.step hc ?_
  simp only [nbrsAt, hn, he, Option.getD_some]
  exact hnb

/-! ### completeness: either the result heap is full (`≥ ef` hits) or it holds EVERY live
    vertex reachable from the start -/

/-- a full result heap stays full; while it is not full every unvisited neighbour is
    admitted, so nothing reachable is lost -/
theorem scanNbrs_complete (c : Id) (nbs : List Id)
    (h : scanNbrs m s q ef nbs (cs, rs, vis) = .ok (cs', rs', vis'))
    (hc : ef ≤ rs.length ∨ CInv s layer ep (some c) cs rs vis) :
    ef ≤ rs'.length ∨ CInv s layer ep (some c) cs' rs' vis' := by
  refine scanNbrs_induct
    (P := fun _ cs rs vis => ef ≤ rs.length ∨ CInv s layer ep (some c) cs rs vis)
    (hseen := fun _ _ _ _ _ _ hc => hc) (hskip := ?skip) (hpush := ?push) h hc
  case skip =>
    -- not admitted: the heap is full
    intro nb _ n cs rs vis _ _ hadm _
    left
    simp only [admits] at hadm
    split at hadm
    · cases hadm
    · next hge => exact Nat.not_lt.1 hge
  case push =>
    intro nb _ n cs rs vis _ _ _ hc
    by_cases hlt : rs.length < ef
    swap
    · left
      split
      · exact Nat.not_lt.1 hlt
      · exact le_length_pushPop _ _ (Nat.not_lt.1 hlt)
    rcases hc with hfull | hc
    · exact absurd hlt (Nat.not_lt.2 hfull)
    right
    have hset := IdMap.contains_set vis nb
    have hpend : ∀ v, RL s layer ep v → (vis.set nb ()).contains v = true →
        v ∈ (insAsc m.sc.lt ⟨nb, m.dist q n.vec⟩ cs).map (·.id) ∨ some v = some c ∨
          ∀ w ∈ nbrsAt s layer v, (vis.set nb ()).contains w = true := by
      intro v hv hvv
      rw [((insAsc_perm m.sc.lt ⟨nb, m.dist q n.vec⟩ cs).map (·.id)).mem_iff]
      rw [hset] at hvv
      simp only [Bool.or_eq_true, decide_eq_true_eq] at hvv
      rcases hvv with rfl | hvv
      · exact Or.inl (by simp)
      · exact (hc.pending v hv hvv).imp (List.mem_cons_of_mem _)
          (Or.imp_right fun h1 w hw => IdMap.contains_set_of vis nb () (h1 w hw))
    refine ⟨IdMap.contains_set_of vis nb () hc.ep_vis, fun v hv hvd hvv => ?_, hpend⟩
    rw [hset] at hvv
    simp only [Bool.or_eq_true, decide_eq_true_eq] at hvv
    split
    · next hdel =>
      -- soft-deleted: walked through, not reported
      rcases hvv with rfl | hvv
      · rw [hdel] at hvd; cases hvd
      · exact hc.vis_rs v hv hvd hvv
    · rw [pushPop_of_lt _ _ hlt, ((insDesc_perm m.sc.lt ⟨nb, m.dist q n.vec⟩ rs).map (·.id)).mem_iff]
      rcases hvv with rfl | hvv
      · simp
      · exact List.mem_cons_of_mem _ (hc.vis_rs v hv hvd hvv)

/-- The main loop, once: what holds of the start state and is preserved by popping a
    candidate — without expansion when its vertex has no such layer, with a neighbour scan
    otherwise — holds, for the returned result heap, of a state whose candidate heap is
    empty or whose result heap is full. -/
theorem searchLoop_induct (P : List (Hit S) → List (Hit S) → IdMap Unit → Prop)
    (hpop : ∀ c cs rs vis n, P (c :: cs) rs vis → s.nodes.get? c.id = some n →
      n.edges[layer]? = none → P cs rs vis)
    (hscan : ∀ c cs rs vis n nbs cs' rs' vis', P (c :: cs) rs vis → s.nodes.get? c.id = some n →
      n.edges[layer]? = some nbs → scanNbrs m s q ef nbs (cs, rs, vis) = .ok (cs', rs', vis') →
      P cs' rs' vis')
    {fuel : Nat} {res : List (Hit S)} (h : searchLoop m s q ef layer fuel cs rs vis = .ok res)
    (hP : P cs rs vis) : ∃ cs' vis', P cs' res vis' ∧ (cs' = [] ∨ ef ≤ res.length) := by
  induction fuel generalizing cs rs vis with
  | zero =>
    cases cs with
    | nil =>
      simp only [searchLoop, Except.ok.injEq] at h
      exact ⟨[], vis, h ▸ hP, Or.inl rfl⟩
    | cons c cs => simp [searchLoop] at h
  | succ fuel ih =>
    cases cs with
    | nil =>
      simp only [searchLoop, Except.ok.injEq] at h
      exact ⟨[], vis, h ▸ hP, Or.inl rfl⟩
    | cons c cs =>
      simp only [searchLoop] at h
      split at h
      · cases h
      · next hstop =>
        simp only [Except.ok.injEq] at h
        refine ⟨c :: cs, vis, h ▸ hP, Or.inr ?_⟩
        simp only [stops] at hstop
        split at hstop
        · next hge => exact h ▸ hge
        · cases hstop
      · split at h
        · cases h
        · next n hn =>
          split at h
          · next he => exact ih h (hpop c cs rs vis n hP (node!_eq hn) he)
          · next nbs he =>
            split at h
            · cases h
            · next cs' rs' vis' hsc =>
              exact ih h (hscan c cs rs vis n nbs cs' rs' vis' hP (node!_eq hn) he hsc)

theorem SInv.pop {c : Hit S} (h : SInv m s q layer ep (c :: cs) rs vis) :
    SInv m s q layer ep cs rs vis :=
  ⟨fun x hx => h.cs_ok x (List.mem_cons_of_mem _ hx), h.rs_ok, h.rs_nodup⟩

/-- the popped candidate is the vertex being expanded -/
theorem CInv.expanding {c : Hit S} (h : CInv s layer ep none (c :: cs) rs vis) :
    CInv s layer ep (some c.id) cs rs vis := by
  refine ⟨h.ep_vis, h.vis_rs, fun v hv hvv => ?_⟩
  rcases h.pending v hv hvv with h1 | h1 | h1
  · rcases List.mem_cons.1 h1 with rfl | h1
    · exact Or.inr (Or.inl rfl)
    · exact Or.inl h1
  · cases h1
  · exact Or.inr (Or.inr h1)

/-- the expanded vertex is done once all its neighbours are marked -/
theorem CInv.expanded {c : Id} (h : CInv s layer ep (some c) cs rs vis)
    (hexp : ∀ w ∈ nbrsAt s layer c, vis.contains w = true) :
    CInv s layer ep none cs rs vis := by
  refine ⟨h.ep_vis, h.vis_rs, fun v hv hvv => ?_⟩
  rcases h.pending v hv hvv with h1 | h1 | h1
  · exact Or.inl h1
  · cases h1; exact Or.inr (Or.inr hexp)
  · exact Or.inr (Or.inr h1)

theorem searchLoop_spec {fuel : Nat} {res : List (Hit S)}
    (hinv : SInv m s q layer ep cs rs vis) (hc : ef ≤ rs.length ∨ CInv s layer ep none cs rs vis)
    (h : searchLoop m s q ef layer fuel cs rs vis = .ok res) :
    (∀ r ∈ res, RL s layer ep r.id ∧ isDeleted s r.id = false ∧ Good m s q r) ∧
    (res.map (·.id)).Nodup ∧
    (ef ≤ res.length ∨ ∀ v, RL s layer ep v → isDeleted s v = false → v ∈ res.map (·.id)) := by
  -- both invariants go round the loop; the popped candidate `c` is "being expanded" during
  -- its scan, and done after it, all its neighbours being marked then
  obtain ⟨cs', vis', ⟨hinv', hc'⟩, hexit⟩ := searchLoop_induct
    (P := fun cs rs vis => SInv m s q layer ep cs rs vis ∧ (ef ≤ rs.length ∨ CInv s layer ep none cs rs vis))
    (hpop := by
      rintro c cs rs vis n ⟨hi, hc⟩ hn he
      have hnone : ∀ w ∈ nbrsAt s layer c.id, vis.contains w = true := by simp [nbrsAt, hn, he]
      exact ⟨hi.pop, hc.imp_right (·.expanding.expanded hnone)⟩)
    (hscan := by
      rintro c cs rs vis n nbs cs' rs' vis' ⟨hi, hc⟩ hn he hsc
      have hmarks : ∀ w ∈ nbrsAt s layer c.id, vis'.contains w = true := fun w hw => by
        simp only [nbrsAt, hn, he, Option.getD_some] at hw
        exact scanNbrs_marks nbs hsc w hw
      exact ⟨scanNbrs_sound nbs (nbrs_reach (hi.cs_ok c (by simp)) hn he) hsc hi.pop,
        (scanNbrs_complete c.id nbs hsc (hc.imp_right CInv.expanding)).imp_right (·.expanded hmarks)⟩)
    h ⟨hinv, hc⟩
  refine ⟨fun r hr => let ⟨a, b, _, d⟩ := hinv'.rs_ok r hr; ⟨a, b, d⟩, hinv'.rs_nodup, ?_⟩
  rcases hexit with rfl | hfull
  · -- the candidate heap is empty: every reachable vertex is marked, by induction along the path
    refine hc'.imp_right fun hc' v hv hvd => hc'.vis_rs v hv hvd ?_
    clear hvd
    induction hv with
    | refl => exact hc'.ep_vis
    | step hu hw ih =>
      rcases hc'.pending _ hu ih with hcand | hexp | hdone
      · simp at hcand
      · cases hexp
      · exact hdone _ hw
  · exact Or.inl hfull

/-- **searchLayer**: sound hits, no vertex twice, and at least `max ef 1` hits or EVERY
    non-deleted vertex reachable from the start (Properties/C12: `searchLayer_spec_*`). -/
theorem searchLayer_spec (res : List (Hit S)) (h : searchLayer m s q ep ef layer = .ok res) :
    (∀ r ∈ res, RL s layer ep r.id ∧ isDeleted s r.id = false ∧ Good m s q r) ∧
    (res.map (·.id)).Nodup ∧
    (Nat.max ef 1 ≤ res.length ∨
      ∀ v, RL s layer ep v → isDeleted s v = false → v ∈ res.map (·.id)) := by
  simp only [searchLayer] at h
  split at h
  · cases h
  · next n hn =>
    split at h
    · cases h
    · next rs hloop =>
      simp only [Except.ok.injEq] at h; subst h
      have hn' := node!_eq hn
      have hg : Good m s q (⟨ep, m.dist q n.vec⟩ : Hit S) := ⟨n, hn', rfl⟩
      have hself := IdMap.contains_set_self (IdMap.empty : IdMap Unit) ep ()
      have honly : ∀ v, ((IdMap.empty : IdMap Unit).set ep ()).contains v = true → v = ep := by
        intro v hv
        simpa [IdMap.contains_set, eq_comm] using hv
      have hinv : SInv m s q layer ep [⟨ep, m.dist q n.vec⟩]
          (if isDeleted s ep then [] else [⟨ep, m.dist q n.vec⟩]) ((IdMap.empty : IdMap Unit).set ep ()) := by
        refine ⟨fun c hc => by rcases List.mem_singleton.1 hc with rfl; exact Reach.refl,
          fun r hr => ?_, by split <;> simp⟩
        split at hr
        · cases hr
        · next hdel =>
          rcases List.mem_singleton.1 hr with rfl
          exact ⟨Reach.refl, by simpa using hdel, hself, hg⟩
      have hc : CInv s layer ep none [⟨ep, m.dist q n.vec⟩]
          (if isDeleted s ep then [] else [⟨ep, m.dist q n.vec⟩]) ((IdMap.empty : IdMap Unit).set ep ()) := by
        refine ⟨hself, fun v _ hvd hv => ?_, fun v _ hv => by simp [honly v hv]⟩
        rw [honly v hv] at hvd ⊢
        simp [hvd]
      obtain ⟨h1, h2, h3⟩ := searchLoop_spec hinv (Or.inr hc) hloop
      rw [List.map_reverse, List.length_reverse]
      exact ⟨fun r hr => h1 r (List.mem_reverse.1 hr), List.nodup_reverse.2 h2,
        h3.imp_right fun hall v hv hvd => List.mem_reverse.2 (hall v hv hvd)⟩

theorem searchLayer_sound (res : List (Hit S))
    (h : searchLayer m s q ep ef layer = .ok res) :
    (∀ r ∈ res, RL s layer ep r.id ∧ isDeleted s r.id = false ∧ Good m s q r) ∧
    (res.map (·.id)).Nodup :=
  ⟨(searchLayer_spec res h).1, (searchLayer_spec res h).2.1⟩

/-- **searchLayer, completeness** (`U`: any list that covers the non-deleted vertices
    reachable from the start): the early exit, the admission test and the eviction never
    lose one. -/
theorem searchLayer_complete (U : List Id)
    (hU : ∀ v, RL s layer ep v → isDeleted s v = false → v ∈ U) (hlen : U.length ≤ ef)
    (res : List (Hit S)) (h : searchLayer m s q ep ef layer = .ok res) :
    ∀ v, RL s layer ep v → isDeleted s v = false → v ∈ res.map (·.id) := by
  obtain ⟨hs1, hs2, hfull | hall⟩ := searchLayer_spec res h
  · -- `ef` distinct hits out of `U`: the answer is a permutation of `U`
    have hsub : (res.map (·.id)).Subperm U :=
      List.subperm_of_subset hs2 (fun v hv => by
        obtain ⟨r, hr, rfl⟩ := List.mem_map.1 hv
        exact hU _ (hs1 r hr).1 (hs1 r hr).2.1)
    have hge : Nat.max ef 1 ≥ ef := Nat.le_max_left _ _
    have hperm := hsub.perm_of_length_le (by simp; omega)
    exact fun v hv hvd => hperm.mem_iff.2 (hU v hv hvd)
  · exact hall

/-- **searchLayer, non-emptiness**, for every `ef` (it is clamped to ≥ 1). -/
theorem searchLayer_ne (res : List (Hit S)) (h : searchLayer m s q ep ef layer = .ok res)
    (v : Id) (hv : RL s layer ep v) (hvd : isDeleted s v = false) : res ≠ [] := by
  rintro rfl
  rcases (searchLayer_spec [] h).2.2 with hfull | hall
  · have : 1 ≤ Nat.max ef 1 := Nat.le_max_right _ _
    simp only [List.length_nil] at hfull; omega
  · cases hall v hv hvd

end Loop
end Comet.HNSW
