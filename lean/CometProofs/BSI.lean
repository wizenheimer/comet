/-
  Lemmas about Comet.BSI: bits versus numbers, `compareOne_same_sign` (the loop of
  CometProofs/BSILoop.lean is signed comparison when the signs agree), and the
  representation invariant `Rep` (a BSI stores a finite map `id ⇀ int64`).
-/
import CometProofs.BSILoop
namespace Comet
namespace BSI

def ord3 (a b : Nat) : Ordering := if a < b then .lt else if a = b then .eq else .gt

theorem ord3_congr {a b c d : Nat} (h1 : a < b ↔ c < d) (h2 : a = b ↔ c = d) : ord3 a b = ord3 c d := by
  simp only [ord3, h1, h2]

theorem ord3_add_bit {A B P : Nat} (hA : A < P) (hB : B < P) (x v : Bool) :
    ord3 (A + P * x.toNat) (B + P * v.toNat) = ext x v (ord3 A B) := by
  cases x <;> cases v
  · exact ord3_congr (by simp) (by simp)
  · exact (if_pos (by simp; omega)).trans rfl
  · exact (if_neg (by simp; omega)).trans ((if_neg (by simp; omega)).trans rfl)
  · exact ord3_congr (by simp) (by simp)

theorem cmpBits_eq_ord3 (a b : Nat) (j : Nat) :
    cmpBits a.testBit b.testBit j = ord3 (a % 2 ^ j) (b % 2 ^ j) := by
  induction j with
  | zero => simp [cmpBits, ord3, Nat.mod_one]
  | succ j ih =>
    have hA : a % 2 ^ j < 2 ^ j := Nat.mod_lt _ (Nat.two_pow_pos j)
    have hB : b % 2 ^ j < 2 ^ j := Nat.mod_lt _ (Nat.two_pow_pos j)
    rw [cmpBits, ih, Nat.mod_pow_succ, Nat.mod_pow_succ, ← ord3_add_bit hA hB,
      Nat.toNat_testBit, Nat.toNat_testBit]

theorem toInt_eq_low (x : I64) :
    x.toInt = (x.toNat % 2 ^ 63 : Nat) - if x.msb then 2 ^ 63 else 0 := by
  have := x.isLt
  rw [BitVec.toInt_eq_msb_cond, BitVec.msb_eq_decide]
  by_cases h : 2 ^ 63 ≤ x.toNat <;> simp [h] <;> omega

theorem toInt_lt_iff_low {x s : I64} (h : x.msb = s.msb) :
    x.toInt < s.toInt ↔ x.toNat % 2 ^ 63 < s.toNat % 2 ^ 63 := by
  rw [toInt_eq_low x, toInt_eq_low s, h]; omega

theorem eq_iff_low {x s : I64} (h : x.msb = s.msb) :
    x = s ↔ x.toNat % 2 ^ 63 = s.toNat % 2 ^ 63 := by
  rw [← BitVec.toInt_inj, toInt_eq_low x, toInt_eq_low s, h]; omega

theorem getLsbD_fun (x : I64) : x.getLsbD = x.toNat.testBit := by
  funext i; exact (BitVec.testBit_toNat x).symm

def ordI (x s : I64) : Ordering := if x.toInt < s.toInt then .lt else if x = s then .eq else .gt

theorem cmpBits63 {x s : I64} (h : x.msb = s.msb) : cmpBits x.getLsbD s.getLsbD 63 = ordI x s := by
  rw [getLsbD_fun, getLsbD_fun, cmpBits_eq_ord3, ord3, ordI]
  simp only [toInt_lt_iff_low h, eq_iff_low h]

theorem msb_eq_getLsbD63 (x : I64) : x.getLsbD 63 = x.msb := by
  simp [BitVec.msb_eq_getLsbD_last]

/-- the tests `sem` applies to a comparison, as signed comparisons -/
theorem ordI_spec (x s : I64) :
    (ordI x s == .lt) = decide (x.toInt < s.toInt) ∧ (ordI x s != .gt) = decide (x.toInt ≤ s.toInt) ∧
    (ordI x s == .eq) = decide (x = s) ∧ (ordI x s != .lt) = decide (x.toInt ≥ s.toInt) ∧
    (ordI x s == .gt) = decide (x.toInt > s.toInt) := by
  unfold ordI
  by_cases h1 : x.toInt < s.toInt
  · have hne : x ≠ s := fun h => by rw [h] at h1; omega
    simp [h1, hne, Int.le_of_lt h1, Int.not_le.mpr h1, Int.lt_asymm h1]
  · by_cases h2 : x = s
    · simp [h2]
    · have h3 : s.toInt < x.toInt := by
        have : x.toInt ≠ s.toInt := fun h => h2 (BitVec.toInt_inj.mp h)
        omega
      simp [h1, h2, h3, Int.le_of_lt h3, Int.not_le.mpr h3]

/-- **`compareValue` is right when the signs agree** (per column): the transcribed loop
    equals ordinary signed comparison when the stored value `x` and the operand(s) have
    the same sign bit. -/
theorem compareOne_same_sign (op : Op) (x s e : I64) (hs : x.msb = s.msb)
    (he : op = .range → x.msb = e.msb) :
    compareOne 64 x.getLsbD op s e = signedCmp op x s e := by
  -- at width 64 the sign tests read bit 63; the start operand has the sign of `x`, so it is not negated
  have key : compareOne 64 x.getLsbD op s e = verdict op x.msb x.msb
      (loop op x.msb e.msb x.msb s (if x.msb != e.msb then ~~~e + 1 else e) x.getLsbD 63 {}) := by
    simp only [compareOne, beq_self_eq_true, Bool.true_and, if_true, Nat.reduceSub,
      msb_eq_getLsbD63, ← hs, bne_self_eq_false, Bool.false_eq_true, if_false]
  rw [key]
  -- the loop compares the low 63 bits (`loop_sem`); with equal signs that is the signed order (`cmpBits63`)
  obtain ⟨hlt, hle, heq, hge, hgt⟩ := ordI_spec x s
  by_cases hop : op = .range
  · subst hop
    rw [← he rfl, bne_self_eq_false, if_neg Bool.false_ne_true,
      loop_sem .range x.msb x.msb s e x.getLsbD (fun _ => rfl) 63 {} (by decide),
      cmpBits63 hs, cmpBits63 (he rfl)]
    simp only [sem, signedCmp, if_true, hge, (ordI_spec x e).2.1, ge_iff_le]
  · generalize (if (x.msb != e.msb) = true then ~~~e + 1 else e) = ce
    rw [loop_sem op x.msb e.msb s ce x.getLsbD (fun h => absurd h hop) 63 {} (by simp [wf, hop]),
      cmpBits63 hs]
    cases op
    case range => exact absurd rfl hop
    all_goals simp only [sem, signedCmp, if_true, Bool.true_and, hlt, hle, heq, hge, hgt]

/-- `b` stores exactly the map `m` (64 slices, existence bitmap = domain, slice `j` =
    the ids whose value has bit `j`) -/
structure Rep (b : T) (m : Nat → Option I64) : Prop where
  len : b.bA.length = 64
  ebm : ∀ d, d ∈ b.eBM ↔ (m d).isSome = true
  bits : ∀ j, j < 64 → ∀ d, b.bit j d = true ↔ ∃ v, m d = some v ∧ v.getLsbD j = true

theorem Rep.congr {b : T} {m m' : Nat → Option I64} (h : Rep b m) (e : ∀ d, m d = m' d) : Rep b m' :=
  funext e ▸ h

theorem new_bA : BSI.new.bA = List.replicate 64 [] := by decide

theorem bit_of_getElem {b : T} {j : Nat} {s : RB} (h : b.bA[j]? = some s) (d : Nat) :
    b.bit j d = s.contains d := by
  simp [T.bit, h]

theorem rep_new : Rep BSI.new (fun _ => none) := by
  refine ⟨by rw [new_bA]; simp, by simp [BSI.new, newBSI], ?_⟩
  intro j hj d
  have : BSI.new.bA[j]? = some [] := by
    rw [new_bA, List.getElem?_replicate]; simp [hj]
  simp [bit_of_getElem this]

theorem rep_slice {b : T} {m : Nat → Option I64} (h : Rep b m) {j : Nat} (hj : j < 64) :
    ∃ s, b.bA[j]? = some s ∧ ∀ d, d ∈ s ↔ ∃ v, m d = some v ∧ v.getLsbD j = true := by
  have hlt : j < b.bA.length := by rw [h.len]; exact hj
  refine ⟨b.bA[j], List.getElem?_eq_getElem hlt, ?_⟩
  intro d
  rw [← h.bits j hj d, bit_of_getElem (List.getElem?_eq_getElem hlt), RB.contains_eq_true]

theorem rep_setValue {b : T} {m : Nat → Option I64} (h : Rep b m) (c : Nat) (v : I64) :
    Rep (setValue b c v) (fun d => if d = c then some v else m d) := by
  refine ⟨by simp [setValue, h.len], ?_, ?_⟩
  · intro d
    simp only [setValue, RB.mem_add, h.ebm]
    by_cases hd : d = c <;> simp [hd]
  · intro j hj d
    obtain ⟨s, hs, hbit⟩ := rep_slice h hj
    have hnew : (setValue b c v).bA[j]? =
        some (if v.getLsbD j then RB.add s c else if b.eBM.contains c then RB.remove s c else s) := by
      simp only [setValue, List.getElem?_mapIdx, hs, Option.map_some]
    rw [bit_of_getElem hnew, RB.contains_eq_true]
    by_cases hd : d = c
    · subst hd
      -- a column that is not in the existence bitmap is in no slice
      have hs : ¬ b.eBM.contains d = true → d ∉ s := fun hex hds => by
        obtain ⟨w, hw, _⟩ := (hbit d).mp hds
        exact hex (RB.contains_eq_true.mpr ((h.ebm d).mpr (by rw [hw]; rfl)))
      split
      next hv => simp [RB.mem_add, hv]
      next hv =>
        split
        next => simp [RB.mem_remove, hv]
        next hex => simp [hs hex, hv]
    · simp only [hd, if_false, ← hbit d]
      split
      · simp [RB.mem_add, hd]
      · split
        · simp [RB.mem_remove, hd]
        · rfl

theorem clearBits_single (c : Nat) (t : RB) : clearBits [c] t = RB.remove t c := rfl

theorem rep_clearValues {b : T} {m : Nat → Option I64} (h : Rep b m) (c : Nat) :
    Rep (clearValues b [c]) (fun d => if d = c then none else m d) := by
  refine ⟨by simp [clearValues, h.len], ?_, ?_⟩
  · intro d
    simp only [clearValues, clearBits_single, RB.mem_remove, h.ebm]
    by_cases hd : d = c <;> simp [hd]
  · intro j hj d
    obtain ⟨s, hs, hbit⟩ := rep_slice h hj
    have hnew : (clearValues b [c]).bA[j]? = some (RB.remove s c) := by
      simp [clearValues, hs, clearBits_single]
    rw [bit_of_getElem hnew, RB.contains_eq_true, RB.mem_remove, hbit d]
    by_cases hd : d = c <;> simp [hd]

theorem mem_compareValue {b : T} {m : Nat → Option I64} (h : Rep b m) (op : Op) (s e : I64) (d : Nat) :
    d ∈ compareValue b op s e ↔ ∃ v, m d = some v ∧ compareOne 64 v.getLsbD op s e = true := by
  simp only [compareValue, List.mem_filter, h.ebm, T.bitCount, h.len, Option.isSome_iff_exists,
    ← exists_and_right]
  refine exists_congr fun v => and_congr_right fun hv => ?_
  -- the slices of column `d` are the bits of its value
  rw [compareOne_congr _ v.getLsbD op s e fun i hi =>
    Bool.eq_iff_iff.mpr (by rw [h.bits i hi d, hv]; simp)]

theorem mem_compareValue_same_sign {b : T} {m : Nat → Option I64} (h : Rep b m) (op : Op) (s e : I64)
    (hms : ∀ d v, m d = some v → v.msb = s.msb ∧ (op = .range → v.msb = e.msb)) (d : Nat) :
    d ∈ compareValue b op s e ↔ ∃ v, m d = some v ∧ signedCmp op v s e = true := by
  rw [mem_compareValue h]
  refine exists_congr fun v => and_congr_right fun hv => ?_
  rw [compareOne_same_sign op v s e (hms d v hv).1 (hms d v hv).2]

end BSI
end Comet
