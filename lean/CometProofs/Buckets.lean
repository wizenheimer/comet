/-
  A list split into `n` buckets by a key: the inverted lists of the IVF and IVFPQ models.
-/
namespace Comet.IVF

theorem buckets_perm (g : α → Nat) (l : List α) (P : List Nat) (hnd : P.Nodup) :
    (P.flatMap fun i => l.filter fun e => g e == i).Perm (l.filter fun e => P.contains (g e)) := by
  induction P with
  | nil => simp
  | cons i is ih =>
    obtain ⟨hi, hnd⟩ := List.nodup_cons.1 hnd
    -- the elements with key in `i :: is`: those with key `i`, then the others
    have := List.filter_append_perm (fun e => g e == i) (l.filter fun e => (i :: is).contains (g e))
    rw [List.filter_filter, List.filter_filter] at this
    refine ((ih hnd).append_left _).trans ((List.Perm.of_eq ?_).trans this)
    congr 1 <;> refine List.filter_congr fun e _ => ?_
    · by_cases h : g e = i <;> simp [h]
    · by_cases h : g e = i
      · simp [h, hi]
      · simp [h]

def bucketsOf (g : α → Nat) (n : Nat) (l : List α) : List (List α) :=
  (List.range n).map fun i => l.filter fun e => g e == i

theorem bucketsOf_length (g : α → Nat) (n : Nat) (l : List α) : (bucketsOf g n l).length = n := by
  simp [bucketsOf]

theorem bucketsOf_getElem? (g : α → Nat) (n : Nat) (l : List α) (i : Nat) (hi : i < n) :
    (bucketsOf g n l)[i]? = some (l.filter fun e => g e == i) := by
  simp [bucketsOf, List.getElem?_map, List.getElem?_range hi]

theorem bucketsOf_nil (g : α → Nat) (n : Nat) : bucketsOf g n [] = List.replicate n [] := by
  simp only [bucketsOf, List.filter_nil, List.map_const', List.length_range]

theorem bucketsOf_append_single (g : α → Nat) (n : Nat) (l : List α) (e : α) :
    bucketsOf g n (l ++ [e]) = (bucketsOf g n l).modify (g e) (· ++ [e]) := by
  refine List.ext_getElem? fun i => ?_
  rw [List.getElem?_modify]
  rcases Nat.lt_or_ge i n with hi | hi
  · rw [bucketsOf_getElem? g n _ i hi, bucketsOf_getElem? g n _ i hi, List.filter_append]
    by_cases h : g e = i <;> simp [h]
  · rw [List.getElem?_eq_none (by rwa [bucketsOf_length]),
      List.getElem?_eq_none (by rwa [bucketsOf_length])]
    rfl

theorem map_filter_bucketsOf (g : α → Nat) (n : Nat) (l : List α) (p : α → Bool) :
    (bucketsOf g n l).map (fun b => b.filter p) = bucketsOf g n (l.filter p) := by
  simp only [bucketsOf, List.map_map]
  refine List.map_congr_left fun i _ => ?_
  simp only [Function.comp, List.filter_filter]
  exact List.filter_congr fun e _ => Bool.and_comm _ _

theorem flatten_bucketsOf_perm (g : α → Nat) (n : Nat) (l : List α) (h : ∀ e ∈ l, g e < n) :
    (bucketsOf g n l).flatten.Perm l := by
  have := buckets_perm g l (List.range n) List.nodup_range
  rwa [List.filter_eq_self.2 fun e he => by simpa using h e he, List.flatMap] at this

end Comet.IVF
