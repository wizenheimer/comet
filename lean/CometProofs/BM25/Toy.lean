/-
  A toy instance of `Scoring` over ℕ (exact, order-preserving) used by the non-vacuity
  examples of C03.  `realized*`: the auto-generated congruence lemmas that `simp` asks for
  in Properties/C03 are generated on first use; naming them here puts them in this module.
-/
import Comet.BM25
namespace Comet.BM25

/-- enough to see every statistic matter -/
def toy : Scoring Nat Nat where
  zero := 0
  add := (· + ·)
  score N df tf len avg :=
    (N.toNat + 1 - df) * 1000 * tf /
      (tf + len + (match avg with | .zero => 0 | .quot t n => (t / n).toNat))
  le a b := decide (a ≤ b)
  toS := id

def leN : Nat → Nat → Bool := fun a b => decide (a ≤ b)

theorem toy_ordered : toy.Ordered leN where
  total a b := by
    show (decide (a ≤ b) || decide (b ≤ a)) = true
    rw [Bool.or_eq_true, decide_eq_true_eq, decide_eq_true_eq]
    exact Nat.le_total a b
  trans a b c h1 h2 := decide_eq_true (Nat.le_trans (of_decide_eq_true h1) (of_decide_eq_true h2))
  mono a b h := h

def realized0 := @Spec.df.congr_simp
def realized1 := @scoreMap.congr_simp
def realized2 := @searchSingle.congr_simp
def realized3 := @specCands.congr_simp
def realized4 := @specHits.congr_simp

end Comet.BM25
