/-
  C03 helpers — facts about the specification `spec h` alone: an earlier add of an id
  that is added again later leaves no trace; a removed id is not live until it is added
  again.  And one about the model: the invariant `Inv` pins the state down up to the
  order of Go's maps.
-/
import CometProofs.BM25.Inv
namespace Comet.BM25
set_option linter.unusedSectionVars false

variable {Tok : Type} [DecidableEq Tok]

def mentions (id : Id) : Op Tok → Bool
  | .add j _ => j == id
  | .remove j => j == id
  | .flush => false

theorem spec_append (h₁ h₂ : List (Op Tok)) : spec (h₁ ++ h₂) = h₂.foldl specStep (spec h₁) :=
  List.foldl_append

/-! ### "the same except possibly at `id`" -/

def SameBut (id : Id) (c₁ c₂ : Spec Tok) : Prop :=
  aerase c₁.corpus id = aerase c₂.corpus id ∧ bmRemove c₁.tomb id = bmRemove c₂.tomb id

theorem filter_comm {α : Type} (p q : α → Bool) (l : List α) :
    (l.filter p).filter q = (l.filter q).filter p := by
  rw [List.filter_filter, List.filter_filter]
  exact List.filter_congr fun _ _ => Bool.and_comm _ _

theorem aerase_comm {β : Type} (l : List (Id × β)) (a b : Id) :
    aerase (aerase l a) b = aerase (aerase l b) a := filter_comm _ _ l

theorem bmRemove_comm (l : List Id) (a b : Id) :
    bmRemove (bmRemove l a) b = bmRemove (bmRemove l b) a := filter_comm _ _ l

theorem aerase_append {β : Type} (l₁ l₂ : List (Id × β)) (a : Id) :
    aerase (l₁ ++ l₂) a = aerase l₁ a ++ aerase l₂ a :=
  List.filter_append ..

/-- deleting `id` after a flush = flushing after deleting `id` from corpus and tombstones -/
theorem aerase_filter_tomb {β : Type} (l : List (Id × β)) (T : List Id) (id : Id) :
    aerase (l.filter fun p => decide (p.1 ∉ T)) id =
      (aerase l id).filter fun p => decide (p.1 ∉ bmRemove T id) := by
  rw [aerase, aerase, filter_comm]
  refine List.filter_congr fun p hp => ?_
  have hne : p.1 ≠ id := of_decide_eq_true (List.mem_filter.1 hp).2
  exact decide_eq_decide.2 (not_congr ((mem_bmRemove T id p.1).trans (and_iff_left hne)).symm)

theorem sameBut_add_self (c : Spec Tok) (id : Id) (toks : List Tok) :
    SameBut id (specStep c (.add id toks)) c := by
  constructor
  · simp only [specStep, aerase_append]
    have : aerase [(id, toks)] id = [] := by simp [aerase]
    rw [this, List.append_nil]
    exact aerase_of_not_mem _ (not_mem_akeys_aerase _ _)
  · simp only [specStep]; exact bmRemove_idem _ _

theorem mem_tomb_iff_of_sameBut {id : Id} {c₁ c₂ : Spec Tok} (h : SameBut id c₁ c₂) {j : Id}
    (hj : j ≠ id) : j ∈ c₁.tomb ↔ j ∈ c₂.tomb := by
  have h1 := mem_bmRemove c₁.tomb id j
  rw [h.2, mem_bmRemove, and_iff_left hj, and_iff_left hj] at h1
  exact h1.symm

theorem sameBut_step {id : Id} {c₁ c₂ : Spec Tok} (h : SameBut id c₁ c₂) (op : Op Tok)
    (hop : mentions id op = false) : SameBut id (specStep c₁ op) (specStep c₂ op) := by
  cases op with
  | add j toks =>
    constructor
    · simp only [specStep, aerase_append]
      rw [aerase_comm c₁.corpus j id, aerase_comm c₂.corpus j id, h.1]
    · simp only [specStep]
      rw [bmRemove_comm c₁.tomb j id, bmRemove_comm c₂.tomb j id, h.2]
  | remove j =>
    have hj : j ≠ id := beq_eq_false_iff_ne.1 hop
    have hg : aget c₁.corpus j = aget c₂.corpus j := by
      rw [← aget_aerase_ne c₁.corpus hj, ← aget_aerase_ne c₂.corpus hj, h.1]
    rw [specStep_remove, specStep_remove, hg]
    refine ⟨h.1, ?_⟩
    simp only [mem_tomb_iff_of_sameBut h hj]
    split
    · simp only [bmRemove, List.filter_append]
      exact congrArg (· ++ _) h.2
    · exact h.2
  | flush =>
    refine ⟨?_, rfl⟩
    show aerase (c₁.corpus.filter _) id = aerase (c₂.corpus.filter _) id
    rw [aerase_filter_tomb, aerase_filter_tomb, h.1, h.2]

theorem sameBut_foldl {id : Id} {c₁ c₂ : Spec Tok} (h : SameBut id c₁ c₂) (ops : List (Op Tok))
    (hops : ∀ op ∈ ops, mentions id op = false) :
    SameBut id (ops.foldl specStep c₁) (ops.foldl specStep c₂) :=
  List.foldl_rel (r := SameBut id) h fun op hop _ _ h => sameBut_step h op (hops op hop)

theorem specStep_add_of_sameBut {id : Id} {c₁ c₂ : Spec Tok} (h : SameBut id c₁ c₂) (toks : List Tok) :
    specStep c₁ (.add id toks) = specStep c₂ (.add id toks) := by
  simp only [specStep, h.1, h.2]

/-- an add that is overwritten later (with nothing naming the id in between) does not
    change what the history denotes -/
theorem spec_overwritten_add (h₁ h₂ : List (Op Tok)) (id : Id) (t₁ t₂ : List Tok)
    (hops : ∀ op ∈ h₂, mentions id op = false) :
    spec (h₁ ++ [.add id t₁] ++ h₂ ++ [.add id t₂]) = spec (h₁ ++ h₂ ++ [.add id t₂]) := by
  simp only [spec_append, List.foldl_cons, List.foldl_nil]
  exact specStep_add_of_sameBut (sameBut_foldl (sameBut_add_self _ id t₁) h₂ hops) t₂

/-! ### removed ids are not live -/

def NotLive (c : Spec Tok) (id : Id) : Prop := ∀ toks, (id, toks) ∈ c.corpus → id ∈ c.tomb

theorem notLive_after_remove (c : Spec Tok) (id : Id) : NotLive (specStep c (.remove id)) id := by
  intro toks hm
  rw [specStep_remove] at hm ⊢
  by_cases hc : id ∈ c.tomb
  · split
    · exact List.mem_append_left _ hc
    · exact hc
  · rw [if_pos ⟨(aget_isSome_iff _ _).2 (List.mem_map.2 ⟨(id, toks), hm, rfl⟩), hc⟩]
    exact List.mem_append_right _ (List.mem_singleton_self id)

theorem notLive_step {c : Spec Tok} {id : Id} (h : NotLive c id) (op : Op Tok)
    (hop : ∀ toks, op ≠ .add id toks) : NotLive (specStep c op) id := by
  cases op with
  | add j toks =>
    have hj : id ≠ j := fun e => hop toks (e ▸ rfl)
    intro tk hm
    simp only [specStep, List.mem_append, List.mem_singleton, Prod.mk.injEq] at hm ⊢
    rcases hm with hm | ⟨e, _⟩
    · rw [mem_bmRemove]
      exact ⟨h tk (List.mem_filter.1 hm).1, hj⟩
    · exact absurd e hj
  | remove j =>
    intro tk hm
    rw [specStep_remove] at hm ⊢
    split
    · exact List.mem_append_left _ (h tk hm)
    · exact h tk hm
  | flush =>
    intro tk hm
    simp only [specStep, List.mem_filter, decide_eq_true_eq] at hm
    exact absurd (h tk hm.1) hm.2

theorem notLive_foldl {c : Spec Tok} {id : Id} (h : NotLive c id) (ops : List (Op Tok))
    (hops : ∀ op ∈ ops, ∀ toks, op ≠ .add id toks) : NotLive (ops.foldl specStep c) id :=
  List.foldlRecOn (motive := fun c => NotLive c id) ops _ h
    fun _ h op hop => notLive_step h op (hops op hop)

theorem not_mem_live_of_notLive {c : Spec Tok} {id : Id} (h : NotLive c id) (toks : List Tok) :
    (id, toks) ∉ c.live := by
  intro hm
  simp only [Spec.live, List.mem_filter, decide_eq_true_eq] at hm
  exact hm.2 (h toks hm.1)

/-- equality of two index states up to the (unspecified) order of Go's maps and
    the internal order of bitmaps -/
structure StateEquiv (s s' : State Tok) : Prop where
  docTokens : s.docTokens = s'.docTokens
  docLengths : s.docLengths = s'.docLengths
  postings : ∀ t, (postOf s t).Perm (postOf s' t)
  tf : ∀ t d, tfOf s t d = tfOf s' t d
  numDocs : s.numDocs = s'.numDocs
  totalTokens : s.totalTokens = s'.totalTokens
  avgDocLen : s.avgDocLen = s'.avgDocLen
  deleted : s.deleted = s'.deleted

theorem inv_unique {s s' : State Tok} {c : Spec Tok} (i : Inv s c) (i' : Inv s' c) :
    StateEquiv s s' := by
  have hd : s.docTokens = s'.docTokens := i.corpus.trans i'.corpus.symm
  have hto : ∀ d, toksOf s d = toksOf s' d := by intro d; simp [toksOf, hd]
  refine ⟨hd, ?_, ?_, ?_, ?_, ?_, ?_, ?_⟩
  · rw [i.lens, i'.lens, hd]
  · intro t
    rw [List.perm_ext_iff_of_nodup (i.postNodup t) (i'.postNodup t)]
    intro d
    rw [i.post, i'.post, hto]
  · intro t d; rw [i.tf, i'.tf, hto]
  · rw [i.numDocs, i'.numDocs, hd]
  · rw [i.total, i'.total, hd]
  · rw [i.avg, i'.avg, i.numDocs, i'.numDocs, i.total, i'.total, hd]
  · exact i.tomb.trans i'.tomb.symm

/-- histories that denote the same corpus lead to the same index state, up to map order -/
theorem stateEquiv_of_spec_eq {h h' : List (Op Tok)} (e : spec h = spec h') :
    StateEquiv (run init h) (run init h') :=
  inv_unique (e ▸ inv_run h) (inv_run h')

end Comet.BM25
