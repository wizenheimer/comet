/-
  C03 helpers — the ranking tail of `searchSingleQuery`.

  Both branches (full heap-sort when `k ≤ 0 ∨ k ≥ len(scores)`; size-k min-heap with
  strict `>` replacement otherwise) return an exact top-k in descending order —
  for EVERY order in which the score map is iterated (the statement is about an
  arbitrary list `hits`) and for EVERY lawful priority queue (`Pop` returns some
  minimum; which one among equals is left open).
-/
import Comet.BM25
namespace Comet.BM25
set_option linter.unusedSectionVars false

variable {R : Type}

/-- what `container/heap` is trusted to provide -/
structure LawfulPopMin (le : R → R → Bool) (pm : PopMin R) : Prop where
  nil : pm [] = none
  cons : ∀ h : List (Hit R), h ≠ [] → ∃ m rest, pm h = some (m, rest) ∧ (m :: rest).Perm h ∧
    ∀ x ∈ rest, le m.score x.score = true

structure TotalPreorder (le : R → R → Bool) : Prop where
  total : ∀ a b : R, le a b || le b a
  trans : ∀ a b c : R, le a b → le b c → le a c

theorem TotalPreorder.of_not {le : R → R → Bool} (o : TotalPreorder le) {a b : R}
    (h : ¬ le a b = true) : le b a = true :=
  (Bool.or_eq_true_iff.1 (o.total a b)).resolve_left h

theorem popMin_lawful (le : R → R → Bool) (o : TotalPreorder le) : LawfulPopMin le (popMin le) where
  nil := rfl
  cons := by
    intro h
    induction h with
    | nil => intro hc; exact absurd rfl hc
    | cons a t ih =>
      intro _
      cases t with
      | nil => exact ⟨a, [], rfl, List.Perm.refl _, fun _ hx => nomatch hx⟩
      | cons b t' =>
        obtain ⟨m, rest, hpm, hperm, hmin⟩ := ih (List.cons_ne_nil b t')
        by_cases hle : le a.score m.score = true
        · refine ⟨a, b :: t', by rw [popMin.eq_2, hpm]; simp [hle], List.Perm.refl _, ?_⟩
          intro x hx
          have : x ∈ m :: rest := hperm.symm.subset hx
          rcases List.mem_cons.1 this with rfl | hr
          · exact hle
          · exact o.trans _ _ _ hle (hmin x hr)
        · refine ⟨m, a :: rest, by rw [popMin.eq_2, hpm]; simp [hle], ?_, ?_⟩
          · exact (List.Perm.swap a m rest).trans (List.Perm.cons a hperm)
          · intro x hx
            rcases List.mem_cons.1 hx with rfl | hr
            · exact o.of_not hle
            · exact hmin x hr

theorem drain_spec (le : R → R → Bool) (pm : PopMin R) (law : LawfulPopMin le pm) :
    ∀ (n : Nat) (h : List (Hit R)), h.length = n →
      (drain pm n h).Perm h ∧ (drain pm n h).Pairwise fun a b => le a.score b.score = true := by
  intro n
  induction n with
  | zero =>
    intro h hl
    cases List.eq_nil_of_length_eq_zero hl
    exact ⟨List.Perm.refl _, List.Pairwise.nil⟩
  | succ n ih =>
    intro h hl
    obtain ⟨m, rest, hpm, hperm, hmin⟩ :=
      law.cons h (List.ne_nil_of_length_pos (hl ▸ Nat.succ_pos n))
    obtain ⟨ihp, ihs⟩ := ih rest (Nat.succ.inj (hperm.length_eq.trans hl))
    simp only [drain, hpm]
    refine ⟨(List.Perm.cons m ihp).trans hperm, ?_⟩
    rw [List.pairwise_cons]
    exact ⟨fun x hx => hmin x (ihp.subset hx), ihs⟩

/-- descending order on scores -/
abbrev geR (le : R → R → Bool) : R → R → Bool := fun a b => le b a

theorem drain_reverse_sorted (le : R → R → Bool) (pm : PopMin R) (law : LawfulPopMin le pm)
    (h : List (Hit R)) :
    ((drain pm h.length h).reverse).Perm h ∧
    ((drain pm h.length h).reverse).Pairwise fun a b => geR le a.score b.score = true := by
  obtain ⟨hp, hs⟩ := drain_spec le pm law h.length h rfl
  exact ⟨(List.reverse_perm _).trans hp, List.pairwise_reverse.2 hs⟩

/-- Invariant of the top-k loop after the prefix `P` of the iteration order: the heap and
    what has been dropped make up `P`, no dropped hit beats one in the heap, and nothing
    is dropped before the heap is full. -/
structure HeapInv (le : R → R → Bool) (k : Nat) (P h : List (Hit R)) : Prop where
  ex : ∃ dropped, (h ++ dropped).Perm P ∧
        (∀ a ∈ h, ∀ b ∈ dropped, le b.score a.score = true) ∧ (h.length < k → dropped = [])
  len : h.length ≤ k

theorem heapStep_inv (le : R → R → Bool) (o : TotalPreorder le) (pm : PopMin R)
    (law : LawfulPopMin le pm) (k : Nat) (hk : 0 < k) (P h : List (Hit R)) (x : Hit R)
    (inv : HeapInv le k P h) : HeapInv le k (P ++ [x]) (heapStep le pm k h x) := by
  obtain ⟨⟨dropped, hperm, hord, hd⟩, hlen⟩ := inv
  have snoc : ∀ {l : List (Hit R)}, l.Perm (x :: P) → l.Perm (P ++ [x]) :=
    fun p => p.trans (List.perm_append_singleton x P).symm
  unfold heapStep
  by_cases hlt : h.length < k
  · -- heap not yet full: push
    have := hd hlt
    subst this
    rw [if_pos hlt]
    exact ⟨⟨[], snoc (hperm.cons x), fun _ _ _ hb => absurd hb List.not_mem_nil, fun _ => rfl⟩, hlt⟩
  · have hfull : h.length = k := Nat.le_antisymm hlen (Nat.le_of_not_lt hlt)
    obtain ⟨m, rest, hpm, hmperm, hmin⟩ := law.cons h (List.ne_nil_of_length_pos (hfull ▸ hk))
    have hxl : (x :: rest).length = k := hmperm.length_eq.trans hfull
    simp only [hlt, if_false, hpm]
    by_cases hgt : le x.score m.score = true
    · -- not better than the minimum: dropped
      simp only [hgt, Bool.not_true, Bool.false_eq_true, if_false]
      refine ⟨⟨x :: dropped, snoc (List.perm_middle.trans (hperm.cons x)), ?_,
        fun hc => absurd hc hlt⟩, hlen⟩
      intro a ha b hb
      rcases List.mem_cons.1 hb with rfl | hb
      · rcases List.mem_cons.1 (hmperm.symm.subset ha) with rfl | hr
        · exact hgt
        · exact o.trans _ _ _ hgt (hmin a hr)
      · exact hord a ha b hb
    · -- strictly better: replaces the minimum
      simp only [hgt, Bool.not_false, if_true]
      refine ⟨⟨m :: dropped,
        snoc ((List.perm_middle.trans ((hmperm.append_right dropped).trans hperm)).cons x), ?_,
        fun hc => absurd (hxl ▸ hc) (Nat.lt_irrefl k)⟩, Nat.le_of_eq hxl⟩
      have hmx : le m.score x.score = true := o.of_not hgt
      have sub : ∀ a ∈ rest, a ∈ h := fun a ha => hmperm.subset (List.mem_cons_of_mem _ ha)
      intro a ha b hb
      rcases List.mem_cons.1 ha with rfl | ha <;> rcases List.mem_cons.1 hb with rfl | hb
      · exact hmx
      · exact o.trans _ _ _ (hord m (hmperm.subset List.mem_cons_self) b hb) hmx
      · exact hmin a ha
      · exact hord a (sub a ha) b hb

theorem heapLoop_inv (le : R → R → Bool) (o : TotalPreorder le) (pm : PopMin R)
    (law : LawfulPopMin le pm) (k : Nat) (hk : 0 < k) (hits : List (Hit R)) :
    ∀ (P h : List (Hit R)), HeapInv le k P h →
      HeapInv le k (P ++ hits) (hits.foldl (heapStep le pm k) h) := by
  induction hits with
  | nil => intro P h inv; rw [List.append_nil]; exact inv
  | cons x t ih =>
    intro P h inv
    have := ih (P ++ [x]) _ (heapStep_inv le o pm law k hk P h x inv)
    rw [List.append_assoc] at this
    exact this

theorem rankWith_isTopK (le : R → R → Bool) (o : TotalPreorder le) (pm : PopMin R)
    (law : LawfulPopMin le pm) (k : Int) (hits : List (Hit R)) :
    IsTopK (geR le) k hits (rankWith le pm k hits) := by
  unfold rankWith
  by_cases hfull : k ≤ 0 ∨ k ≥ (hits.length : Int)
  · rw [if_pos hfull]
    obtain ⟨hp, hs⟩ := drain_reverse_sorted le pm law hits
    refine ⟨hs, ⟨[], (List.append_nil _).symm ▸ hp, fun _ _ _ hb => absurd hb List.not_mem_nil⟩, ?_⟩
    rw [hp.length_eq]
    unfold sanitizeK
    split
    · rfl
    · omega
  · rw [if_neg hfull]
    have hk0 : 0 < k := Int.not_le.1 (not_or.1 hfull).1
    have hkn : k < (hits.length : Int) := Int.not_le.1 (not_or.1 hfull).2
    obtain ⟨⟨dropped, hperm, hord, hd⟩, hlen⟩ :=
      heapLoop_inv le o pm law k.toNat (Int.lt_toNat.2 hk0) hits [] []
      ⟨⟨[], List.Perm.refl _, fun _ ha => absurd ha List.not_mem_nil, fun _ => rfl⟩, Nat.zero_le _⟩
    obtain ⟨hp, hs⟩ := drain_reverse_sorted le pm law (hits.foldl (heapStep le pm k.toNat) [])
    refine ⟨hs, ⟨dropped, (hp.append_right _).trans hperm, fun a ha b hb => hord a (hp.subset ha) b hb⟩, ?_⟩
    rw [hp.length_eq, sanitizeK_of_pos_le hk0 (Int.le_of_lt hkn)]
    -- a heap that is not full has dropped nothing, so it holds all of `hits`: more than `k`
    apply Nat.le_antisymm hlen
    apply Nat.le_of_not_lt
    intro hc
    have := hperm.length_eq
    rw [hd hc, List.append_nil, List.nil_append] at this
    exact Int.lt_irrefl _ (Int.lt_trans (this ▸ Int.lt_toNat.1 hc) hkn)

theorem isTopK_perm_of_nonpos {S : Type} {le : S → S → Bool} {k : Int} {c res : List (Hit S)}
    (h : IsTopK le k c res) (hk : k ≤ 0) : res.Perm c := by
  obtain ⟨rest, hp, _⟩ := h.split
  have hl := h.len
  rw [sanitizeK_nonpos hk, ← hp.length_eq, List.length_append] at hl
  have : rest = [] := List.eq_nil_of_length_eq_zero (Nat.left_eq_add.1 hl)
  rwa [this, List.append_nil] at hp

/-- a monotone score conversion (`float32(score)`) preserves exact top-k answers -/
theorem isTopK_map {S S' : Type} {le : S → S → Bool} {le' : S' → S' → Bool} (f : S → S')
    (mono : ∀ a b, le a b = true → le' (f a) (f b) = true)
    {k : Int} {c res : List (Hit S)} (h : IsTopK le k c res) :
    IsTopK le' k (c.map fun x => ⟨x.id, f x.score⟩) (res.map fun x => ⟨x.id, f x.score⟩) := by
  obtain ⟨hs, ⟨rest, hp, hle⟩, hl⟩ := h
  refine ⟨?_, ⟨rest.map fun x => ⟨x.id, f x.score⟩, ?_, ?_⟩, ?_⟩
  · rw [List.pairwise_map]
    exact hs.imp (mono _ _)
  · rw [← List.map_append]; exact hp.map _
  · intro a ha b hb
    obtain ⟨a', ha', rfl⟩ := List.mem_map.1 ha
    obtain ⟨b', hb', rfl⟩ := List.mem_map.1 hb
    exact mono _ _ (hle a' ha' b' hb')
  · simp [hl]

end Comet.BM25
