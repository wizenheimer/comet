/-
  C03 helpers — the per-token loops of `Add` and `removeInternal`, read through
  look-ups: what `postings[t]` and `tf[t][d]` are after the loop.
-/
import CometProofs.AList
namespace Comet.BM25

variable {Tok : Type} [DecidableEq Tok]

/-- look-up view of a postings map / tf map (nil bitmap = empty, absent count = 0): the
    loops run on the pair of maps, not on a `State`; by unfolding, `postOf s t` is
    `pOf s.postings t` and `tfOf s t d` is `fOf s.tf t d` -/
def pOf (p : List (Tok × List Id)) (t : Tok) : List Id := (aget p t).getD []
def fOf (f : List (Tok × List (Id × Nat))) (t : Tok) (d : Id) : Nat :=
  (aget ((aget f t).getD []) d).getD 0

theorem bmAdd_idem (l : List Id) (id : Id) : bmAdd (bmAdd l id) id = bmAdd l id := by
  unfold bmAdd
  by_cases h : id ∈ l <;> simp [h]

theorem mem_bmAdd (l : List Id) (id d : Id) : d ∈ bmAdd l id ↔ d ∈ l ∨ d = id := by
  unfold bmAdd
  split
  · next h => exact ⟨Or.inl, fun h' => h'.elim (fun x => x) fun e => e ▸ h⟩
  · rw [List.mem_append, List.mem_singleton]

theorem nodup_bmAdd (l : List Id) (id : Id) (h : l.Nodup) : (bmAdd l id).Nodup := by
  unfold bmAdd
  split
  · exact h
  · next hm => exact nodup_snoc h hm

theorem bmRemove_idem (l : List Id) (id : Id) : bmRemove (bmRemove l id) id = bmRemove l id := by
  simp [bmRemove, List.filter_filter]

theorem mem_bmRemove (l : List Id) (id d : Id) : d ∈ bmRemove l id ↔ d ∈ l ∧ d ≠ id := by
  simp [bmRemove]

theorem nodup_bmRemove (l : List Id) (id : Id) (h : l.Nodup) : (bmRemove l id).Nodup :=
  h.sublist List.filter_sublist

theorem bmRemove_of_not_mem (l : List Id) (id : Id) (h : id ∉ l) : bmRemove l id = l :=
  List.filter_eq_self.2 fun _ ha => decide_eq_true fun e => h (e ▸ ha)

/-- A loop whose body updates the entry under its key by an idempotent `u` and leaves the
    other entries alone has updated exactly the entries under the keys it ran over. -/
theorem foldl_lookup {σ κ υ : Type} [DecidableEq κ] (get : σ → κ → υ) (g : σ → κ → σ)
    (u : υ → υ) (hu : ∀ v, u (u v) = u v)
    (hg : ∀ p k0 k, get (g p k0) k = if k = k0 then u (get p k0) else get p k)
    (ks : List κ) (p : σ) (k : κ) :
    get (ks.foldl g p) k = if k ∈ ks then u (get p k) else get p k := by
  induction ks generalizing p with
  | nil => rfl
  | cons k0 ks ih =>
    rw [List.foldl_cons, ih, hg]
    by_cases h0 : k = k0
    · subst h0
      rw [if_pos rfl, if_pos List.mem_cons_self, hu]
      exact ite_self _
    · rw [if_neg h0]
      simp only [List.mem_cons, h0, false_or]

theorem foldl_pair {α β γ : Type} (g : α → γ → α) (h : β → γ → β) (l : List γ) (a : α) (b : β) :
    l.foldl (fun p t => (g p.1 t, h p.2 t)) (a, b) = (l.foldl g a, l.foldl h b) := by
  induction l generalizing a b with
  | nil => rfl
  | cons t ts ih => exact ih _ _

theorem pOf_addPost (id : Id) (p : List (Tok × List Id)) (t0 t : Tok) :
    pOf (addPost id p t0) t = if t = t0 then bmAdd (pOf p t0) id else pOf p t := by
  unfold pOf addPost
  exact getD_aget_aset p t0 t _ []

theorem pOf_foldl_addPost (id : Id) (toks : List Tok) (p : List (Tok × List Id)) (t : Tok) :
    pOf (toks.foldl (addPost id) p) t = if t ∈ toks then bmAdd (pOf p t) id else pOf p t :=
  foldl_lookup pOf (addPost id) (bmAdd · id) (bmAdd_idem · id) (pOf_addPost id) toks p t

theorem fOf_addTf (id : Id) (f : List (Tok × List (Id × Nat))) (t0 t : Tok) (d : Id) :
    fOf (addTf id f t0) t d = fOf f t d + if d = id then [t0].count t else 0 := by
  unfold fOf addTf
  simp only []
  rw [getD_aget_aset]
  by_cases h : t = t0
  · subst h
    rw [if_pos rfl, getD_aget_aset, List.count_singleton_self]
    split
    · next hd => rw [hd]
    · rfl
  · rw [if_neg h, List.count_eq_zero.2 fun hm => h (List.mem_singleton.1 hm), ite_self]
    rfl

theorem fOf_foldl_addTf (id : Id) (toks : List Tok) (f : List (Tok × List (Id × Nat))) (t : Tok)
    (d : Id) :
    fOf (toks.foldl (addTf id) f) t d = fOf f t d + if d = id then toks.count t else 0 := by
  induction toks generalizing f with
  | nil => exact (Nat.add_zero _).symm.trans (congrArg _ (ite_self 0).symm)
  | cons t0 ts ih =>
    rw [List.foldl_cons, ih, fOf_addTf, Nat.add_assoc]
    congr 1
    split
    · exact (List.count_append (l₁ := [t0])).symm
    · rfl

theorem foldl_addTok (id : Id) (toks : List Tok) (p : List (Tok × List Id))
    (f : List (Tok × List (Id × Nat))) :
    toks.foldl (addTok id) (p, f) = (toks.foldl (addPost id) p, toks.foldl (addTf id) f) :=
  foldl_pair (addPost id) (addTf id) toks p f

theorem pOf_rmPost (id : Id) (p : List (Tok × List Id)) (t0 t : Tok) :
    pOf (rmPost id p t0) t = if t = t0 then bmRemove (pOf p t0) id else pOf p t := by
  unfold rmPost pOf
  cases h0 : aget p t0 with
  | none =>
    simp only []
    by_cases ht : t = t0
    · rw [if_pos ht, ht, h0]; rfl
    · rw [if_neg ht]
  | some l => exact getD_aget_aset_or_aerase p t0 t _ [] List.isEmpty_iff.1

theorem pOf_foldl_rmPost (id : Id) (toks : List Tok) (p : List (Tok × List Id)) (t : Tok) :
    pOf (toks.foldl (rmPost id) p) t = if t ∈ toks then bmRemove (pOf p t) id else pOf p t :=
  foldl_lookup pOf (rmPost id) (bmRemove · id) (bmRemove_idem · id) (pOf_rmPost id) toks p t

theorem fOf_rmTf (id : Id) (f : List (Tok × List (Id × Nat))) (t0 t : Tok) (d : Id) :
    fOf (rmTf id f t0) t d = if t = t0 then (if d = id then 0 else fOf f t0 d) else fOf f t d := by
  unfold rmTf fOf
  cases h0 : aget f t0 with
  | none =>
    simp only []
    by_cases ht : t = t0
    · rw [if_pos ht, ht, h0]; exact (ite_self (c := d = id) 0).symm
    · rw [if_neg ht]
  | some m =>
    simp only []
    rw [getD_aget_aset_or_aerase f t0 t _ [] List.isEmpty_iff.1]
    by_cases ht : t = t0
    · rw [if_pos ht, if_pos ht, getD_aget_aerase]
      rfl
    · rw [if_neg ht, if_neg ht]

theorem fOf_foldl_rmTf (id : Id) (toks : List Tok) (f : List (Tok × List (Id × Nat))) (t : Tok)
    (d : Id) :
    fOf (toks.foldl (rmTf id) f) t d =
      if t ∈ toks then (if d = id then 0 else fOf f t d) else fOf f t d :=
  foldl_lookup (fOf · · d) (rmTf id) (fun v => if d = id then 0 else v)
    (fun v => by split <;> rfl) (fun f t0 t => fOf_rmTf id f t0 t d) toks f t

theorem foldl_rmTok (id : Id) (toks : List Tok) (p : List (Tok × List Id))
    (f : List (Tok × List (Id × Nat))) :
    toks.foldl (rmTok id) (p, f) = (toks.foldl (rmPost id) p, toks.foldl (rmTf id) f) :=
  foldl_pair (rmPost id) (rmTf id) toks p f

end Comet.BM25
