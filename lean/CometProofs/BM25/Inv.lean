/-
  C03 helpers — the invariant of the incremental bookkeeping (`WFc`: every field but
  `deleted` (Go: `deletedDocs`), which `removeInternal` and `addNew` never read; `WF` adds
  `deleted`), its preservation by Add / Remove / Flush, and the refinement of the specification
  (`Inv s c`: `docTokens` IS the specification's corpus, `deleted` its tombstones).
-/
import CometProofs.BM25.Loops
namespace Comet.BM25
set_option linter.unusedSectionVars false

variable {Tok : Type} [DecidableEq Tok]

theorem sumLen_append (l₁ l₂ : List (Id × List Tok)) : sumLen (l₁ ++ l₂) = sumLen l₁ + sumLen l₂ := by
  induction l₁ with
  | nil => exact (Nat.zero_add _).symm
  | cons p t ih => rw [List.cons_append, sumLen, sumLen, ih, Nat.add_assoc]

theorem sumLen_aerase {l : List (Id × List Tok)} {id : Id} {toks : List Tok}
    (hn : (akeys l).Nodup) (h : aget l id = some toks) :
    sumLen l = toks.length + sumLen (aerase l id) := by
  obtain ⟨l₁, l₂, e₁, e₂⟩ := split_of_aget hn h
  rw [e₂, e₁, sumLen_append, sumLen_append, sumLen]
  exact Nat.add_left_comm _ _ _

section Fields
variable (s : State Tok) (id : Id)

theorem removeInternal_none (h : aget s.docTokens id = none) : removeInternal s id = s := by
  simp only [removeInternal, h]

theorem removeInternal_some {toks : List Tok} (h : aget s.docTokens id = some toks) :
    removeInternal s id =
      { docTokens := aerase s.docTokens id, docLengths := aerase s.docLengths id,
        postings := toks.foldl (rmPost id) s.postings, tf := toks.foldl (rmTf id) s.tf,
        numDocs := s.numDocs - 1,
        totalTokens := if s.numDocs - 1 = 0 then 0 else s.totalTokens - lenOf s id,
        avgDocLen := if s.numDocs - 1 = 0 then .zero
                     else .quot (s.totalTokens - lenOf s id) (s.numDocs - 1),
        deleted := s.deleted } := by
  unfold removeInternal updateAvg
  simp only [h, foldl_rmTok]
  by_cases hn : s.numDocs - 1 = 0 <;>
    simp only [hn, ne_eq, not_true_eq_false, not_false_eq_true, if_true, if_false]

theorem ri_deleted : (removeInternal s id).deleted = s.deleted := by
  cases h : aget s.docTokens id with
  | none => rw [removeInternal_none s id h]
  | some toks => rw [removeInternal_some s id h]

theorem ri_docTokens : (removeInternal s id).docTokens = aerase s.docTokens id := by
  cases h : aget s.docTokens id with
  | none => rw [removeInternal_none s id h, aerase_of_not_mem _ ((aget_eq_none_iff _ _).1 h)]
  | some toks => rw [removeInternal_some s id h]

theorem addNew_eq (toks : List Tok) :
    addNew s id toks =
      { docTokens := aset s.docTokens id toks, docLengths := aset s.docLengths id toks.length,
        postings := toks.foldl (addPost id) s.postings, tf := toks.foldl (addTf id) s.tf,
        numDocs := s.numDocs + 1, totalTokens := s.totalTokens + toks.length,
        avgDocLen := if s.numDocs + 1 = 0 then .zero
                     else .quot (s.totalTokens + toks.length) (s.numDocs + 1),
        deleted := s.deleted } := by
  unfold addNew updateAvg
  simp only [foldl_addTok]
  split <;> rfl

end Fields

/-- Internal consistency of the incremental fields (everything but `deleted`). -/
structure WFc (s : State Tok) : Prop where
  keys : (akeys s.docTokens).Nodup
  lens : s.docLengths = s.docTokens.map fun p => (p.1, p.2.length)
  post : ∀ t d, d ∈ postOf s t ↔ t ∈ toksOf s d
  postNodup : ∀ t, (postOf s t).Nodup
  tf : ∀ t d, tfOf s t d = (toksOf s d).count t
  numDocs : s.numDocs = (s.docTokens.length : Int)
  total : s.totalTokens = (sumLen s.docTokens : Int)
  avg : s.avgDocLen = if s.numDocs = 0 then Avg.zero else Avg.quot s.totalTokens s.numDocs

/-- `WFc`, and the tombstones `deleted` are distinct ids of stored documents. -/
structure WF (s : State Tok) : Prop extends WFc s where
  delSub : ∀ d ∈ s.deleted, d ∈ akeys s.docTokens
  delNodup : s.deleted.Nodup

theorem lenOf_eq {s : State Tok} (w : WFc s) (d : Id) : lenOf s d = (toksOf s d).length := by
  unfold lenOf toksOf
  rw [w.lens, aget_map_val s.docTokens (fun _ v => v.length) d]
  cases aget s.docTokens d <;> rfl

theorem toksOf_absent {s : State Tok} {d : Id} (h : d ∉ akeys s.docTokens) : toksOf s d = [] := by
  unfold toksOf; rw [(aget_eq_none_iff _ _).2 h]; rfl

theorem wf_init : WF (init : State Tok) where
  keys := List.nodup_nil
  lens := rfl
  post := fun _ _ => iff_of_false List.not_mem_nil List.not_mem_nil
  postNodup := fun _ => List.nodup_nil
  tf := fun _ _ => rfl
  numDocs := rfl
  total := rfl
  avg := rfl
  delSub := fun _ hd => nomatch hd
  delNodup := List.nodup_nil

theorem WFc.with_deleted {s : State Tok} (w : WFc s) (del : List Id) :
    WFc { s with deleted := del } :=
  ⟨w.keys, w.lens, w.post, w.postNodup, w.tf, w.numDocs, w.total, w.avg⟩

theorem wfc_removeInternal {s : State Tok} (w : WFc s) (id : Id) : WFc (removeInternal s id) := by
  cases h : aget s.docTokens id with
  | none => rw [removeInternal_none s id h]; exact w
  | some toks =>
    have htoks : toksOf s id = toks := congrArg (·.getD []) h
    have hlen := length_aerase w.keys h
    have hpo : ∀ t, pOf (toks.foldl (rmPost id) s.postings) t = bmRemove (postOf s t) id := by
      intro t
      rw [pOf_foldl_rmPost]
      split
      · rfl
      · next ht =>
        -- a token the document does not contain: `id` was not in its bitmap to begin with
        exact (bmRemove_of_not_mem _ _ fun hc => ht (htoks ▸ (w.post t id).1 hc)).symm
    rw [removeInternal_some s id h]
    refine ⟨nodup_akeys_aerase _ _ w.keys, ?_, ?_, ?_, ?_, ?_, ?_, ?_⟩
    · show aerase s.docLengths id = _
      rw [w.lens]
      exact aerase_map_val s.docTokens (fun _ v => v.length) id
    · intro t d
      show d ∈ pOf (toks.foldl (rmPost id) s.postings) t ↔ t ∈ (aget (aerase s.docTokens id) d).getD []
      rw [hpo, getD_aget_aerase, mem_bmRemove, w.post]
      by_cases hd : d = id <;> simp [hd, toksOf]
    · intro t
      show (pOf (toks.foldl (rmPost id) s.postings) t).Nodup
      rw [hpo]
      exact nodup_bmRemove _ _ (w.postNodup t)
    · intro t d
      show fOf (toks.foldl (rmTf id) s.tf) t d = ((aget (aerase s.docTokens id) d).getD []).count t
      rw [fOf_foldl_rmTf, getD_aget_aerase]
      by_cases hd : d = id
      · subst hd
        rw [if_pos rfl, if_pos rfl, List.count_nil]
        split
        · rfl
        · next hn => exact (w.tf t d).trans (htoks ▸ List.count_eq_zero.2 hn)
      · rw [if_neg hd, if_neg hd, ite_self]
        exact w.tf t d
    · show s.numDocs - 1 = ((aerase s.docTokens id).length : Int)
      rw [w.numDocs, ← hlen, Int.natCast_add]
      exact Int.add_sub_cancel _ 1
    · show (if s.numDocs - 1 = 0 then 0 else s.totalTokens - lenOf s id) =
        (sumLen (aerase s.docTokens id) : Int)
      rw [w.numDocs, w.total, lenOf_eq w, htoks, sumLen_aerase w.keys h]
      split
      · have : aerase s.docTokens id = [] := List.eq_nil_of_length_eq_zero (by omega)
        rw [this]; rfl
      · rw [Int.natCast_add, Int.add_comm]; exact Int.add_sub_cancel _ _
    · by_cases hz : s.numDocs - 1 = 0 <;> simp only [hz, if_true, if_false]

theorem wfc_addNew {s1 : State Tok} (w1 : WFc s1) (id : Id) (toks : List Tok)
    (habs : id ∉ akeys s1.docTokens) : WFc (addNew s1 id toks) := by
  have hdt : aset s1.docTokens id toks = s1.docTokens ++ [(id, toks)] := aset_of_not_mem _ _ habs
  have ht1 : (aget s1.docTokens id).getD [] = [] := toksOf_absent habs
  rw [addNew_eq]
  refine ⟨nodup_akeys_aset _ _ _ w1.keys, ?_, ?_, ?_, ?_, ?_, ?_, rfl⟩
  · show aset s1.docLengths id toks.length = _
    rw [w1.lens, hdt, List.map_append]
    exact aset_of_not_mem _ _ (by rw [akeys_map_val s1.docTokens fun _ v => v.length]; exact habs)
  · intro t d
    show d ∈ pOf (toks.foldl (addPost id) s1.postings) t ↔ t ∈ (aget (aset s1.docTokens id toks) d).getD []
    have hp : d ∈ pOf s1.postings t ↔ t ∈ (aget s1.docTokens d).getD [] := w1.post t d
    rw [pOf_foldl_addPost, getD_aget_aset]
    by_cases hd : d = id
    · subst hd
      rw [if_pos rfl]
      split
      · next ht => exact iff_of_true ((mem_bmAdd _ _ _).2 (Or.inr rfl)) ht
      · next ht => exact iff_of_false (fun hc => List.not_mem_nil (ht1 ▸ hp.1 hc)) ht
    · rw [if_neg hd, ← hp]
      split
      · exact (mem_bmAdd _ _ _).trans (or_iff_left hd)
      · exact Iff.rfl
  · intro t
    show (pOf (toks.foldl (addPost id) s1.postings) t).Nodup
    rw [pOf_foldl_addPost]
    split
    · exact nodup_bmAdd _ _ (w1.postNodup t)
    · exact w1.postNodup t
  · intro t d
    show fOf (toks.foldl (addTf id) s1.tf) t d = ((aget (aset s1.docTokens id toks) d).getD []).count t
    have hf : fOf s1.tf t d = ((aget s1.docTokens d).getD []).count t := w1.tf t d
    rw [fOf_foldl_addTf, getD_aget_aset, hf]
    split
    · next hd => rw [hd, ht1]; exact Nat.zero_add _
    · rfl
  · show s1.numDocs + 1 = ((aset s1.docTokens id toks).length : Int)
    rw [hdt, List.length_append, w1.numDocs]; rfl
  · show s1.totalTokens + toks.length = (sumLen (aset s1.docTokens id toks) : Int)
    rw [hdt, sumLen_append, w1.total, Int.natCast_add]; rfl

/-- the state `Add` hands to `addNew` -/
def preAdd (s : State Tok) (id : Id) : State Tok :=
  let s1 := if (aget s.docTokens id).isSome then removeInternal s id else s
  { s1 with deleted := bmRemove s1.deleted id }

theorem add_eq (s : State Tok) (id : Id) (toks : List Tok) :
    add s id toks = addNew (preAdd s id) id toks := rfl

theorem preAdd_docTokens (s : State Tok) (id : Id) :
    (preAdd s id).docTokens = aerase s.docTokens id := by
  unfold preAdd
  simp only []
  split
  · exact ri_docTokens s id
  · next hn => exact (aerase_of_not_mem _ fun hc => hn ((aget_isSome_iff _ _).2 hc)).symm

theorem wfc_add {s : State Tok} (w : WFc s) (id : Id) (toks : List Tok) : WFc (add s id toks) := by
  have w1 : WFc (if (aget s.docTokens id).isSome then removeInternal s id else s) := by
    split
    · exact wfc_removeInternal w id
    · exact w
  refine wfc_addNew (s1 := preAdd s id) (w1.with_deleted _) id toks ?_
  rw [preAdd_docTokens]; exact not_mem_akeys_aerase _ _

theorem add_deleted (s : State Tok) (id : Id) (toks : List Tok) :
    (add s id toks).deleted = bmRemove s.deleted id := by
  rw [add_eq, addNew_eq]
  show bmRemove (if (aget s.docTokens id).isSome then removeInternal s id else s).deleted id = _
  split
  · rw [ri_deleted]
  · rfl

theorem add_docTokens {s : State Tok} (id : Id) (toks : List Tok) :
    (add s id toks).docTokens = aerase s.docTokens id ++ [(id, toks)] := by
  rw [add_eq, addNew_eq, preAdd_docTokens]
  exact aset_of_not_mem _ _ (not_mem_akeys_aerase _ _)

theorem wf_add {s : State Tok} (w : WF s) (id : Id) (toks : List Tok) : WF (add s id toks) where
  toWFc := wfc_add w.toWFc id toks
  delSub := by
    intro d hd
    rw [add_deleted, mem_bmRemove] at hd
    rw [add_docTokens, akeys, List.map_append, ← akeys, akeys_aerase]
    exact List.mem_append_left _ (List.mem_filter.2 ⟨w.delSub d hd.1, decide_eq_true hd.2⟩)
  delNodup := by rw [add_deleted]; exact nodup_bmRemove _ _ w.delNodup

/-- `Remove` only ever sets a bit in `deleted` -/
theorem remove_eq (s : State Tok) (id : Id) :
    remove s id = { s with deleted :=
      if (aget s.docTokens id).isSome ∧ id ∉ s.deleted then s.deleted ++ [id] else s.deleted } := by
  unfold remove
  cases aget s.docTokens id with
  | none => rfl
  | some toks => by_cases h : id ∈ s.deleted <;> simp [h]

theorem wf_remove {s : State Tok} (w : WF s) (id : Id) : WF (remove s id) := by
  rw [remove_eq]
  by_cases hc : (aget s.docTokens id).isSome ∧ id ∉ s.deleted
  · rw [if_pos hc]
    refine ⟨w.toWFc.with_deleted _, ?_, nodup_snoc w.delNodup hc.2⟩
    intro d hd
    rcases List.mem_append.1 hd with hd | hd
    · exact w.delSub d hd
    · rw [List.mem_singleton.1 hd]; exact (aget_isSome_iff _ _).1 hc.1
  · rw [if_neg hc]; exact w

theorem wfc_foldl_removeInternal {s : State Tok} (w : WFc s) (ds : List Id) :
    WFc (ds.foldl removeInternal s) :=
  List.foldlRecOn ds _ w fun _ w d _ => wfc_removeInternal w d

theorem docTokens_foldl_removeInternal (s : State Tok) (ds : List Id) :
    (ds.foldl removeInternal s).docTokens = s.docTokens.filter fun p => decide (p.1 ∉ ds) := by
  induction ds generalizing s with
  | nil => exact (List.filter_eq_self.2 (by simp)).symm
  | cons d t ih =>
    simp only [List.foldl_cons, ih, ri_docTokens, aerase, List.filter_filter]
    apply List.filter_congr
    intro p _
    simp only [List.mem_cons, not_or, Bool.decide_and, ne_eq]
    exact Bool.and_comm _ _

theorem flush_eq (s : State Tok) :
    flush s = { s.deleted.foldl removeInternal s with deleted := [] } := by
  unfold flush
  split
  · next he =>
    obtain ⟨dt, dl, po, tf, n, tt, av, de⟩ := s
    cases List.isEmpty_iff.1 he
    rfl
  · rfl

theorem flush_docTokens (s : State Tok) :
    (flush s).docTokens = s.docTokens.filter fun p => decide (p.1 ∉ s.deleted) := by
  rw [flush_eq]; exact docTokens_foldl_removeInternal s s.deleted

theorem flush_deleted (s : State Tok) : (flush s).deleted = [] := by
  rw [flush_eq]

theorem wf_flush {s : State Tok} (w : WF s) : WF (flush s) := by
  rw [flush_eq]
  exact ⟨(wfc_foldl_removeInternal w.toWFc s.deleted).with_deleted [],
    fun _ hd => absurd hd List.not_mem_nil, List.nodup_nil⟩

theorem wf_step {s : State Tok} (w : WF s) (op : Op Tok) : WF (step s op) := by
  cases op with
  | add id toks => exact wf_add w id toks
  | remove id => exact wf_remove w id
  | flush => exact wf_flush w

theorem wf_run {s : State Tok} (w : WF s) (ops : List (Op Tok)) : WF (run s ops) :=
  List.foldlRecOn ops _ w fun _ w op _ => wf_step w op

/-- The state `s` is well-formed and stores the corpus and the tombstones of the specification `c`. -/
structure Inv (s : State Tok) (c : Spec Tok) : Prop extends WF s where
  corpus : s.docTokens = c.corpus
  tomb : s.deleted = c.tomb

theorem specStep_remove (c : Spec Tok) (id : Id) :
    specStep c (.remove id) =
      ⟨c.corpus, if (aget c.corpus id).isSome ∧ id ∉ c.tomb then c.tomb ++ [id] else c.tomb⟩ := by
  rw [specStep]
  split <;> rfl

theorem inv_step {s : State Tok} {c : Spec Tok} (i : Inv s c) (op : Op Tok) :
    Inv (step s op) (specStep c op) := by
  cases op with
  | add id toks =>
    exact ⟨wf_add i.toWF id toks, (add_docTokens id toks).trans (by rw [i.corpus]; rfl),
      (add_deleted s id toks).trans (by rw [i.tomb]; rfl)⟩
  | remove id =>
    refine ⟨wf_remove i.toWF id, ?_, ?_⟩
    · rw [specStep_remove, step, remove_eq]; exact i.corpus
    · rw [specStep_remove, step, remove_eq, ← i.corpus, ← i.tomb]
  | flush =>
    exact ⟨wf_flush i.toWF, (flush_docTokens s).trans (by rw [i.corpus, i.tomb]; rfl),
      flush_deleted s⟩

theorem inv_init : Inv (init : State Tok) Spec.empty := ⟨wf_init, rfl, rfl⟩

theorem inv_run' {s : State Tok} {c : Spec Tok} (i : Inv s c) (ops : List (Op Tok)) :
    Inv (run s ops) (ops.foldl specStep c) :=
  List.foldl_rel (r := Inv) i fun op _ _ _ i => inv_step i op

theorem inv_run (ops : List (Op Tok)) : Inv (run init ops) (spec ops) := inv_run' inv_init ops

end Comet.BM25
