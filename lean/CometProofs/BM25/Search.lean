/-
  C03 helpers — the score map built by `searchSingleQuery` holds exactly the
  specification's candidates with the specification's scores (`score_map_spec`,
  `scoreMap_perm_specCands`); and facts about the specification's candidates alone
  (`shares_iff`, `candPairs`, `nodup_candPairs`, `specHits_ids`, `mem_specHits`).
-/
import CometProofs.BM25.Inv
namespace Comet.BM25
set_option linter.unusedSectionVars false

variable {Tok : Type} [DecidableEq Tok] {R S : Type}

theorem mem_toksOf {s : State Tok} (w : WFc s) (t : Tok) (d : Id) :
    t ∈ toksOf s d ↔ ∃ toks, (d, toks) ∈ s.docTokens ∧ t ∈ toks := by
  unfold toksOf
  simp only [← aget_iff_mem w.keys]
  cases aget s.docTokens d <;> simp

/-- `df = |postings[t]|` is the number of stored documents (tombstoned included) containing `t` -/
theorem df_eq {s : State Tok} (w : WFc s) (t : Tok) :
    (postOf s t).length = (s.docTokens.filter fun p => decide (t ∈ p.2)).length := by
  have hp : (postOf s t).Perm ((s.docTokens.filter fun p => decide (t ∈ p.2)).map (·.1)) := by
    rw [List.perm_ext_iff_of_nodup (w.postNodup t) (w.keys.sublist (List.filter_sublist.map _))]
    intro d
    rw [w.post, mem_toksOf w]
    simp only [List.mem_map, List.mem_filter, decide_eq_true_eq]
    constructor
    · rintro ⟨toks, hm, ht⟩; exact ⟨(d, toks), ⟨hm, ht⟩, rfl⟩
    · rintro ⟨⟨d', toks⟩, ⟨hm, ht⟩, rfl⟩; exact ⟨toks, hm, ht⟩
  rw [hp.length_eq, List.length_map]

theorem aget_foldl_accum (sc : Scoring R S) (val : Id → R) (ds : List Id) (hn : ds.Nodup)
    (m : List (Id × R)) (d : Id) :
    aget (ds.foldl (fun m d => accum sc m d (val d)) m) d =
      if d ∈ ds then some (sc.add ((aget m d).getD sc.zero) (val d)) else aget m d := by
  induction ds generalizing m with
  | nil => rfl
  | cons d0 t ih =>
    rw [List.nodup_cons] at hn
    rw [List.foldl_cons, ih hn.2, accum, aget_aset]
    by_cases hd : d = d0
    · subst hd; rw [if_neg hn.1, if_pos rfl, if_pos List.mem_cons_self]
    · rw [if_neg hd]; simp only [List.mem_cons, hd, false_or]

theorem inner_eq_filter (sc : Scoring R S) (s : State Tok) (F : List Id) (val : Id → R)
    (ds : List Id) (m : List (Id × R)) :
    ds.foldl (fun scores d =>
        if d ∈ s.deleted then scores
        else if !eligible F d then scores
        else accum sc scores d (val d)) m =
      (ds.filter fun d => eligible F d && decide (d ∉ s.deleted)).foldl
        (fun m d => accum sc m d (val d)) m := by
  rw [List.foldl_filter]
  congr 1; funext m d
  by_cases h : d ∈ s.deleted <;> cases eligible F d <;> simp [h]

/-- a query-token occurrence `t` contributes to document `d` -/
def hit (s : State Tok) (F : List Id) (t : Tok) (d : Id) : Bool :=
  decide (d ∈ postOf s t) && (eligible F d && decide (d ∉ s.deleted))

/-- what such an occurrence adds to the score of `d` -/
def contrib (sc : Scoring R S) (s : State Tok) (t : Tok) (d : Id) : R :=
  sc.score s.numDocs (postOf s t).length (tfOf s t d) (lenOf s d) s.avgDocLen

theorem aget_scoreTok (sc : Scoring R S) {s : State Tok} (w : WFc s) (F : List Id)
    (m : List (Id × R)) (t : Tok) (d : Id) :
    aget (scoreTok sc s F m t) d =
      if hit s F t d = true then some (sc.add ((aget m d).getD sc.zero) (contrib sc s t d))
      else aget m d := by
  have hn := w.postNodup t
  unfold scoreTok hit contrib postOf at *
  cases hp : aget s.postings t with
  | none => rfl
  | some bitmap =>
    rw [hp] at hn
    simp only [Option.getD_some] at hn ⊢
    rw [inner_eq_filter, aget_foldl_accum sc _ _ (hn.filter _)]
    simp only [List.mem_filter, Bool.and_eq_true, decide_eq_true_eq]

def docStep (sc : Scoring R S) (s : State Tok) (F : List Id) (d : Id) (acc : Option R) (t : Tok) :
    Option R :=
  if hit s F t d = true then some (sc.add (acc.getD sc.zero) (contrib sc s t d)) else acc

theorem aget_foldl_scoreTok (sc : Scoring R S) {s : State Tok} (w : WFc s) (F : List Id)
    (q : List Tok) (m : List (Id × R)) (d : Id) :
    aget (q.foldl (scoreTok sc s F) m) d = q.foldl (docStep sc s F d) (aget m d) :=
  (List.foldl_hom (aget · d) fun m t => (aget_scoreTok sc w F m t d).symm).symm

theorem nodup_scoreMap (sc : Scoring R S) (s : State Tok) (F : List Id) (q : List Tok) :
    (akeys (scoreMap sc s F q)).Nodup := by
  refine List.foldlRecOn (motive := fun m => (akeys m).Nodup) q _ List.nodup_nil fun m hm t _ => ?_
  unfold scoreTok
  cases aget s.postings t with
  | none => exact hm
  | some bitmap =>
    simp only []
    rw [inner_eq_filter]
    exact List.foldlRecOn (motive := fun m => (akeys m).Nodup) _ _ hm
      fun m hm d _ => nodup_akeys_aset m d _ hm

theorem foldl_some {α β : Type} (g : β → α → β) (z : β) (l : List α) (x : β) :
    l.foldl (fun acc a => some (g (acc.getD z) a)) (some x) = some (l.foldl g x) := by
  induction l generalizing x with
  | nil => rfl
  | cons a t ih => exact ih _

theorem foldl_docStep (sc : Scoring R S) (s : State Tok) (F : List Id) (d : Id) (q : List Tok)
    (acc : Option R) :
    q.foldl (docStep sc s F d) acc =
      if (q.filter fun t => hit s F t d) = [] then acc
      else some ((q.filter fun t => hit s F t d).foldl
        (fun a t => sc.add a (contrib sc s t d)) (acc.getD sc.zero)) := by
  unfold docStep
  rw [← List.foldl_filter (f := fun acc t => some (sc.add (acc.getD sc.zero) (contrib sc s t d)))]
  cases q.filter fun t => hit s F t d with
  | nil => rfl
  | cons t ts =>
    rw [if_neg (List.cons_ne_nil t ts)]
    exact foldl_some (fun a t => sc.add a (contrib sc s t d)) sc.zero ts _

section Stats
variable {s : State Tok} {c : Spec Tok} (i : Inv s c)
include i

/-! the statistics the search reads are those of the specification -/

theorem Inv.N_eq : s.numDocs = (c.N : Int) := by rw [i.numDocs, i.corpus]; rfl

theorem Inv.total_eq : s.totalTokens = (c.total : Int) := by rw [i.total, i.corpus]; rfl

theorem Inv.avg_eq : s.avgDocLen = c.avg := by
  rw [i.avg, i.N_eq, i.total_eq, Spec.avg]
  simp only [Int.natCast_eq_zero]

theorem Inv.df_eq (t : Tok) : (postOf s t).length = c.df t := by
  rw [BM25.df_eq i.toWFc, i.corpus]; rfl

theorem hit_eq (F : List Id) (t : Tok) (d : Id) :
    hit s F t d = (decide (t ∈ toksOf s d) && (eligible F d && decide (d ∉ c.tomb))) := by
  rw [hit, i.tomb, decide_eq_decide.2 (i.post t d)]

theorem contrib_eq (sc : Scoring R S) (t : Tok) (d : Id) :
    contrib sc s t d =
      sc.score c.N (c.df t) ((toksOf s d).count t) (toksOf s d).length c.avg := by
  unfold contrib
  rw [i.df_eq, i.tf, lenOf_eq i.toWFc, i.N_eq, i.avg_eq]

end Stats

theorem shares_iff {q toks : List Tok} : shares q toks = true ↔ ∃ t ∈ q, t ∈ toks := by
  rw [shares, List.any_eq_true]
  exact exists_congr fun t => and_congr_right fun _ => decide_eq_true_iff

theorem filter_mem_eq_nil (q T : List Tok) :
    (q.filter fun t => decide (t ∈ T)) = [] ↔ shares q T = false := by
  rw [List.filter_eq_nil_iff, shares, List.any_eq_false]

theorem shares_nil (q : List Tok) : shares q [] = false :=
  (filter_mem_eq_nil q []).1 (List.filter_eq_nil_iff.2 fun _ _ => by simp)

/-- What the score map holds for `d`, read off the stored text of `d` alone (`[]` when
    there is none, and then nothing is shared). -/
theorem aget_scoreMap (sc : Scoring R S) {s : State Tok} {c : Spec Tok} (i : Inv s c)
    (q : List Tok) (F : List Id) (d : Id) :
    aget (scoreMap sc s F q) d =
      if (eligible F d && shares q (toksOf s d) && decide (d ∉ c.tomb)) = true
      then some (specScore sc c q (toksOf s d)) else none := by
  unfold scoreMap
  rw [aget_foldl_scoreTok sc i.toWFc, foldl_docStep, Bool.and_right_comm]
  simp only [hit_eq i, contrib_eq i sc]
  cases (eligible F d && decide (d ∉ c.tomb))
  · -- not eligible or tombstoned: nothing accumulates
    rw [if_pos (List.filter_eq_nil_iff.2 fun t _ => by rw [Bool.and_false]; exact Bool.false_ne_true)]
    rfl
  · simp only [Bool.and_true, Bool.true_and]
    cases hs : shares q (toksOf s d)
    · rw [if_pos ((filter_mem_eq_nil q _).2 hs)]; rfl
    · rw [if_neg (fun h => by rw [(filter_mem_eq_nil q _).1 h] at hs; cases hs)]; rfl

def candPairs (sc : Scoring R S) (c : Spec Tok) (q : List Tok) (F : List Id) : List (Id × R) :=
  (c.live.filter fun p => eligible F p.1 && shares q p.2).map fun p => (p.1, specScore sc c q p.2)

theorem specCands_eq (sc : Scoring R S) (c : Spec Tok) (q : List Tok) (F : List Id) :
    specCands sc c q F = toHits (candPairs sc c q F) := by
  simp [specCands, candPairs, toHits, Function.comp_def]

theorem score_map_spec (sc : Scoring R S) {s : State Tok} {c : Spec Tok} (i : Inv s c)
    (q : List Tok) (F : List Id) (d : Id) :
    aget (scoreMap sc s F q) d = aget (candPairs sc c q F) d := by
  have hto : toksOf s d = (aget c.corpus d).getD [] := by rw [toksOf, i.corpus]
  unfold candPairs Spec.live
  rw [aget_scoreMap sc i, hto, List.filter_filter,
    aget_map_val _ (fun _ toks => specScore sc c q toks),
    aget_filter c.corpus (fun d toks => (eligible F d && shares q toks) && decide (d ∉ c.tomb))
      (i.corpus ▸ i.keys)]
  cases aget c.corpus d with
  | none => rw [Option.getD_none, shares_nil, Bool.and_false, Bool.false_and]; rfl
  | some toks => rw [Option.getD_some, Option.filter_some]; split <;> rfl

theorem nodup_candPairs (sc : Scoring R S) {c : Spec Tok} (hn : (akeys c.corpus).Nodup)
    (q : List Tok) (F : List Id) : (akeys (candPairs sc c q F)).Nodup := by
  unfold candPairs Spec.live
  rw [akeys_map_val _ fun _ toks => specScore sc c q toks]
  exact hn.sublist ((List.filter_sublist.trans List.filter_sublist).map _)

theorem specHits_ids (sc : Scoring R S) (c : Spec Tok) (q : List Tok) (F : List Id) :
    (specHits sc c q F).map (·.id) = akeys (candPairs sc c q F) := by
  simp only [specHits, specCands_eq, toHits, akeys, List.map_map, Function.comp_def]

theorem mem_specHits {sc : Scoring R S} {c : Spec Tok} {q : List Tok} {F : List Id} {r : Hit S} :
    r ∈ specHits sc c q F ↔
      ∃ toks, (r.id, toks) ∈ c.corpus ∧ r.id ∉ c.tomb ∧ eligible F r.id = true ∧
        (∃ t ∈ q, t ∈ toks) ∧ r.score = sc.toS (specScore sc c q toks) := by
  simp only [specHits, specCands, Spec.live, List.map_map, List.mem_map, List.mem_filter,
    Function.comp, decide_eq_true_eq, Bool.and_eq_true, shares_iff]
  constructor
  · rintro ⟨⟨d, toks⟩, ⟨⟨h1, h2⟩, h3, h4⟩, rfl⟩
    exact ⟨toks, h1, h2, h3, h4, rfl⟩
  · rintro ⟨toks, h1, h2, h3, h4, h5⟩
    exact ⟨(r.id, toks), ⟨⟨h1, h2⟩, h3, h4⟩, by rw [← h5]⟩

theorem scoreMap_perm_specCands (sc : Scoring R S) {s : State Tok} {c : Spec Tok} (i : Inv s c)
    (q : List Tok) (F : List Id) :
    (toHits (scoreMap sc s F q)).Perm (specCands sc c q F) := by
  rw [specCands_eq]
  apply List.Perm.map
  exact perm_of_aget_eq (nodup_scoreMap sc s F q)
    (nodup_candPairs sc (i.corpus ▸ i.keys) q F) (score_map_spec sc i q F)

end Comet.BM25
