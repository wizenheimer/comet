/-
  Helpers for C19: the exact scalar ℚ (what "the sum", "the mean", "the maximum" mean)
  as an instance of the model's scalar interface, and what the three reductions are there.
-/
import Mathlib.Algebra.Order.Field.Rat
import Mathlib.Tactic.NormNum
import CometProofs.Agg
namespace Comet

def qScalar : Scalar ℚ where
  zero := 0
  add := (· + ·)
  divNat x n := x / (n : ℚ)
  le a b := decide (a ≤ b)
  lt a b := decide (a < b)

theorem qScalar_ordered : qScalar.Ordered where
  total a b := by simp only [qScalar, Bool.or_eq_true, decide_eq_true_eq]; exact le_total a b
  trans a b c := by simp only [qScalar, decide_eq_true_eq]; exact le_trans
  lt_iff a b := by simp only [qScalar]; by_cases h : a < b <;> simp [h, not_le.2, not_lt.1]

theorem agg_sum_is_sum (ss : List ℚ) : reduceVec qScalar .sum ss = ss.sum :=
  List.sum_eq_foldl.symm

theorem agg_mean_is_mean (ss : List ℚ) : reduceVec qScalar .mean ss = ss.sum / (ss.length : ℚ) :=
  congrArg (· / (ss.length : ℚ)) (agg_sum_is_sum ss)

theorem reduceVec_rat (kind : AggKind) (ss : List ℚ) (hne : ss ≠ []) (s : ℚ) :
    s = reduceVec qScalar kind ss →
    match kind with
    | .sum => s = ss.sum
    | .mean => s = ss.sum / (ss.length : ℚ)
    | .max => s ∈ ss ∧ ∀ x ∈ ss, x ≤ s := by
  rintro rfl
  cases kind with
  | sum => exact agg_sum_is_sum ss
  | mean => exact agg_mean_is_mean ss
  | max =>
    obtain ⟨h1, h2⟩ := maxScores_spec qScalar qScalar_ordered ss hne
    exact ⟨h1, fun x hx => of_decide_eq_true (h2 x hx)⟩

theorem qScalar_antisymm (a b : ℚ) (h1 : qScalar.le a b = true) (h2 : qScalar.le b a = true) : a = b :=
  le_antisymm (of_decide_eq_true h1) (of_decide_eq_true h2)

end Comet
