/-
  Aggregation of a result list in which every id occurs once (a single-query answer of a
  duplicate-free index): each hit is kept with the reduction of its one score.
-/
import Comet.Agg
namespace Comet

variable {S : Type}

theorem firstIds_of_nodup (l : List Id) (h : l.Nodup) : firstIds l = l := by
  induction l with
  | nil => rfl
  | cons a t ih =>
    obtain ⟨ha, ht⟩ := List.nodup_cons.1 h
    rw [firstIds, ih ht, List.filter_eq_self.2 fun b hb => bne_iff_ne.2 fun (he : b = a) => ha (he ▸ hb)]

theorem scoresOf_unique (xs : List (Hit S)) (hn : (xs.map (·.id)).Nodup) (h : Hit S)
    (hm : h ∈ xs) : scoresOf h.id xs = [h.score] := by
  induction xs with
  | nil => cases hm
  | cons x t ih =>
    obtain ⟨hx, ht⟩ := List.nodup_cons.1 hn
    rw [scoresOf, List.filter_cons]
    rcases List.mem_cons.1 hm with rfl | hm'
    · rw [if_pos (beq_self_eq_true _), List.filter_eq_nil_iff.2 fun y hy he =>
        hx (List.mem_map.2 ⟨y, hy, beq_iff_eq.1 he⟩)]
      rfl
    · rw [if_neg fun he => hx (List.mem_map.2 ⟨h, hm', (beq_iff_eq.1 he).symm⟩)]
      exact ih ht hm'

/-- when reducing a single score is the identity (exact arithmetic: 0 + d = d, d / 1 = d),
    aggregation of a sorted duplicate-free list is the identity -/
theorem vecAggregate_id (sc : Scalar S) (kind : AggKind) (xs : List (Hit S))
    (hn : (xs.map (·.id)).Nodup)
    (hred : ∀ d : S, reduceVec sc kind [d] = d)
    (hs : xs.Pairwise fun a b => hitLe sc.le a b = true) :
    vecAggregate sc kind xs = xs := by
  have : (xs.map fun h => (⟨h.id, reduceVec sc kind (scoresOf h.id xs)⟩ : Hit S)) = xs :=
    (List.map_congr_left fun h hm => by rw [scoresOf_unique xs hn h hm, hred]; rfl).trans
      (List.map_id xs)
  rw [vecAggregate, groupScores, firstIds_of_nodup _ hn, List.map_map, List.map_map]
  exact (congrArg (·.mergeSort (hitLe sc.le)) this).trans (List.mergeSort_of_pairwise hs)

end Comet
