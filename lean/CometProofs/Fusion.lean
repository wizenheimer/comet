/-
  Lemmas for C19 (fusion.go): association lists as Go maps (`lookup_isSome_iff` also serves
  C05), the generic "range over a map and assign" fold, one iteration of the merge loop of
  Comet/Merge.lean (`lookup_mergeStep`, `nodupKeys_mergeStep`), the exchange sort and the ranks
  of `scoreMapToRanks`, the accumulation of RRF; the order hypothesis `DOps.StrictWeak` and a
  toy instance of it.
-/
import Comet.Fusion
import Comet.Merge
import CometProofs.Agg
import CometProofs.AList
namespace Comet

variable {α β S : Type}

theorem aset_eq (k : Id) (v : α) (m : List (Id × α)) : aset k v m = BM25.aset m k v := by
  induction m with
  | nil => rfl
  | cons p t ih => rw [aset, BM25.aset, ih]; simp only [beq_iff_eq]

theorem lookup_aset (k k' : Id) (v : α) (m : List (Id × α)) :
    (aset k' v m).lookup k = if k = k' then some v else m.lookup k := by
  rw [aset_eq, ← BM25.aget_eq_lookup, BM25.aget_aset, BM25.aget_eq_lookup]

theorem nodupKeys_aset (k : Id) (v : α) (m : List (Id × α)) (h : NodupKeys m) :
    NodupKeys (aset k v m) :=
  aset_eq k v m ▸ BM25.nodup_akeys_aset m k v h

theorem lookup_isSome_iff (k : Id) (m : List (Id × α)) :
    (m.lookup k).isSome ↔ k ∈ m.map (·.1) :=
  BM25.aget_eq_lookup m k ▸ BM25.aget_isSome_iff m k

theorem nodupKeys_perm {m m' : List (Id × α)} (hp : m.Perm m') : NodupKeys m ↔ NodupKeys m' :=
  (hp.map (fun p : Id × α => p.1)).nodup_iff

/-- a map's contents do not depend on the iteration order -/
theorem lookup_perm {m m' : List (Id × α)} (hn : NodupKeys m) (hp : m.Perm m') (k : Id) :
    m.lookup k = m'.lookup k := by
  rw [← BM25.aget_eq_lookup, ← BM25.aget_eq_lookup]
  exact Option.ext fun v => (BM25.aget_iff_mem hn k v).trans
    (hp.mem_iff.trans (BM25.aget_iff_mem ((nodupKeys_perm hp).1 hn) k v).symm)

/-- If one loop iteration changes only the entry of the visited key (to `upd …`),
    then after ranging over a map `l` (any order) the entry of `k` is `upd` of the old
    entry when `k` is in `l`, and untouched otherwise. -/
theorem lookup_foldl_range (step : List (Id × α) → (Id × β) → List (Id × α))
    (upd : (Id × β) → Option α → Option α)
    (hstep : ∀ c p k, (step c p).lookup k = if k = p.1 then upd p (c.lookup p.1) else c.lookup k)
    (l : List (Id × β)) (c : List (Id × α)) (hn : NodupKeys l) (k : Id) :
    (l.foldl step c).lookup k =
      match l.lookup k with
      | some b => upd (k, b) (c.lookup k)
      | none => c.lookup k := by
  induction l generalizing c with
  | nil => rfl
  | cons p l ih =>
    have hn' : p.1 ∉ l.map (·.1) ∧ NodupKeys l := List.nodup_cons.1 hn
    rw [List.foldl_cons, ih _ hn'.2, hstep, List.lookup_cons]
    by_cases hk : k = p.1
    · rw [hk, lookup_none_of_not_key p.1 l hn'.1, beq_self_eq_true, if_pos rfl]
    · rw [beq_eq_false_iff_ne.2 hk, if_neg hk]

theorem nodupKeys_foldl (step : List (Id × α) → β → List (Id × α))
    (hstep : ∀ c p, NodupKeys c → NodupKeys (step c p)) (l : List β) (c : List (Id × α))
    (h : NodupKeys c) : NodupKeys (l.foldl step c) :=
  List.foldlRecOn l step h fun c hc p _ => hstep c p hc

theorem nodupKeys_nil : NodupKeys ([] : List (Id × α)) := List.nodup_nil

theorem nodupKeys_foldl_aset (f : Id × β → α) (l : List (Id × β)) :
    NodupKeys (l.foldl (fun c p => aset p.1 (f p) c) []) :=
  nodupKeys_foldl _ (fun _ _ hc => nodupKeys_aset _ _ _ hc) l _ nodupKeys_nil

/-- The shape shared by weighted-sum, max and reciprocal-rank fusion: a first loop enters
    `f` of every entry of `v`, a second loop combines (`comb`) every entry of `t` with
    what it finds under that key.  The result lives on the union of the keys. -/
theorem lookup_union_fold {γ : Type} (f : β → α) (comb : Option α → γ → α)
    (step : List (Id × α) → (Id × γ) → List (Id × α))
    (hstep : ∀ c p k, (step c p).lookup k =
      if k = p.1 then some (comb (c.lookup p.1) p.2) else c.lookup k)
    (v : List (Id × β)) (t : List (Id × γ)) (hv : NodupKeys v) (ht : NodupKeys t) (id : Id) :
    (t.foldl step (v.foldl (fun c p => aset p.1 (f p.2) c) [])).lookup id =
      match v.lookup id, t.lookup id with
      | some a, some b => some (comb (some (f a)) b)
      | some a, none => some (f a)
      | none, some b => some (comb none b)
      | none, none => none := by
  rw [lookup_foldl_range step (fun p old => some (comb old p.2)) hstep t _ ht id,
    lookup_foldl_range _ (fun p _ => some (f p.2)) (fun c p k => lookup_aset k p.1 _ c) v [] hv id]
  cases v.lookup id <;> cases t.lookup id <;> rfl

/-- a loop iteration that leaves the map alone, seen as an assignment of the old value -/
theorem lookup_unchanged {c : List (Id × α)} {a : Id} {e : α} (h : c.lookup a = some e) (k : Id) :
    c.lookup k = if k = a then some e else c.lookup k := by
  split
  next hk => rw [hk, h]
  · rfl

/-- one iteration of the merge loop, which is also the second loop of max fusion: the entry of
    the visited id becomes the larger of the old entry and the new score -/
theorem lookup_mergeStep (lt : S → S → Bool) (m : List (Id × S)) (r : Hit S) (k : Id) :
    (mergeStep lt m r).lookup k =
      if k = r.id then some (match m.lookup r.id with
        | some e => if lt e r.score then r.score else e | none => r.score) else m.lookup k := by
  unfold mergeStep
  cases h : m.lookup r.id with
  | none => exact lookup_aset k r.id _ m
  | some e =>
    dsimp only
    split
    · exact lookup_aset k r.id _ m
    · exact lookup_unchanged h k

theorem nodupKeys_mergeStep (lt : S → S → Bool) (m : List (Id × S)) (r : Hit S) (h : NodupKeys m) :
    NodupKeys (mergeStep lt m r) := by
  unfold mergeStep
  cases m.lookup r.id with
  | none => exact nodupKeys_aset _ _ _ h
  | some e => dsimp only; split; exact nodupKeys_aset _ _ _ h; exact h

theorem exPass_perm (swap : α → α → Bool) (l : List α) (cur : α) :
    ((exPass swap cur l).1 :: (exPass swap cur l).2).Perm (cur :: l) := by
  induction l generalizing cur with
  | nil => exact .refl _
  | cons y ys ih =>
    rw [exPass]
    split
    · exact (List.Perm.swap _ _ _).trans ((ih y).cons cur)
    · exact ((List.Perm.swap _ _ _).trans ((ih cur).cons y)).trans (List.Perm.swap _ _ _)

theorem exSortAux_perm (swap : α → α → Bool) (f : Nat) (l : List α) :
    (exSortAux swap f l).Perm l := by
  induction f generalizing l with
  | zero => exact .refl _
  | succ f ih =>
    cases l with
    | nil => exact .refl _
    | cons x xs => exact ((ih _).cons _).trans (exPass_perm swap xs x)

theorem exSort_perm (swap : α → α → Bool) (l : List α) : (exSort swap l).Perm l :=
  exSortAux_perm swap _ l

/-- after one pass the element left in front may precede `cur` and everything after it -/
theorem exPass_min (swap : α → α → Bool)
    (total : ∀ a b, swap a b = false ∨ swap b a = false)
    (trans : ∀ a b c, swap a b = false → swap b c = false → swap a c = false)
    (l : List α) (cur : α) :
    swap (exPass swap cur l).1 cur = false ∧ ∀ z ∈ (exPass swap cur l).2, swap (exPass swap cur l).1 z = false := by
  induction l generalizing cur with
  | nil => exact ⟨(total cur cur).elim id id, nofun⟩
  | cons y ys ih =>
    rw [exPass]
    split
    next hs =>
      obtain ⟨h1, h2⟩ := ih y
      have hc := trans _ _ _ h1 ((total cur y).resolve_left (hs ▸ nofun))
      exact ⟨hc, List.forall_mem_cons.2 ⟨hc, h2⟩⟩
    next hs =>
      obtain ⟨h1, h2⟩ := ih cur
      exact ⟨h1, List.forall_mem_cons.2 ⟨trans _ _ _ h1 (Bool.not_eq_true _ ▸ hs), h2⟩⟩

theorem exSortAux_sorted (swap : α → α → Bool)
    (total : ∀ a b, swap a b = false ∨ swap b a = false)
    (trans : ∀ a b c, swap a b = false → swap b c = false → swap a c = false)
    (f : Nat) (l : List α) (h : l.length ≤ f) :
    (exSortAux swap f l).Pairwise fun a b => swap a b = false := by
  induction f generalizing l with
  | zero => rw [List.eq_nil_of_length_eq_zero (Nat.le_zero.1 h)]; exact .nil
  | succ f ih =>
    cases l with
    | nil => exact .nil
    | cons x xs =>
      refine List.pairwise_cons.2 ⟨fun z hz => ?_,
        ih _ (Nat.le_of_succ_le_succ
          (Nat.le_trans (Nat.le_of_eq (exPass_perm swap xs x).length_eq) h))⟩
      exact (exPass_min swap total trans xs x).2 z ((exSortAux_perm swap f _).subset hz)

theorem exSort_sorted (swap : α → α → Bool)
    (total : ∀ a b, swap a b = false ∨ swap b a = false)
    (trans : ∀ a b c, swap a b = false → swap b c = false → swap a c = false) (l : List α) :
    (exSort swap l).Pairwise fun a b => swap a b = false :=
  exSortAux_sorted swap total trans _ l (Nat.le_refl _)

theorem lookup_rankPairs_aux (k : Id) (σ : List (Id × S)) (n : Nat) :
    ((σ.zipIdx n).map fun p => (p.1.1, p.2)).lookup k = (rankIn k σ).map (· + n) := by
  induction σ generalizing n with
  | nil => rfl
  | cons p σ ih =>
    rw [List.zipIdx_cons, List.map_cons, List.lookup_cons, rankIn, ih (n + 1)]
    by_cases h : k = p.1
    · rw [← h, beq_self_eq_true]
      exact congrArg some (Nat.zero_add n).symm
    · rw [beq_eq_false_iff_ne.2 h, if_neg (mt beq_iff_eq.1 (Ne.symm h))]
      cases rankIn k σ with
      | none => rfl
      | some r => exact congrArg some (Nat.add_right_comm r 1 n).symm

theorem lookup_rankPairs (k : Id) (σ : List (Id × S)) :
    (rankPairs σ).lookup k = rankIn k σ :=
  (lookup_rankPairs_aux k σ 0).trans (by cases rankIn k σ <;> rfl)

theorem keys_rankPairs (σ : List (Id × S)) : (rankPairs σ).map (·.1) = σ.map (·.1) := by
  rw [rankPairs, List.map_map]
  show σ.zipIdx.map ((·.1) ∘ Prod.fst) = _
  rw [← List.map_map, List.zipIdx_map_fst]

/-- `<` is a strict weak order (floats without NaN; any linear order) -/
structure DOps.StrictWeak (o : DOps S) : Prop where
  asymm : ∀ a b, o.lt a b = true → o.lt b a = false
  negTrans : ∀ a b c, o.lt b a = false → o.lt c b = false → o.lt c a = false

/-- the accumulation part of RRF, for rank maps iterated in any order -/
theorem rrfFrom_lookup (o : DOps S) (K : S) (rv rt : List (Id × Nat))
    (hv : NodupKeys rv) (ht : NodupKeys rt) (id : Id) :
    (rrfFrom o K rv rt).lookup id =
      match rv.lookup id, rt.lookup id with
      | some a, some b => some (o.add (rrfTerm o K a) (rrfTerm o K b))
      | some a, none => some (rrfTerm o K a)
      | none, some b => some (rrfTerm o K b)
      | none, none => none := by
  unfold rrfFrom
  let comb : Option S → Nat → S := fun old r => match old with
    | some e => o.add e (rrfTerm o K r) | none => rrfTerm o K r
  rw [lookup_union_fold (rrfTerm o K) comb _ (fun c p k => ?hstep) rv rt hv ht id]
  case hstep =>
    -- either branch of the second loop's `match` assigns `comb old p.2` to the key `p.1`
    cases h : c.lookup p.1 <;> exact lookup_aset k p.1 _ c
  cases rv.lookup id <;> cases rt.lookup id <;> rfl

/-- toy float64 operations on ℕ (`1/(K+r)` becomes `60 / (K+r)` in ℕ division, exact where
    `K+r` divides 60) -/
def natOps : DOps Nat :=
  { one := 60, ofNat := id, add := (· + ·), mul := (· * ·), div := (· / ·),
    lt := fun a b => decide (a < b) }

theorem natOps_strictWeak : natOps.StrictWeak where
  asymm a b := by
    simp only [natOps, decide_eq_true_eq, decide_eq_false_iff_not]
    exact Nat.lt_asymm
  negTrans a b c := by
    simp only [natOps, decide_eq_false_iff_not, Nat.not_lt]
    exact Nat.le_trans


end Comet
