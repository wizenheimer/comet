/-
  The three clauses on one state (helper lemmas for C12): what a completed search returns
  when layer 0 is complete on the live vertices and the entry point, live or soft-deleted,
  has an edge to each of them.  On the way: the greedy descent stays in closed sets, the
  final sort, and the step from the model's `liveB` / `complete0B` to the Prop forms.
-/
import CometProofs.HNSWSearch
import CometProofs.Flat
namespace Comet.HNSW

variable {V S : Type}

def Live (s : State V) (i : Id) : Prop := s.nodes.contains i = true ∧ isDeleted s i = false

theorem mem_liveIds {s : State V} {i : Id} : i ∈ liveIds s ↔ Live s i := by
  simp only [liveIds, List.mem_filter, IdMap.mem_keys, Live]
  constructor
  · rintro ⟨h1, h2⟩; exact ⟨h1, by simpa using h2⟩
  · rintro ⟨h1, h2⟩; exact ⟨h1, by simp [h2]⟩

theorem liveIds_nodup (s : State V) : (liveIds s).Nodup :=
  (IdMap.keys_nodup _).sublist List.filter_sublist

theorem liveIds_length_le (s : State V) : (liveIds s).length ≤ s.nodes.count :=
  List.length_filter_le _ _

theorem liveIds_eq_nil {s : State V} (h : s.nodes.count = 0) : liveIds s = [] :=
  List.eq_nil_iff_forall_not_mem.2 fun j hj => by
    have := (IdMap.count_eq_zero_iff _).1 h j
    rw [(mem_liveIds.1 hj).1] at this; cases this

/-- layer 0 is the complete digraph on the live vertices -/
def Complete0 (s : State V) : Prop :=
  ∀ u v, Live s u → Live s v → u ≠ v → v ∈ nbrsAt s 0 u

/-- the live `(id, stored vector)` pairs, ascending ids -/
def stateLive (s : State V) : List (Id × V) :=
  (liveIds s).filterMap fun i => (s.nodes.get? i).map fun n => (i, n.vec)

theorem stateLive_eq_nil {s : State V} (h : s.nodes.count = 0) : stateLive s = [] := by
  simp [stateLive, liveIds_eq_nil h]

section
variable (m : Metric V S)

/-! ### the greedy descent stays inside any neighbour-closed set -/

theorem greedyPass_closed (s : State V) (q : V) (P : Id → Prop) :
    ∀ (nbs : List Id) (acc acc' : Id × S × Bool),
      (∀ nb ∈ nbs, isDeleted s nb = false → s.nodes.contains nb = true → P nb) → P acc.1 →
      greedyPass m s q nbs acc = .ok acc' → P acc'.1 := by
  intro nbs
  induction nbs with
  | nil =>
    intro acc acc' _ hl h
    simp only [greedyPass, Except.ok.injEq] at h; subst h; exact hl
  | cons nb rest ih =>
    intro acc acc' hnb hl h
    obtain ⟨curr, cd, ch⟩ := acc
    have hrest := fun x hx => hnb x (List.mem_cons_of_mem _ hx)
    simp only [greedyPass] at h
    split at h
    · exact ih _ _ hrest hl h
    · next hdel =>
      split at h
      · cases h
      · next n hn =>
        split at h
        · refine ih _ _ hrest ?_ h
          exact hnb nb (by simp) (by simpa using hdel) (IdMap.contains_iff.2 ⟨n, node!_eq hn⟩)
        · exact ih _ _ hrest hl h

theorem greedyLayer_closed (s : State V) (q : V) (lc : Nat) (P : Id → Prop)
    (hcl : ∀ u, P u → ∀ w ∈ nbrsAt s lc u, isDeleted s w = false → s.nodes.contains w = true → P w) :
    ∀ (fuel : Nat) (acc acc' : Id × S), P acc.1 →
      greedyLayer m s q lc fuel acc = .ok acc' → P acc'.1 := by
  intro fuel
  induction fuel with
  | zero => intro acc acc' _ h; simp [greedyLayer] at h
  | succ fuel ih =>
    intro acc acc' hl h
    obtain ⟨curr, cd⟩ := acc
    simp only [greedyLayer] at h
    split at h
    · cases h
    · next n hn =>
      split at h
      · simp only [Except.ok.injEq] at h; subst h; exact hl
      · next nbs he =>
        have hnbs : ∀ nb ∈ nbs, isDeleted s nb = false → s.nodes.contains nb = true → P nb := by
          intro nb hnb
          refine hcl curr hl nb ?_
          simp [nbrsAt, node!_eq hn, he, hnb]
        split at h
        · cases h
        · next c' d' hp =>
          exact ih _ _ (greedyPass_closed m s q P _ _ _ hnbs hl hp) h
        · next c' d' hp =>
          simp only [Except.ok.injEq] at h; subst h
          exact greedyPass_closed m s q P _ _ _ hnbs hl hp

theorem greedyDescend_closed (s : State V) (q : V) (P : Id → Prop)
    (hcl : ∀ u, P u → ∀ l, ∀ w ∈ nbrsAt s l u, isDeleted s w = false → s.nodes.contains w = true → P w) :
    ∀ (layers : List Nat) (acc acc' : Id × S), P acc.1 →
      greedyDescend m s q layers acc = .ok acc' → P acc'.1 := by
  intro layers
  induction layers with
  | nil => intro acc acc' hl h; simp only [greedyDescend, Except.ok.injEq] at h; subst h; exact hl
  | cons lc rest ih =>
    intro acc acc' hl h
    simp only [greedyDescend] at h
    split at h
    · cases h
    · next a hg =>
      exact ih _ _ (greedyLayer_closed m s q lc P (fun u hu w hw => hcl u hu lc w hw) _ _ _ hl hg) h


theorem greedyDescend_start_or_live (s : State V) (q : V) (layers : List Nat) (acc acc' : Id × S)
    (h : greedyDescend m s q layers acc = .ok acc') : acc'.1 = acc.1 ∨ Live s acc'.1 := by
  refine greedyDescend_closed m s q (fun i => i = acc.1 ∨ Live s i) ?_ layers acc acc' (Or.inl rfl) h
  intro u _ l w _ hwd hwr
  exact Or.inr ⟨hwr, hwd⟩

theorem insDesc_ne_nil (lt : S → S → Bool) (c : Hit S) (l : List (Hit S)) : insDesc lt c l ≠ [] := by
  cases l <;> simp only [insDesc] <;> try split
  all_goals simp

theorem insStable_sorted (ord : m.sc.Ordered) (c : Hit S) :
    ∀ l : List (Hit S), l.Pairwise (fun a b => m.sc.le a.score b.score = true) →
      (insStable m.sc.lt c l).Pairwise (fun a b => m.sc.le a.score b.score = true)
  | [], _ => by simp [insStable]
  | a :: as, h => by
    simp only [insStable]
    rw [List.pairwise_cons] at h
    split
    · next hlt =>
      rw [List.pairwise_cons]
      refine ⟨?_, insStable_sorted ord c as h.2⟩
      intro b hb
      rcases List.mem_cons.1 ((insStable_perm m.sc.lt c as).mem_iff.1 hb) with rfl | hb'
      · exact ord.le_of_lt hlt
      · exact h.1 b hb'
    · next hlt =>
      have hca : m.sc.le c.score a.score = true := ord.lt_false_iff.1 (by simpa using hlt)
      rw [List.pairwise_cons]
      refine ⟨?_, List.pairwise_cons.2 h⟩
      intro b hb
      rcases List.mem_cons.1 hb with rfl | hb
      · exact hca
      · exact ord.trans _ _ _ hca (h.1 b hb)

theorem sortAsc_sorted (ord : m.sc.Ordered) :
    ∀ l : List (Hit S), (sortAsc m.sc.lt l).Pairwise (fun a b => m.sc.le a.score b.score = true)
  | [] => by simp [sortAsc]
  | a :: as => by
    have ih := sortAsc_sorted ord as
    simp only [sortAsc, List.foldr_cons] at ih ⊢
    exact insStable_sorted m ord a _ ih

/-- the search tail (`sort.Slice`, `sanitizeK`, truncation) returns a top-k of what it is given -/
theorem tail_isTopK (ord : m.sc.Ordered) (k : Int) (xs : List (Hit S)) :
    IsTopK m.sc.le k xs ((sortAsc m.sc.lt xs).take (sanitizeK k (sortAsc m.sc.lt xs).length)) :=
  (isTopK_take_of_sorted _ k _ (sortAsc_sorted m ord xs)).of_perm (sortAsc_perm m.sc.lt xs)

theorem cands_eq_filter (l : List (Id × V)) (q' : V) (thr : S) (F : List Id) :
    Flat.cands m l q' thr F =
      (l.map fun p => (⟨p.1, m.dist q' p.2⟩ : Hit S)).filter
        (fun h => Flat.eligible F h.id && !Flat.thrSkip m.sc thr h.score) := by
  unfold Flat.cands
  induction l with
  | nil => rfl
  | cons p t ih =>
    rw [List.filterMap_cons, List.map_cons, List.filter_cons, ih]
    by_cases h1 : Flat.eligible F p.1 = true
    · by_cases h2 : Flat.thrSkip m.sc thr (m.dist q' p.2) = true
      · simp [h1, h2]
      · simp [h1, h2]
    · simp [h1]

def allHits (s : State V) (q' : V) : List (Hit S) :=
  (stateLive s).map fun p => (⟨p.1, m.dist q' p.2⟩ : Hit S)

theorem mem_stateLive {s : State V} {i : Id} {v : V} :
    (i, v) ∈ stateLive s ↔ Live s i ∧ ∃ n, s.nodes.get? i = some n ∧ n.vec = v := by
  simp only [stateLive, List.mem_filterMap, mem_liveIds, Option.map_eq_some_iff, Prod.mk.injEq]
  constructor
  · rintro ⟨j, hj, n, hn, rfl, rfl⟩; exact ⟨hj, n, hn, rfl⟩
  · rintro ⟨hl, n, hn, rfl⟩; exact ⟨i, hl, n, hn, rfl, rfl⟩

theorem stateLive_ids_nodup (s : State V) : ((stateLive s).map (·.1)).Nodup := by
  have : (stateLive s).map (·.1) = (liveIds s).filter fun i => (s.nodes.get? i).isSome := by
    simp only [stateLive]
    induction liveIds s with
    | nil => rfl
    | cons a t ih =>
      simp only [List.filterMap_cons, List.filter_cons]
      cases h : s.nodes.get? a <;> simp [ih]
  rw [this]
  exact (liveIds_nodup s).sublist List.filter_sublist

def Resolves0 (s : State V) : Prop :=
  ∀ u w, w ∈ nbrsAt s 0 u → s.nodes.contains w = true

/-- a start vertex of the bottom-layer search: resident, possibly soft-deleted, with an edge
    to every other live vertex (`Complete0` speaks of live sources only) -/
def CurrGood (s : State V) (c : Id) : Prop :=
  s.nodes.contains c = true ∧ ∀ v, Live s v → v ≠ c → v ∈ nbrsAt s 0 c

theorem currGood_of_live {s : State V} (hcomp : Complete0 s) {c : Id} (hc : Live s c) : CurrGood s c :=
  ⟨hc.1, fun v hv hne => hcomp c v hc hv (Ne.symm hne)⟩

theorem CurrGood.reach {s : State V} {c : Id} (h : CurrGood s c) {v : Id} (hv : Live s v) :
    Reach (nbrsAt s 0) c v := by
  by_cases hvc : v = c
  · subst hvc; exact Reach.refl
  · exact Reach.step Reach.refl (h.2 v hv hvc)

theorem searchLayer0_perm_allHits (s : State V) (hres : Resolves0 s)
    (q' : V) (curr : Id) (ef : Nat)
    (hcurr : CurrGood s curr) (hef : (liveIds s).length ≤ ef) (raw : List (Hit S))
    (h : searchLayer m s q' curr ef 0 = .ok raw) : raw.Perm (allHits m s q') := by
  obtain ⟨hs1, hs2⟩ := searchLayer_sound raw h
  have hRres : ∀ v, RL s 0 curr v → s.nodes.contains v = true := by
    intro v hv
    induction hv with
    | refl => exact hcurr.1
    | step _ hw _ => exact hres _ _ hw
  have hall := searchLayer_complete (liveIds s)
    (fun v hv hvd => mem_liveIds.2 ⟨hRres v hv, hvd⟩) hef raw h
  have hnd1 : raw.Nodup := List.Nodup.of_map _ hs2
  have hnd2 : (allHits m s q').Nodup := by
    refine List.Nodup.of_map (·.id) ?_
    have : (allHits m s q').map (·.id) = (stateLive s).map (·.1) := by
      simp [allHits, List.map_map, Function.comp_def]
    rw [this]
    exact stateLive_ids_nodup s
  rw [List.perm_ext_iff_of_nodup hnd1 hnd2]
  intro hit
  simp only [allHits, List.mem_map]
  constructor
  · intro hh
    obtain ⟨_, hdel, n, hn, hsc⟩ := hs1 hit hh
    refine ⟨(hit.id, n.vec), mem_stateLive.2 ⟨⟨IdMap.contains_iff.2 ⟨n, hn⟩, hdel⟩, n, hn, rfl⟩, ?_⟩
    rw [← hsc]
  · rintro ⟨⟨i, v⟩, hp, rfl⟩
    obtain ⟨hl, n, hn, rfl⟩ := mem_stateLive.1 hp
    obtain ⟨hit, hh, hid⟩ := List.mem_map.1 (hall i (hcurr.reach hl) hl.2)
    obtain ⟨_, _, n', hn', hsc⟩ := hs1 hit hh
    rw [hid, hn] at hn'
    cases hn'
    rw [← hid, ← hsc]
    exact hh

/-- the ef that `searchSingleQuery` uses; restates the inline `let ef` of the model's
    `searchCands` (`searchCands_unfold` needs the two definitionally equal) -/
def efUsed (s : State V) (efo : Int) : Nat := if efo ≤ 0 then s.efS else efo.toNat

/-- what `searchCands` computes: a bottom-layer search from the entry point or from a live
    vertex (the greedy descent only moves to non-deleted vertices), then the id restriction
    and the threshold -/
theorem searchCands_unfold (s : State V) (q q' : V) (thr : S) (F : List Id) (efo : Int)
    (hq : m.dimOf q = s.dim) (hml : s.maxLevel ≠ -1) (hpre : m.pre q = some q')
    (hentry : s.nodes.contains s.entry = true) (c : List (Hit S))
    (h : searchCands m s q thr F efo = .ok (.ok c)) :
    ∃ curr raw, (curr = s.entry ∨ Live s curr) ∧
      searchLayer m s q' curr (efUsed s efo) 0 = .ok raw ∧
      c = raw.filter fun c => Flat.eligible F c.id && !Flat.thrSkip m.sc thr c.score := by
  have hcnt := IdMap.count_ne_zero hentry
  simp only [searchCands, hq, ne_eq, not_true_eq_false, if_false, hpre] at h
  have h0 : (s.nodes.count == 0 || s.maxLevel == -1) = false := by simp [hcnt, hml]
  simp only [h0, Bool.false_eq_true, if_false] at h
  split at h
  · cases h
  · next en hen =>
    split at h
    · cases h
    · next curr cd hg =>
      have hcurr := greedyDescend_start_or_live m s q' _ (s.entry, m.dist q' en.vec) (curr, cd) hg
      split at h
      · cases h
      · next raw hraw =>
        simp only [Except.ok.injEq] at h
        exact ⟨curr, raw, hcurr, hraw, h.symm⟩

theorem searchSingle_ok {s : State V} {q : V} {k : Int} {thr : S} {F : List Id} {efo : Int}
    {res : List (Hit S)} (h : searchSingle m s q k thr F efo = .ok (.ok res)) :
    ∃ c, searchCands m s q thr F efo = .ok (.ok c) ∧
      res = (sortAsc m.sc.lt c).take (sanitizeK k (sortAsc m.sc.lt c).length) := by
  simp only [searchSingle] at h
  split at h
  · cases h
  · cases h
  · next c hc =>
    simp only [Except.ok.injEq] at h
    exact ⟨c, hc, h.symm⟩

/-- **State-level exactness** (clause 2 on one state); the entry point may be live or
    soft-deleted (`CurrGood`). -/
theorem search_exact_state (ord : m.sc.Ordered) (s : State V)
    (hcomp : Complete0 s) (hres : Resolves0 s) (hentry : CurrGood s s.entry) (hml : s.maxLevel ≠ -1)
    (q q' : V) (k : Int) (thr : S) (F : List Id) (efo : Int)
    (hq : m.dimOf q = s.dim) (hpre : m.pre q = some q')
    (hef : (liveIds s).length ≤ efUsed s efo) (res : List (Hit S))
    (h : searchSingle m s q k thr F efo = .ok (.ok res)) :
    IsTopK m.sc.le k (Flat.cands m (stateLive s) q' thr F) res := by
  obtain ⟨results, hc, rfl⟩ := searchSingle_ok m h
  obtain ⟨curr, raw, hcurr, hraw, rfl⟩ :=
    searchCands_unfold m s q q' thr F efo hq hml hpre hentry.1 results hc
  have hgood : CurrGood s curr := by
    rcases hcurr with rfl | hl
    · exact hentry
    · exact currGood_of_live hcomp hl
  have hperm := searchLayer0_perm_allHits m s hres q' curr _ hgood hef raw hraw
  refine IsTopK.of_perm (tail_isTopK m ord k _) ?_
  rw [cands_eq_filter]
  exact hperm.filter _

/-- **State-level non-emptiness** (clause 1 on one state): reachability is through any
    stored vertices, and the entry point may itself be soft-deleted. -/
theorem search_nonempty_state (ord : m.sc.Ordered) (s : State V)
    (hentry : s.nodes.contains s.entry = true) (hml : s.maxLevel ≠ -1)
    (v : Id) (hv : Live s v) (hreach : Reach (nbrsAt s 0) s.entry v)
    (q q' : V) (k efo : Int) (hq : m.dimOf q = s.dim) (hpre : m.pre q = some q')
    (res : List (Hit S)) (h : searchSingle m s q k m.sc.zero [] efo = .ok (.ok res)) :
    res ≠ [] := by
  obtain ⟨results, hc, rfl⟩ := searchSingle_ok m h
  obtain ⟨curr, raw, hcurr, hraw, rfl⟩ :=
    searchCands_unfold m s q q' m.sc.zero [] efo hq hml hpre hentry results hc
  have hne : raw ≠ [] := by
    rcases hcurr with rfl | hl
    · exact searchLayer_ne raw hraw v hreach hv.2
    · exact searchLayer_ne raw hraw curr Reach.refl hl.2
  have hfilter : (raw.filter fun c => Flat.eligible [] c.id && !Flat.thrSkip m.sc m.sc.zero c.score) = raw := by
    apply List.filter_eq_self.2
    intro a _
    simp [Flat.eligible, Flat.thrSkip, ord.lt_irrefl]
  rw [hfilter]
  have hlen : (sortAsc m.sc.lt raw).length = raw.length := (sortAsc_perm m.sc.lt raw).length_eq
  have hpos : 0 < raw.length := List.length_pos_iff.2 hne
  intro hnil
  have h0 := congrArg List.length hnil
  simp only [List.length_take, List.length_nil, hlen] at h0
  have : 0 < sanitizeK k raw.length := by
    unfold sanitizeK; split <;> omega
  omega

/-- **State-level reachability** (clause 3 on one state), in at most one step. -/
theorem reachable_state (s : State V) (hentry : CurrGood s s.entry) : Reachable s :=
  fun _ hi => hentry.reach (mem_liveIds.1 hi)

end

/-! ### from the model's Boolean forms `liveB`, `complete0B` (what the driver evaluates) to
    `Live`, `Complete0`, `Resolves0`, `CurrGood` -/

theorem liveB_iff {s : State V} {i : Id} : liveB s i = true ↔ Live s i := by
  simp [liveB, Live]

theorem complete0B_spec {s : State V} (h : complete0B s = true) (hent : s.nodes.contains s.entry = true) :
    Complete0 s ∧ Resolves0 s ∧ CurrGood s s.entry := by
  simp only [complete0B, List.all_eq_true, Bool.and_eq_true, Bool.or_eq_true, beq_iff_eq,
    List.contains_eq_mem, decide_eq_true_eq] at h
  obtain ⟨⟨h1, h2⟩, h3⟩ := h
  refine ⟨?_, ?_, hent, ?_⟩
  · intro u v hu hv hne
    rcases h1 u (mem_liveIds.2 hu) v (mem_liveIds.2 hv) with h | h
    · exact absurd h hne
    · exact h
  · intro u w hw
    by_cases hu : s.nodes.contains u = true
    · exact h2 u (IdMap.mem_keys.2 hu) w hw
    · simp [nbrsAt, IdMap.get?_eq_none (by simpa using hu)] at hw
  · intro v hv hne
    rcases h3 v (mem_liveIds.2 hv) with h | h
    · exact absurd h hne
    · exact h

end Comet.HNSW
