/-
  Helper lemmas for C14 (PQ / IVFPQ): shapes of tables and codes (codes stay below
  `ksub` ≤ 256, so the `uint8` conversion `trunc8` is invisible: `trunc8_le` … `lift_trunc8_eq`),
  the length of a reconstruction, the scan loop, the refinement of the PQ model to the flat
  "live list" spec of C01, and what a search computes (`searchSingle_topk`).
  Core Lean only.
-/
import CometProofs.Argmin
import CometProofs.Flat
namespace Comet.PQ

variable {S : Type}

section Shapes
variable (o : Ops S) (lt : S → S → Bool) (inf : S) (dsub : Nat)

theorem tablesFrom_eq (q : List S) (i : Nat) (cbs : List (List (List S))) :
    tablesFrom o dsub q i cbs =
      (cbs.zipIdx i).map fun p => p.1.map (sqDist o (subvec dsub p.2 q)) := by
  induction cbs generalizing i with
  | nil => rfl
  | cons cb rest ih => simp only [tablesFrom, List.zipIdx_cons, List.map_cons, ih]

theorem encodeRaw_length (cbs : List (List (List S))) (v : List S) :
    (encodeRaw o lt inf dsub cbs v).length = cbs.length := by
  simp [encodeRaw, tables, tablesFrom_eq]

theorem encodeRaw_getElem (cbs : List (List (List S))) (v : List S) (mi : Nat)
    (hm : mi < cbs.length) :
    (encodeRaw o lt inf dsub cbs v)[mi]'(by rw [encodeRaw_length]; exact hm) =
      argmin lt inf (cbs[mi].map (sqDist o (subvec dsub mi v))) := by
  simp [encodeRaw, tables, tablesFrom_eq]

/-- The table lookups of a scan are in range: the tables of one vector index the arg-min
    codes of another (same codebooks), also after a conversion that does not increase them. -/
theorem adcSumFrom_encoded_isSome (tr : Nat → Nat) (htr : ∀ c, tr c ≤ c) (q v : List S)
    (cbs : List (List (List S))) (hne : ∀ cb ∈ cbs, cb ≠ []) (i : Nat) (acc : S) :
    ∃ s, adcSumFrom o acc (tablesFrom o dsub q i cbs)
      (((tablesFrom o dsub v i cbs).map (argmin lt inf)).map tr) = some s := by
  induction cbs generalizing i acc with
  | nil => exact ⟨acc, rfl⟩
  | cons cb rest ih =>
    have hc : tr (argmin lt inf (cb.map (sqDist o (subvec dsub i v)))) <
        (cb.map (sqDist o (subvec dsub i q))).length := by
      have := argmin_lt lt inf (cb.map (sqDist o (subvec dsub i v)))
        (by simpa using hne cb List.mem_cons_self)
      simp only [List.length_map] at this ⊢
      exact Nat.lt_of_le_of_lt (htr _) this
    simp only [tablesFrom, List.map_cons, adcSumFrom, List.getElem?_eq_getElem hc]
    exact ih (fun c hc => hne c (List.mem_cons_of_mem _ hc)) _ _

theorem trunc8_le (c : Nat) : trunc8 c ≤ c := Nat.mod_le c 256

theorem adcSum_encoded_isSome (cbs : List (List (List S))) (hne : ∀ cb ∈ cbs, cb ≠ [])
    (tr : Nat → Nat) (htr : ∀ c, tr c ≤ c) (q v : List S) :
    ∃ s, adcSum o (tables o dsub cbs q) ((encodeRaw o lt inf dsub cbs v).map tr) = some s :=
  adcSumFrom_encoded_isSome o lt inf dsub tr htr q v cbs hne 0 o.zero

end Shapes

theorem cbWF_iff (M ksub dsub : Nat) (cbs : List (List (List S))) :
    cbWF M ksub dsub cbs = true ↔
      cbs.length = M ∧ ∀ cb ∈ cbs, cb.length = ksub ∧ ∀ w ∈ cb, w.length = dsub := by
  simp [cbWF, List.all_eq_true]

theorem cbWF_ne_nil {M ksub dsub : Nat} {cbs : List (List (List S))}
    (h : cbWF M ksub dsub cbs = true) (hk : 0 < ksub) : ∀ cb ∈ cbs, cb ≠ [] := by
  intro cb hcb hnil
  have := (((cbWF_iff M ksub dsub cbs).1 h).2 cb hcb).1
  rw [hnil] at this
  exact Nat.ne_of_lt hk this

theorem encodeRaw_lt {M ksub dsub : Nat} {cbs : List (List (List S))}
    (hwf : cbWF M ksub dsub cbs = true) (hk : 0 < ksub) (o : Ops S) (lt : S → S → Bool) (inf : S)
    (v : List S) : ∀ c ∈ encodeRaw o lt inf dsub cbs v, c < ksub := by
  intro c hc
  simp only [encodeRaw, tables, tablesFrom_eq, List.map_map, List.mem_map] at hc
  obtain ⟨p, hp, rfl⟩ := hc
  have hcb := List.fst_mem_of_mem_zipIdx hp
  have := argmin_lt lt inf (p.1.map (sqDist o (subvec dsub p.2 v)))
    (by simpa using cbWF_ne_nil hwf hk p.1 hcb)
  rw [List.length_map, (((cbWF_iff M ksub dsub cbs).1 hwf).2 p.1 hcb).1] at this
  exact this

theorem recon_length (dsub : Nat) (cbs : List (List (List S)))
    (hw : ∀ cb ∈ cbs, ∀ w ∈ cb, w.length = dsub) (code : List Nat) (r : List S)
    (h : recon cbs code = some r) : r.length = cbs.length * dsub := by
  induction cbs generalizing code r with
  | nil => cases h; simp
  | cons cb rest ih =>
    cases code with
    | nil => cases h
    | cons c cs =>
      simp only [recon] at h
      split at h
      · next w r' hc hr =>
        cases h
        rw [List.length_append, hw cb List.mem_cons_self w (List.mem_of_getElem? hc),
          ih (fun cb' h' => hw cb' (List.mem_cons_of_mem _ h')) cs r' hr, List.length_cons,
          Nat.succ_mul, Nat.add_comm]
      · cases h

/-- The scan loop computes the specification's candidates of the entries that are not
    soft-deleted, for any metric `M` over stored records whose distance to `q` is the ADC
    score against `tabs` on these entries, provided their table lookups are in range. -/
theorem scan_eq (M : Metric (Stored S) S) (A : Arith S) (tabs : List (List S)) (deleted : List Id)
    (q : Stored S) (thr : S) (filter : List Id) (entries : List (Id × Stored S))
    (hd : ∀ p ∈ entries, M.dist q p.2 = adcScore M.sc A tabs p.2.code)
    (hok : ∀ p ∈ entries, p.1 ∉ deleted → ∃ s, adcSum (A.ops M.sc) tabs p.2.code = some s) :
    scan M.sc A tabs deleted thr filter entries =
      some (Flat.cands M (entries.filter (fun p => p.1 ∉ deleted)) q thr filter) := by
  induction entries with
  | nil => rfl
  | cons p ps ih =>
    rw [scan, ih (fun p hp => hd p (List.mem_cons_of_mem _ hp))
      fun p hp => hok p (List.mem_cons_of_mem _ hp)]
    by_cases hdel : p.1 ∈ deleted
    · rw [if_pos hdel, List.filter_cons_of_neg (by simpa using hdel)]
    · obtain ⟨s, hs⟩ := hok p List.mem_cons_self hdel
      rw [if_neg hdel, List.filter_cons_of_pos (by simpa using hdel), hs]
      simp only [Flat.cands, List.filterMap_cons, hd p List.mem_cons_self, adcScore, hs,
        Option.getD_some]
      by_cases hel : (!Flat.eligible filter p.1) = true
      · rw [if_pos hel, if_pos hel]
      · rw [if_neg hel, if_neg hel]
        by_cases hth : Flat.thrSkip M.sc thr (A.sqrt s) = true
        · rw [if_pos hth, if_pos hth]
        · rw [if_neg hth, if_neg hth, Option.map_some]

/-- both searches end with `sort.Slice` and one `sanitizeK` against what was found -/
theorem sort_take_isTopK {sc : Scalar S} (ord : sc.Ordered) (k : Int) (xs : List (Hit S)) :
    IsTopK sc.le k xs ((xs.mergeSort (hitLe sc.le)).take
      (sanitizeK k (xs.mergeSort (hitLe sc.le)).length)) := by
  rw [List.length_mergeSort]
  exact selectK_isTopK sc.le ord.total ord.trans k xs

theorem mem_map_liftOp {ops : List (Flat.Op (List S))} {id : Id} {x : Stored S}
    (h : Flat.Op.add id x ∈ ops.map liftOp) : ∃ v, Flat.Op.add id v ∈ ops ∧ x = inject v := by
  obtain ⟨op, hop, hx⟩ := List.mem_map.1 h
  cases op with
  | add id' v => cases hx; exact ⟨v, hop, rfl⟩
  | remove id' => cases hx
  | flush => cases hx

variable (m : Metric (List S) S) (A : Arith S)

def toFlat (s : State S) : Flat.State (Stored S) := ⟨s.dim, s.entries, s.deleted⟩

/-- the lifted metric the code implements (`uint8` conversion included) -/
def mm (s : State S) : Metric (Stored S) S := lift m A trunc8 s.dsub s.cbs

/-- what does not change along a history -/
structure Same (s t : State S) : Prop where
  dim : t.dim = s.dim
  M : t.M = s.M
  nbits : t.nbits = s.nbits
  cbs : t.cbs = s.cbs
  trained : t.trained = s.trained

theorem Same.refl (s : State S) : Same s s := ⟨rfl, rfl, rfl, rfl, rfl⟩

theorem Same.dsub_eq {s t : State S} (h : Same s t) : t.dsub = s.dsub := by
  unfold State.dsub; rw [h.dim, h.M]

theorem Same.mm_eq {s t : State S} (h : Same s t) : mm m A t = mm m A s := by
  unfold mm; rw [h.dsub_eq, h.cbs]

/-- with no tombstones the filter keeps everything: `flushLocked` is one update in both cases -/
theorem flushLocked_eq (s : State S) :
    flushLocked s =
      { s with entries := s.entries.filter (fun p => p.1 ∉ s.deleted), deleted := [] } := by
  obtain ⟨_, _, _, _, _, es, del⟩ := s
  cases del
  · simp [flushLocked, List.filter_eq_self.2]
  · simp [flushLocked]

theorem snd_ite_ne {α β : Type} {c : Prop} [Decidable c] {a b : α × β} {x : β}
    (ha : a.2 ≠ x) (hb : b.2 ≠ x) : (if c then a else b).2 ≠ x := by
  split
  · exact ha
  · exact hb

/-- outcome `a` of a step of the PQ model from `s` matches outcome `b` of a flat step:
    same stored records and tombstones, same error (never a panic), parameters untouched -/
def Sim (s : State S) (a : State S × Out) (b : Flat.State (Stored S) × Option Err) : Prop :=
  toFlat a.1 = b.1 ∧ a.2 = b.2.elim .ok .err ∧ Same s a.1

theorem Sim.err (s : State S) (e : Err) : Sim s (s, .err e) (toFlat s, some e) :=
  ⟨rfl, rfl, Same.refl s⟩

theorem purge_toFlat (s : State S) (id : Id) :
    toFlat (if id ∈ s.deleted then flushLocked s else s) =
        (if id ∈ (toFlat s).deleted then Flat.flushed (toFlat s) else toFlat s) ∧
      Same s (if id ∈ s.deleted then flushLocked s else s) := by
  show _ = (if id ∈ s.deleted then _ else _) ∧ _
  split
  · rw [flushLocked_eq]; exact ⟨rfl, ⟨rfl, rfl, rfl, rfl, rfl⟩⟩
  · exact ⟨rfl, Same.refl s⟩

theorem step_sim (s : State S) (op : Flat.Op (List S)) (htr : s.trained = true) :
    Sim s (step m A s op) (Flat.step (mm m A s) (toFlat s) (liftOp op)) := by
  cases op with
  | add id v =>
    have hpre : (mm m A s).pre (inject v) = match m.pre v with
        | none => none
        | some v' => some ⟨v', 0, encode (A.ops m.sc) m.sc.lt A.inf s.dsub s.cbs v'⟩ := rfl
    rw [step, if_neg (by simp [htr])]
    refine Flat.rel_ite (fun _ => Sim.err s _) fun _ => ?_
    rw [hpre]
    cases m.pre v with
    | none => exact Sim.err s _
    | some v' =>
      obtain ⟨h1, h2⟩ := purge_toFlat s id
      refine ⟨?_, rfl, ⟨h2.dim, h2.M, h2.nbits, h2.cbs, h2.trained⟩⟩
      simp only [h2.dsub_eq, h2.cbs]
      rw [← h1]
      rfl
  | remove id =>
    exact Flat.rel_ite (fun _ => Sim.err s _) fun _ => Flat.rel_ite (fun _ => Sim.err s _) fun _ =>
      ⟨rfl, rfl, rfl, rfl, rfl, rfl, rfl⟩
  | flush =>
    rw [liftOp, Flat.step_flush, step, flushLocked_eq]
    exact ⟨rfl, rfl, rfl, rfl, rfl, rfl, rfl⟩

theorem run_toFlat (s : State S) (ops : List (Flat.Op (List S))) (htr : s.trained = true) :
    toFlat (run m A s ops) = Flat.run (mm m A s) (toFlat s) (ops.map liftOp) ∧
      Same s (run m A s ops) := by
  induction ops generalizing s with
  | nil => exact ⟨rfl, Same.refl s⟩
  | cons op t ih =>
    obtain ⟨hstep, _, hsame⟩ := step_sim m A s op htr
    obtain ⟨h1, h2⟩ := ih (step m A s op).1 (hsame.trained.trans htr)
    simp only [run, List.foldl_cons, List.map_cons, Flat.run] at h1 h2 ⊢
    refine ⟨?_, ?_⟩
    · rw [h1, hsame.mm_eq, hstep]
    · exact ⟨h2.dim.trans hsame.dim, h2.M.trans hsame.M, h2.nbits.trans hsame.nbits,
        h2.cbs.trans hsame.cbs, h2.trained.trans hsame.trained⟩

theorem train_ok_eq {s s0 : State S} {n : Nat} {dimsOK : Bool} {cbs : List (List (List S))}
    (h : train s n dimsOK cbs = (s0, .ok)) : s0 = { s with cbs := cbs, trained := true } := by
  unfold train at h
  by_cases h1 : n < s.ksub
  · rw [if_pos h1] at h; cases h
  · rw [if_neg h1] at h
    cases dimsOK <;> cases h
    rfl

/-- the constructors accept `Nbits` in 1..8 only: at most 256 codewords per subspace -/
theorem newOk_ksub_le {dim M nbits : Int} (h : newOk dim M nbits = true) :
    2 ^ nbits.toNat ≤ 256 := by
  have h8 : nbits ≤ 8 := of_decide_eq_true (Bool.and_eq_true_iff.1 h).2
  exact Nat.pow_le_pow_right (n := 2) (j := 8) (by decide) (by omega)

theorem lift_pre_some (tr : Nat → Nat) (dsub : Nat) (cbs : List (List (List S)))
    (x e : Stored S) (h : (lift m A tr dsub cbs).pre x = some e) :
    ∃ v', m.pre x.vec = some v' ∧
      e = ⟨v', 0, (encodeRaw (A.ops m.sc) m.sc.lt A.inf dsub cbs v').map tr⟩ := by
  simp only [lift] at h
  split at h
  · cases h
  · next v' hp => cases h; exact ⟨v', hp, rfl⟩

/-- for code sizes of at most 8 bits the `uint8` conversion is invisible -/
theorem map_trunc8_encodeRaw {M ksub dsub : Nat} {cbs : List (List (List S))}
    (hwf : cbWF M ksub dsub cbs = true) (hk : 0 < ksub) (hk8 : ksub ≤ 256) (o : Ops S)
    (lt : S → S → Bool) (inf : S) (v : List S) :
    (encodeRaw o lt inf dsub cbs v).map trunc8 = (encodeRaw o lt inf dsub cbs v).map id :=
  List.map_congr_left fun c hc =>
    Nat.mod_eq_of_lt (Nat.lt_of_lt_of_le (encodeRaw_lt hwf hk o lt inf v c hc) hk8)

theorem lift_trunc8_eq {M ksub dsub : Nat} {cbs : List (List (List S))}
    (hwf : cbWF M ksub dsub cbs = true) (hk : 0 < ksub) (hk8 : ksub ≤ 256) :
    lift m A trunc8 dsub cbs = lift m A id dsub cbs := by
  simp only [lift, map_trunc8_encodeRaw hwf hk hk8]

theorem searchSingle_topk (ord : m.sc.Ordered) (s : State S)
    (hne : ∀ cb ∈ s.cbs, cb ≠ []) (htr : s.trained = true)
    (l : List (Id × Stored S)) (heff : Flat.eff (toFlat s) = l)
    (hl : ∀ p ∈ l, ∃ x, (mm m A s).pre x = some p.2)
    (q q' : List S) (hq : q.length = s.dim) (hpre : m.pre q = some q')
    (k : Int) (thr : S) (F : List Id) :
    ∃ res, searchSingle m A s q k thr F = .ok res ∧
      IsTopK m.sc.le k (Flat.cands (mm m A s) l (inject q') thr F) res := by
  have hok : ∀ p ∈ s.entries, p.1 ∉ s.deleted →
      ∃ x, adcSum (A.ops m.sc) (tables (A.ops m.sc) s.dsub s.cbs q') p.2.code = some x := by
    intro p hp hnd
    obtain ⟨x, hx⟩ := hl p (heff ▸ List.mem_filter.2 ⟨hp, decide_eq_true hnd⟩)
    obtain ⟨v', _, he⟩ := lift_pre_some m A trunc8 s.dsub s.cbs x p.2 hx
    rw [he]
    exact adcSum_encoded_isSome _ _ _ _ _ hne trunc8 trunc8_le q' v'
  have hscan : scan m.sc A (tables (A.ops m.sc) s.dsub s.cbs q') s.deleted thr F s.entries =
      some (Flat.cands (mm m A s) l (inject q') thr F) :=
    heff ▸ scan_eq (mm m A s) A _ s.deleted (inject q') thr F s.entries (fun _ _ => rfl) hok
  simp only [searchSingle, htr, hq, Bool.not_true, Bool.false_eq_true, if_false, ne_eq,
    not_true_eq_false, hpre, hscan]
  split
  · -- the early return for an index without entries: there are no candidates either
    next hem =>
    have hnil : l = [] := by rw [← heff, Flat.eff, toFlat, List.isEmpty_iff.1 hem]; rfl
    rw [hnil]
    exact ⟨[], rfl, isTopK_nil _ k⟩
  · exact ⟨_, rfl, sort_take_isTopK ord k _⟩

end Comet.PQ
