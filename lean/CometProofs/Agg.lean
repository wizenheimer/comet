/-
  Lemmas for C19 and C03 (aggregation.go): grouping by id, the three reductions,
  invariance under permutation of the input.
-/
import Comet.Agg
import CometProofs.Order
namespace Comet

variable {S : Type}

theorem mem_firstIds (l : List Id) (i : Id) : i ∈ firstIds l ↔ i ∈ l := by
  induction l with
  | nil => rfl
  | cons a t ih =>
    rw [firstIds, List.mem_cons, List.mem_cons, List.mem_filter, ih, bne_iff_ne]
    by_cases h : i = a
    · exact iff_of_true (.inl h) (.inl h)
    · rw [and_iff_left h]

theorem firstIds_nodup (l : List Id) : (firstIds l).Nodup := by
  induction l with
  | nil => exact .nil
  | cons a t ih =>
    refine List.nodup_cons.2 ⟨fun h => ?_, ih.sublist List.filter_sublist⟩
    exact absurd (List.mem_filter.1 h).2 (by rw [bne_self_eq_false]; exact Bool.false_ne_true)

/-- the aggregated hits before sorting -/
def aggList (sc : Scalar S) (kind : AggKind) (xs : List (Hit S)) : List (Hit S) :=
  (groupScores xs).map fun p => (⟨p.1, reduceVec sc kind p.2⟩ : Hit S)

theorem aggList_eq (sc : Scalar S) (kind : AggKind) (xs : List (Hit S)) :
    aggList sc kind xs =
      (firstIds (xs.map (·.id))).map fun i => (⟨i, reduceVec sc kind (scoresOf i xs)⟩ : Hit S) := by
  rw [aggList, groupScores, List.map_map]
  rfl

theorem aggList_ids (sc : Scalar S) (kind : AggKind) (xs : List (Hit S)) :
    (aggList sc kind xs).map (·.id) = firstIds (xs.map (·.id)) := by
  rw [aggList_eq, List.map_map]
  exact List.map_id _

theorem mem_aggList (sc : Scalar S) (kind : AggKind) (xs : List (Hit S)) (h : Hit S) :
    h ∈ aggList sc kind xs ↔
      h.id ∈ xs.map (·.id) ∧ h.score = reduceVec sc kind (scoresOf h.id xs) := by
  rw [aggList_eq, List.mem_map]
  constructor
  · rintro ⟨i, hi, rfl⟩
    exact ⟨(mem_firstIds _ _).1 hi, rfl⟩
  · rintro ⟨h1, h2⟩
    exact ⟨h.id, (mem_firstIds _ _).2 h1, h2 ▸ rfl⟩

theorem vecAggregate_perm (sc : Scalar S) (kind : AggKind) (xs : List (Hit S)) :
    (vecAggregate sc kind xs).Perm (aggList sc kind xs) := List.mergeSort_perm _ _

theorem textAggregate_perm (sc : Scalar S) (kind : AggKind) (xs : List (Hit S)) :
    (textAggregate sc kind xs).Perm (aggList sc kind xs) := List.mergeSort_perm _ _

theorem pairwise_mergeSort_desc (sc : Scalar S) (ord : sc.Ordered) (l : List (Hit S)) :
    (l.mergeSort (hitLe fun a b => sc.le b a)).Pairwise fun a b => sc.le b.score a.score = true :=
  List.pairwise_mergeSort (le := hitLe fun a b => sc.le b a)
    (fun a b c h1 h2 => ord.trans c.score b.score a.score h2 h1)
    (fun a b => by have := ord.total b.score a.score; simpa [hitLe, Bool.or_comm] using this) _

theorem scoresOf_ne_nil (xs : List (Hit S)) (i : Id) : scoresOf i xs ≠ [] ↔ i ∈ xs.map (·.id) := by
  simp [scoresOf]

/-- what both sorted outputs (vector: ascending, text: descending) inherit from `aggList`,
    of which they are permutations: each input id once, with the reduction of its scores -/
theorem agg_of_perm (sc : Scalar S) (kind : AggKind) (xs : List (Hit S)) {out : List (Hit S)}
    (hp : out.Perm (aggList sc kind xs)) :
    ((out.map (·.id)).Nodup ∧ ∀ i, i ∈ out.map (·.id) ↔ i ∈ xs.map (·.id)) ∧
    (∀ h ∈ out, scoresOf h.id xs ≠ [] ∧ h.score = reduceVec sc kind (scoresOf h.id xs)) ∧
    ∀ i ∈ xs.map (·.id), (⟨i, reduceVec sc kind (scoresOf i xs)⟩ : Hit S) ∈ out := by
  have hid := hp.map (·.id)
  rw [aggList_ids] at hid
  refine ⟨⟨hid.nodup_iff.2 (firstIds_nodup _), fun i => by rw [hid.mem_iff, mem_firstIds]⟩,
    fun h hh => ?_, fun i hi => hp.symm.subset ((mem_aggList sc kind xs _).2 ⟨hi, rfl⟩)⟩
  have := (mem_aggList sc kind xs h).1 (hp.subset hh)
  exact ⟨(scoresOf_ne_nil xs h.id).2 this.1, this.2⟩

theorem scoresOf_perm {xs ys : List (Hit S)} (h : xs.Perm ys) (i : Id) :
    (scoresOf i xs).Perm (scoresOf i ys) := (h.filter _).map _

/-- the running-maximum step of both the vector and the text max aggregation -/
def maxStep (sc : Scalar S) (m x : S) : S := if sc.lt m x then x else m

theorem maxStep_spec (sc : Scalar S) (ord : sc.Ordered) (s y : S) :
    sc.le s (maxStep sc s y) = true ∧ sc.le y (maxStep sc s y) = true ∧
      (maxStep sc s y = s ∨ maxStep sc s y = y) := by
  unfold maxStep
  split
  next hlt =>
    rw [ord.lt_iff, Bool.not_eq_true'] at hlt
    have := ord.total s y
    rw [hlt, Bool.or_false] at this
    exact ⟨this, ord.le_refl y, .inr rfl⟩
  next hlt =>
    rw [ord.lt_iff, Bool.not_eq_true', Bool.not_eq_false] at hlt
    exact ⟨ord.le_refl s, hlt, .inl rfl⟩

theorem foldl_max_spec (sc : Scalar S) (ord : sc.Ordered) (l : List S) (s : S) :
    l.foldl (maxStep sc) s ∈ s :: l ∧ ∀ x ∈ s :: l, sc.le x (l.foldl (maxStep sc) s) = true := by
  induction l generalizing s with
  | nil => exact ⟨List.mem_cons_self .., List.forall_mem_cons.2 ⟨ord.le_refl s, nofun⟩⟩
  | cons y l ih =>
    obtain ⟨h1, h2⟩ := ih (maxStep sc s y)
    obtain ⟨h2, h3⟩ := List.forall_mem_cons.1 h2
    obtain ⟨hs, hy, hm⟩ := maxStep_spec sc ord s y
    rw [List.foldl_cons]
    refine ⟨?_, List.forall_mem_cons.2 ⟨ord.trans _ _ _ hs h2,
      List.forall_mem_cons.2 ⟨ord.trans _ _ _ hy h2, h3⟩⟩⟩
    rcases List.mem_cons.1 h1 with h1 | h1
    · rw [h1]
      rcases hm with e | e
      · rw [e]; exact List.mem_cons_self ..
      · rw [e]; exact List.mem_cons_of_mem _ (List.mem_cons_self ..)
    · exact List.mem_cons_of_mem _ (List.mem_cons_of_mem _ h1)

theorem maxScores_spec (sc : Scalar S) (ord : sc.Ordered) (ss : List S) (hne : ss ≠ []) :
    maxScores sc ss ∈ ss ∧ ∀ x ∈ ss, sc.le x (maxScores sc ss) = true := by
  cases ss with
  | nil => exact absurd rfl hne
  | cons s ss => exact foldl_max_spec sc ord ss s

theorem maxScores_perm (sc : Scalar S) (ord : sc.Ordered)
    (antisymm : ∀ a b : S, sc.le a b → sc.le b a → a = b)
    {l₁ l₂ : List S} (h : l₁.Perm l₂) : maxScores sc l₁ = maxScores sc l₂ := by
  by_cases hn : l₁ = []
  · subst hn; rw [List.nil_perm.1 h]
  · have hn2 : l₂ ≠ [] := fun e => hn (by subst e; exact List.perm_nil.1 h)
    obtain ⟨m1, u1⟩ := maxScores_spec sc ord l₁ hn
    obtain ⟨m2, u2⟩ := maxScores_spec sc ord l₂ hn2
    exact antisymm _ _ (u2 _ (h.subset m1)) (u1 _ (h.symm.subset m2))

theorem sumScores_perm (sc : Scalar S)
    (add_comm : ∀ a b : S, sc.add a b = sc.add b a)
    (add_assoc : ∀ a b c : S, sc.add (sc.add a b) c = sc.add a (sc.add b c))
    {l₁ l₂ : List S} (h : l₁.Perm l₂) : sumScores sc l₁ = sumScores sc l₂ :=
  h.foldl_eq' (fun x _ y _ b => by rw [add_assoc, add_comm x y, ← add_assoc]) _

theorem reduceVec_perm (sc : Scalar S) (ord : sc.Ordered)
    (antisymm : ∀ a b : S, sc.le a b → sc.le b a → a = b)
    (add_comm : ∀ a b : S, sc.add a b = sc.add b a)
    (add_assoc : ∀ a b c : S, sc.add (sc.add a b) c = sc.add a (sc.add b c))
    (kind : AggKind) {l₁ l₂ : List S} (h : l₁.Perm l₂) :
    reduceVec sc kind l₁ = reduceVec sc kind l₂ := by
  cases kind with
  | sum => exact sumScores_perm sc add_comm add_assoc h
  | max => exact maxScores_perm sc ord antisymm h
  | mean =>
    simp only [reduceVec]
    rw [sumScores_perm sc add_comm add_assoc h, h.length_eq]

theorem aggList_perm (sc : Scalar S) (ord : sc.Ordered)
    (antisymm : ∀ a b : S, sc.le a b → sc.le b a → a = b)
    (add_comm : ∀ a b : S, sc.add a b = sc.add b a)
    (add_assoc : ∀ a b c : S, sc.add (sc.add a b) c = sc.add a (sc.add b c))
    (kind : AggKind) {xs ys : List (Hit S)} (h : xs.Perm ys) :
    (aggList sc kind xs).Perm (aggList sc kind ys) := by
  rw [aggList_eq, aggList_eq]
  have hf : (fun i => (⟨i, reduceVec sc kind (scoresOf i xs)⟩ : Hit S)) =
      fun i => (⟨i, reduceVec sc kind (scoresOf i ys)⟩ : Hit S) := by
    funext i
    rw [reduceVec_perm sc ord antisymm add_comm add_assoc kind (scoresOf_perm h i)]
  rw [hf]
  apply List.Perm.map
  rw [List.perm_ext_iff_of_nodup (firstIds_nodup _) (firstIds_nodup _)]
  intro i
  rw [mem_firstIds, mem_firstIds]
  exact (h.map _).mem_iff

end Comet
