/-
  Lemmas for C20 (quantiser part): the two roundings on ℚ, the exponent selection of the
  binary16 model, and the int8 quantiser over ℚ (absolute maximum, trained quantise /
  dequantise).
-/
import Mathlib.Data.Rat.Floor
import Mathlib.Algebra.Order.Field.Basic
import Mathlib.Tactic.Linarith
import Mathlib.Tactic.Ring
import Mathlib.Tactic.Positivity
import Mathlib.Tactic.FieldSimp
import Mathlib.Tactic.NormNum
import Comet.Quant
import Comet.DistanceF32
namespace Comet.Quant
open Comet.Dist

theorem floor_le' (t : ℚ) : ((t.floor : ℤ) : ℚ) ≤ t := Int.floor_le t
theorem lt_floor_add_one' (t : ℚ) : t < ((t.floor : ℤ) : ℚ) + 1 := Int.lt_floor_add_one t

theorem rabs_eq (x : ℚ) : rabs x = |x| := by
  unfold rabs
  split
  · next h => rw [abs_of_neg h]
  · next h => rw [abs_of_nonneg (not_lt.1 h)]

/-- `z` is a nearest integer of `t` -/
theorem abs_sub_le_half {t z : ℚ} (h1 : z ≤ t + 1 / 2) (h2 : t ≤ z + 1 / 2) : |t - z| ≤ 1 / 2 :=
  abs_sub_le_iff.2 ⟨sub_le_iff_le_add'.2 h2, sub_le_iff_le_add'.2 h1⟩

/-- round-to-nearest-even is within one half: the floor when the fractional part is at
    most ½, the next integer when it is at least ½ -/
theorem rne_err (t : ℚ) : |t - (rne t : ℚ)| ≤ 1 / 2 := by
  have down : t - t.floor ≤ 1 / 2 → |t - (t.floor : ℚ)| ≤ 1 / 2 := fun h =>
    abs_sub_le_half ((floor_le' t).trans (le_add_of_nonneg_right one_half_pos.le))
      (sub_le_iff_le_add'.1 h)
  have up : 1 / 2 ≤ t - t.floor → |t - ((t.floor + 1 : ℤ) : ℚ)| ≤ 1 / 2 := fun h => by
    have h' := add_le_add (le_sub_iff_add_le'.1 h) (le_refl (1 / 2 : ℚ))
    rw [add_assoc, add_halves] at h'
    rw [Int.cast_add, Int.cast_one]
    exact abs_sub_le_half h' ((lt_floor_add_one' t).le.trans (le_add_of_nonneg_right one_half_pos.le))
  unfold rne
  simp only
  split
  next h => exact down h.le
  split
  next h => exact up h.le
  next h1 h2 =>
    split
    · exact down (not_lt.1 h2)
    · exact up (not_lt.1 h1)

/-- `math.Round` is within one half -/
theorem roundHalfAway_err (t : ℚ) : |t - (roundHalfAway t : ℚ)| ≤ 1 / 2 := by
  have pos : ∀ s : ℚ, |s - ((s + 1 / 2).floor : ℚ)| ≤ 1 / 2 := fun s =>
    abs_sub_le_half (floor_le' _) (by linarith [lt_floor_add_one' (s + 1 / 2)])
  unfold roundHalfAway
  split
  · exact pos t
  · rw [Int.cast_neg, sub_neg_eq_add, ← abs_neg, neg_add, ← sub_eq_add_neg]
    exact pos (-t)

theorem abs_le_of_near {t : ℚ} {z : ℤ} (n : ℤ) (herr : |t - (z : ℚ)| ≤ 1 / 2) (h : |t| ≤ (n : ℚ)) :
    |z| ≤ n := by
  have h1 : |(z : ℚ)| ≤ |t| + |t - (z : ℚ)| :=
    (congrArg abs (sub_sub_cancel t (z : ℚ))).symm.trans_le (abs_sub t (t - z))
  have h2 : ((|z| : ℤ) : ℚ) < ((n + 1 : ℤ) : ℚ) := by
    rw [Int.cast_abs, Int.cast_add, Int.cast_one]
    linarith
  exact Int.lt_add_one_iff.1 (Int.cast_lt.1 h2)

theorem rne_abs_le (t : ℚ) (n : ℤ) (h : |t| ≤ (n : ℚ)) : |rne t| ≤ n := abs_le_of_near n (rne_err t) h

theorem roundHalfAway_abs_le (t : ℚ) (n : ℤ) (h : |t| ≤ (n : ℚ)) : |roundHalfAway t| ≤ n :=
  abs_le_of_near n (roundHalfAway_err t) h

/-- rounding `X` to a multiple of `Q`: if `r` is a nearest integer of `X / Q`, then
    `r · Q` is within `Q / 2` of `X` -/
theorem scaled_near {X Q r : ℚ} (hQ : 0 < Q) (hr : |X / Q - r| ≤ 1 / 2) : |r * Q - X| ≤ Q / 2 := by
  have e : r * Q - X = -((X / Q - r) * Q) := by rw [sub_mul, div_mul_cancel₀ _ hQ.ne', neg_sub]
  rw [e, abs_neg, abs_mul, abs_of_pos hQ]
  exact (mul_le_mul_of_nonneg_right hr hQ.le).trans_eq (one_div_mul_eq_div _ _)

/-- from the scaled value back to `x`: an absolute error of half a unit `Q ≤ |x·c| / 2¹⁰`
    is a relative error of 2⁻¹¹ -/
theorem rel_err_of_scaled {x R Q c : ℚ} (hc : 0 < c) (herr : |R - x * c| ≤ Q / 2)
    (hQ : Q * 1024 ≤ |x| * c) : |R / c - x| ≤ |x| / 2048 := by
  have e : R / c - x = (R - x * c) / c := by rw [sub_div, mul_div_cancel_right₀ x hc.ne']
  rw [e, abs_div, abs_of_pos hc, div_le_iff₀ hc]
  linarith

theorem scaled_rne_abs_le (X : ℚ) (Q n : ℤ) (hQ : 0 < Q) (h : |X| ≤ (n : ℚ) * (Q : ℚ)) :
    |rne (X / (Q : ℚ)) * Q| ≤ n * Q := by
  have hQ' : (0 : ℚ) < Q := Int.cast_pos.2 hQ
  have := rne_abs_le (X / Q) n (by rw [abs_div, abs_of_pos hQ', div_le_iff₀ hQ']; exact h)
  rw [abs_mul, abs_of_pos hQ]
  exact mul_le_mul_of_nonneg_right this hQ.le

theorem wrap8_id (z : ℤ) (h : |z| ≤ 127) : wrap8 z = z := by
  obtain ⟨h1, h2⟩ := abs_le.1 h
  exact Int.bmod_eq_of_le (by omega) (by omega)

theorem halfExpFrom_spec (aX : ℚ) (n : ℕ) :
    10 ≤ halfExpFrom aX n ∧ halfExpFrom aX n ≤ 10 + n ∧
    (10 < halfExpFrom aX n → (2 : ℚ) ^ halfExpFrom aX n ≤ aX) ∧
    (halfExpFrom aX n < 10 + n → aX < (2 : ℚ) ^ (halfExpFrom aX n + 1)) := by
  induction n with
  | zero => exact ⟨Nat.le_refl _, Nat.le_refl _, fun h => absurd h (Nat.lt_irrefl _),
      fun h => absurd h (Nat.lt_irrefl _)⟩
  | succ m ih =>
    rw [halfExpFrom]
    split
    next h => exact ⟨Nat.le_add_right 10 _, Nat.le_refl _, fun _ => h, fun hlt => absurd hlt (Nat.lt_irrefl _)⟩
    next h =>
      obtain ⟨h1, h2, h3, h4⟩ := ih
      refine ⟨h1, Nat.le_succ_of_le h2, h3, fun _ => ?_⟩
      rcases h2.lt_or_eq with hE | hE
      · exact h4 hE
      · rw [hE]; exact not_le.1 h

theorem abs_mul_two_pow (x : ℚ) : |x * 2 ^ 24| = |x| * 2 ^ 24 := by
  rw [abs_mul, abs_of_pos (by positivity : (0 : ℚ) < 2 ^ 24)]

/-- what both half-precision theorems use of `halfRound`: the scaled value is rounded to
    a multiple of `2^(E-10)`, where `E ∈ [10, 39]` is the binary exponent of the scaled
    value (clamped to that interval) -/
theorem halfRound_spec (x : ℚ) : ∃ E : ℕ, 10 ≤ E ∧ E ≤ 39 ∧
    (10 < E → (2 : ℚ) ^ E ≤ |x| * 2 ^ 24) ∧ (E < 39 → |x| * 2 ^ 24 < (2 : ℚ) ^ (E + 1)) ∧
    halfRound x = rne (x * 2 ^ 24 / (((2 : ℤ) ^ (E - 10) : ℤ) : ℚ)) * (2 : ℤ) ^ (E - 10) := by
  obtain ⟨h1, h2, h3, h4⟩ := halfExpFrom_spec (rabs (x * 2 ^ 24)) 29
  refine ⟨halfExp (rabs (x * 2 ^ 24)), h1, h2, ?_, ?_, rfl⟩
  · rw [← abs_mul_two_pow, ← rabs_eq]; exact h3
  · rw [← abs_mul_two_pow, ← rabs_eq]; exact h4

theorem ofInt8_rat (q : ℤ) : ofInt8 ratOps q = (q : ℚ) := by
  have h3 : ((q.natAbs : ℕ) : ℚ) = |(q : ℚ)| := by rw [Nat.cast_natAbs, Int.cast_abs]
  unfold ofInt8
  split
  next h =>
    show -((q.natAbs : ℕ) : ℚ) = q
    rw [h3, abs_of_neg (Int.cast_lt_zero.2 h), neg_neg]
  next h =>
    show ((q.natAbs : ℕ) : ℚ) = q
    rw [h3, abs_of_nonneg (Int.cast_nonneg (not_lt.1 h))]

theorem absMaxStep_rat (m y : ℚ) : m ≤ absMaxStep ratOps m y ∧ |y| ≤ absMaxStep ratOps m y := by
  have habs : absS ratOps y = |y| := by
    rw [← rabs_eq, absS, rabs]
    simp only [ratOps, decide_eq_true_eq]
  unfold absMaxStep
  simp only [habs]
  simp only [ratOps, decide_eq_true_eq]
  split
  · next h => exact ⟨h.le, le_refl _⟩
  · next h => exact ⟨le_refl _, not_lt.1 h⟩

theorem quantInt8_trained {S : Type} (o : Ops S) (round : S → Int) (A : S) (h : isTrained o A = true)
    (v : List S) : quantInt8 o round A v =
      some (v.map fun val => wrap8 (round (o.mul (o.div val A) (o.ofNat 127)))) := by
  rw [quantInt8, h]; rfl

theorem deqInt8_trained {S : Type} (o : Ops S) (A : S) (h : isTrained o A = true) (qs : List Int) :
    deqInt8 o A qs = some (qs.map fun q => o.mul (o.div (ofInt8 o q) (o.ofNat 127)) A) := by
  rw [deqInt8, h]; rfl

theorem foldl_covers {α : Type} (f : ℚ → α → ℚ) (c : α → ℚ → Prop)
    (hf : ∀ m a, m ≤ f m a ∧ c a (f m a)) (hc : ∀ a m m', c a m → m ≤ m' → c a m')
    (l : List α) (m0 : ℚ) : m0 ≤ l.foldl f m0 ∧ ∀ a ∈ l, c a (l.foldl f m0) := by
  induction l generalizing m0 with
  | nil => exact ⟨le_rfl, nofun⟩
  | cons a t ih =>
    obtain ⟨h1, h2⟩ := ih (f m0 a)
    exact ⟨(hf m0 a).1.trans h1, List.forall_mem_cons.2 ⟨hc a _ _ (hf m0 a).2 h1, h2⟩⟩

theorem isTrained_rat (A : ℚ) : isTrained ratOps A = decide (0 < A) := rfl

end Comet.Quant
