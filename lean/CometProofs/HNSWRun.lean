/-
  The invariant along whole histories, under which the live `(id, vector)` pairs follow the
  flat specification; `smallRegime` and what Properties/C12 uses of it: `regime_exact`,
  `regime_reachable`, `regime_nonempty` (helper lemmas for C12).
-/
import CometProofs.HNSWInv
namespace Comet.HNSW

variable {V S : Type}

theorem nodupB_iff : ∀ l : List Id, nodupB l = true ↔ l.Nodup
  | [] => by simp [nodupB]
  | a :: t => by simp [nodupB, nodupB_iff t]

theorem stateLive_nodup (s : State V) : (stateLive s).Nodup :=
  List.Nodup.of_map _ (stateLive_ids_nodup s)

theorem KeepsLive.stateLive_perm {s s' : State V} (h : KeepsLive s s') :
    (stateLive s').Perm (stateLive s) := by
  rw [List.perm_ext_iff_of_nodup (stateLive_nodup _) (stateLive_nodup _)]
  rintro ⟨i, w⟩
  simp only [mem_stateLive, h.live]
  constructor
  · rintro ⟨hl, n1, hn1, rfl⟩
    obtain ⟨n0, hn0⟩ := IdMap.contains_iff.1 hl.1
    obtain ⟨n', hn', hv'⟩ := h.vec i n0 hl hn0
    rw [hn'] at hn1; cases hn1
    exact ⟨hl, n0, hn0, hv'.symm⟩
  · rintro ⟨hl, n0, hn0, rfl⟩
    obtain ⟨n', hn', hv'⟩ := h.vec i n0 hl hn0
    exact ⟨hl, n', hn', hv'⟩

theorem stateLive_remove (s : State V) (id : Id) :
    (stateLive (remove s id).1).Perm ((stateLive s).filter fun p => p.1 != id) := by
  obtain ⟨hn, _, _, _, hd⟩ := remove_spec s id
  rw [List.perm_ext_iff_of_nodup (stateLive_nodup _) ((stateLive_nodup s).sublist List.filter_sublist)]
  rintro ⟨i, w⟩
  simp only [List.mem_filter, mem_stateLive, Live, hn, hd, Bool.or_eq_false_iff,
    Bool.and_eq_false_iff, decide_eq_false_iff_not, bne_iff_ne, ne_eq]
  constructor
  · rintro ⟨⟨hc1, hd1, hd2⟩, hn'⟩
    refine ⟨⟨⟨hc1, hd1⟩, hn'⟩, ?_⟩
    rintro rfl
    rcases hd2 with hd2 | hd2
    · exact hd2 rfl
    · rw [hc1] at hd2; cases hd2
  · rintro ⟨⟨⟨hc1, hd1⟩, hn'⟩, hne⟩
    exact ⟨⟨hc1, hd1, Or.inl (fun hh => hne hh.symm)⟩, hn'⟩

section
variable (m : Metric V S)

theorem AddEffect.stateLive_perm {s s' : State V} {x : Id} {v : V} {e : Option Err}
    (heff : AddEffect m s s' x v e) (hfresh : s.nodes.contains x = false) :
    (stateLive s').Perm (Flat.specStep m s.dim (stateLive s) (.add x v)) := by
  cases he : e with
  | some err =>
    obtain ⟨rfl, hwhy⟩ := heff.rejected (by simp [he])
    simp only [Flat.specStep]
    rcases hwhy with h1 | h1
    · simp [h1]
    · split
      · exact .refl _
      · simp [h1]
  | none =>
    obtain ⟨v', hdim, hpre, hlive, hold, ⟨nx, hnx, hnxv⟩, _⟩ := heff.accepted he
    simp only [Flat.specStep, hdim, ne_eq, not_true_eq_false, if_false, hpre]
    have hnd : (stateLive s ++ [(x, v')]).Nodup := by
      rw [List.nodup_append]
      refine ⟨stateLive_nodup s, by simp, ?_⟩
      intro a ha b hb
      simp only [List.mem_singleton] at hb
      rintro rfl; subst hb
      have := (mem_stateLive.1 ha).1.1
      rw [hfresh] at this; cases this
    rw [List.perm_ext_iff_of_nodup (stateLive_nodup s') hnd]
    rintro ⟨i, w⟩
    simp only [List.mem_append, List.mem_singleton, Prod.mk.injEq, mem_stateLive]
    constructor
    · rintro ⟨hl1, n1, hn1', rfl⟩
      rcases (hlive i).1 hl1 with rfl | hl0
      · rw [hnx] at hn1'; cases hn1'
        exact Or.inr ⟨rfl, hnxv⟩
      · obtain ⟨n0, hn0⟩ := IdMap.contains_iff.1 hl0.1
        obtain ⟨n', hn', hv'⟩ := hold i n0 hl0 hn0
        rw [hn'] at hn1'; cases hn1'
        exact Or.inl ⟨hl0, n0, hn0, hv'.symm⟩
    · rintro (⟨hl0, n0, hn0, rfl⟩ | ⟨rfl, rfl⟩)
      · obtain ⟨n', hn', hv'⟩ := hold i n0 hl0 hn0
        exact ⟨(hlive i).2 (Or.inr hl0), n', hn', hv'⟩
      · exact ⟨(hlive i).2 (Or.inl rfl), nx, hnx, hnxv⟩

theorem specStep_perm (dim : Nat) {l l' : List (Id × V)} (h : l.Perm l') (op : Flat.Op V) :
    (Flat.specStep m dim l op).Perm (Flat.specStep m dim l' op) := by
  cases op with
  | add id v =>
    simp only [Flat.specStep]
    split
    · exact h
    · split
      · exact h
      · exact h.append_right _
  | remove id => exact h.filter _
  | flush => exact h

theorem residentsLe_head (n : Nat) (s : State V) (ops : List (Op V))
    (h : residentsLe m n s ops = true) : s.nodes.count ≤ n := by
  cases ops with
  | nil => simpa [residentsLe, along] using h
  | cons op rest =>
    simp only [residentsLe, along_cons, Bool.and_eq_true, decide_eq_true_eq] at h
    exact h.1

theorem residentsLe_cons {n : Nat} {s s' : State V} {op : Op V} {rest : List (Op V)}
    (h : residentsLe m n s (op :: rest) = true) (hs : step m s op = .ok s') :
    residentsLe m n s' rest = true := by
  simp only [residentsLe, along_cons, hs, Bool.and_eq_true] at h
  exact h.2

theorem step_inv {n : Nat} {s s' : State V} {op : Op V} {rest : List (Op V)}
    (hinv : Inv s) (hn1 : n ≤ 2 * s.M + 1) (hn2 : n ≤ s.efC)
    (hfresh : FreshFor s (op :: rest)) (hv : validPicks m s (op :: rest) = true)
    (hcount : s'.nodes.count ≤ n) (hs : step m s op = .ok s') :
    Inv s' ∧ (stateLive s').Perm (Flat.specStep m s.dim (stateLive s) op.toFlat) := by
  obtain ⟨hpf, hpa, _⟩ := validPicks_cons m hv hs
  cases op with
  | add x v level pk =>
    simp only [step] at hs
    split at hs
    · next s1 e hadd =>
      simp only [Except.ok.injEq] at hs; subst hs
      have hxf : s.nodes.contains x = false := hfresh.2 x (by simp [addedIds_cons_add])
      exact ⟨add_inv m hinv hxf (fun hd => hpa x v level pk rfl (by simp [addFlushes, hd]))
          (by omega) (by omega) hadd,
        (add_effect m hxf (hinv.not_deleted_of_fresh hxf) hadd).stateLive_perm m hxf⟩
    · cases hs
  | remove id =>
    simp only [step, Except.ok.injEq] at hs; subst hs
    exact ⟨remove_inv s id hinv, stateLive_remove s id⟩
  | flush e =>
    simp only [step, Except.ok.injEq] at hs; subst hs
    exact ⟨flush_inv s e hinv (hpf e rfl), (flushTo_keepsLive s e).stateLive_perm⟩

theorem run_inv (n : Nat) (ops : List (Op V)) (s0 s : State V) (l0 : List (Id × V))
    (hinv : Inv s0) (hn1 : n ≤ 2 * s0.M + 1) (hn2 : n ≤ s0.efC) (hfresh : FreshFor s0 ops)
    (hv : validPicks m s0 ops = true) (hr : residentsLe m n s0 ops = true)
    (hperm : (stateLive s0).Perm l0) (hrun : run m s0 ops = .ok s) :
    Inv s ∧ SameParams s0 s ∧ s.nodes.count ≤ n ∧
    (stateLive s).Perm ((ops.map Op.toFlat).foldl (Flat.specStep m s0.dim) l0) := by
  have := run_induct m
    (fun s ops l => (Inv s ∧ SameParams s0 s ∧ (stateLive s).Perm l) ∧
      FreshFor s ops ∧ validPicks m s ops = true ∧ residentsLe m n s ops = true)
    (fun l op => Flat.specStep m s0.dim l op.toFlat)
    (fun s op rest l s' ⟨⟨hi, hp, hl⟩, hf, hv, hr⟩ hs => by
      obtain ⟨_, hp', hf', hv'⟩ := step_winv m hi.toWInv hf hv hs
      have hr' := residentsLe_cons m hr hs
      obtain ⟨hi', hl'⟩ := step_inv m hi (hp.M ▸ hn1) (hp.efC ▸ hn2) hf hv
        (residentsLe_head m n s' rest hr') hs
      exact ⟨⟨hi', hp.trans hp', hp.dim ▸ hl'.trans (specStep_perm m _ hl _)⟩, hf', hv', hr'⟩)
    ops s0 l0 s ⟨⟨hinv, .refl s0, hperm⟩, hfresh, hv, hr⟩ hrun
  obtain ⟨⟨hi, hp, hl⟩, _, _, hr'⟩ := this
  exact ⟨hi, hp, residentsLe_head m n s [] hr', by rw [List.foldl_map]; exact hl⟩

/-- the small regime of a history, as one decidable predicate: fresh ids (0 allowed), allowed
    flush picks, never more than `n ≤ min (2M+1) efConstruction` resident vertices -/
def smallRegime (dim M efC efS n : Nat) (ops : List (Op V)) : Bool :=
  freshAdds ops && validPicks m (HNSW.init dim M efC efS) ops &&
  residentsLe m n (HNSW.init dim M efC efS) ops &&
  decide (n ≤ 2 * M + 1) && decide (n ≤ efC)

theorem regime_facts (dim M efC efS n : Nat) (ops : List (Op V)) (s : State V)
    (hreg : smallRegime m dim M efC efS n ops = true)
    (hrun : run m (HNSW.init dim M efC efS) ops = .ok s) :
    Inv s ∧ SameParams (HNSW.init dim M efC efS) s ∧ s.nodes.count ≤ n ∧
    (stateLive s).Perm (liveSpec m dim ops) := by
  simp only [smallRegime, Bool.and_eq_true, decide_eq_true_eq, freshAdds] at hreg
  obtain ⟨⟨⟨⟨hf, hv⟩, hr⟩, hn1⟩, hn2⟩ := hreg
  exact run_inv m n ops (HNSW.init dim M efC efS) s [] (init_inv dim M efC efS) hn1 hn2
    ⟨(nodupB_iff _).1 hf, fun _ _ => IdMap.contains_empty _⟩ hv hr (by rw [stateLive_eq_nil (init_count ..)]) hrun

theorem searchSingle_empty (s : State V) (q : V) (k : Int) (thr : S) (F : List Id) (ef : Int)
    (hq : m.dimOf q = s.dim) (h0 : s.nodes.count = 0) :
    searchSingle m s q k thr F ef = .ok (.ok []) := by
  simp [searchSingle, searchCands, hq, h0, sortAsc]

theorem regime_exact (ord : m.sc.Ordered) (dim M efC efS n : Nat) (ops : List (Op V)) (s : State V)
    (hreg : smallRegime m dim M efC efS n ops = true)
    (hrun : run m (HNSW.init dim M efC efS) ops = .ok s)
    (q q' : V) (k : Int) (thr : S) (F : List Id) (ef : Int)
    (hq : m.dimOf q = dim) (hpre : m.pre q = some q') (hef : n ≤ efUsed s ef)
    (res : List (Hit S)) (h : searchSingle m s q k thr F ef = .ok (.ok res)) :
    IsTopK m.sc.le k (Flat.cands m (liveSpec m dim ops) q' thr F) res := by
  obtain ⟨hinv, hp, hcnt, hperm⟩ := regime_facts m dim M efC efS n ops s hreg hrun
  have hdim : s.dim = dim := hp.dim
  have hcands : (Flat.cands m (stateLive s) q' thr F).Perm (Flat.cands m (liveSpec m dim ops) q' thr F) :=
    hperm.filterMap _
  by_cases h0 : s.nodes.count = 0
  · rw [searchSingle_empty m s q k thr F ef (by rw [hdim]; exact hq) h0] at h
    simp only [Except.ok.injEq] at h; subst h
    rw [stateLive_eq_nil h0] at hcands
    have : Flat.cands m (liveSpec m dim ops) q' thr F = [] := List.nil_perm.1 hcands
    rw [this]; exact isTopK_nil _ k
  · have hgood : CurrGood s s.entry := ⟨hinv.entry_res h0, hinv.entry_comp⟩
    have hml : s.maxLevel ≠ -1 := by have := hinv.ml h0; omega
    have hlen : (liveIds s).length ≤ efUsed s ef := by
      have := liveIds_length_le s
      omega
    exact IsTopK.of_perm (search_exact_state m ord s hinv.comp
      (fun u w hw => hinv.resolves 0 u w hw) hgood hml q q' k thr F ef (by rw [hdim]; exact hq)
      hpre hlen res h) hcands

theorem regime_reachable (dim M efC efS n : Nat) (ops : List (Op V)) (s : State V)
    (hreg : smallRegime m dim M efC efS n ops = true)
    (hrun : run m (HNSW.init dim M efC efS) ops = .ok s) : Reachable s := by
  obtain ⟨hinv, _⟩ := regime_facts m dim M efC efS n ops s hreg hrun
  by_cases h0 : s.nodes.count = 0
  · intro i hi
    rw [liveIds_eq_nil h0] at hi; cases hi
  · exact reachable_state s ⟨hinv.entry_res h0, hinv.entry_comp⟩

theorem regime_nonempty (ord : m.sc.Ordered) (dim M efC efS n : Nat) (ops : List (Op V)) (s : State V)
    (hreg : smallRegime m dim M efC efS n ops = true)
    (hrun : run m (HNSW.init dim M efC efS) ops = .ok s) (hlive : liveIds s ≠ [])
    (q q' : V) (k ef : Int) (hq : m.dimOf q = dim) (hpre : m.pre q = some q')
    (res : List (Hit S)) (h : searchSingle m s q k m.sc.zero [] ef = .ok (.ok res)) : res ≠ [] := by
  obtain ⟨hinv, hp, _⟩ := regime_facts m dim M efC efS n ops s hreg hrun
  have hdim : s.dim = dim := hp.dim
  obtain ⟨v, hv⟩ := List.exists_mem_of_ne_nil _ hlive
  have hvl := mem_liveIds.1 hv
  have h0 : s.nodes.count ≠ 0 := IdMap.count_ne_zero hvl.1
  have hml : s.maxLevel ≠ -1 := by have := hinv.ml h0; omega
  exact search_nonempty_state m ord s (hinv.entry_res h0) hml v hvl
    (CurrGood.reach ⟨hinv.entry_res h0, hinv.entry_comp⟩ hvl) q q' k ef
    (by rw [hdim]; exact hq) hpre res h

end
end Comet.HNSW
