/-
  searchLayer never faults and its fuel suffices (helper lemmas for C12): every loop
  iteration pops one candidate and every push marks a vertex that was not visited before,
  so `|candidates| + |unvisited ids below the bound|` strictly decreases.
-/
import CometProofs.HNSWState
namespace Comet.HNSW

variable {V S : Type}

/-- unmarked ids below the array bound, resident or not; every pushed id is below it
    (`lt_bound_of_get?`) -/
def unv (s : State V) (vis : IdMap Unit) : Nat :=
  ((List.range s.nodes.bound).filter fun i => !vis.contains i).length

theorem unv_set (s : State V) (vis : IdMap Unit) (nb : Id) (hlt : nb < s.nodes.bound)
    (hnb : vis.contains nb = false) : unv s (vis.set nb ()) + 1 ≤ unv s vis := by
  unfold unv
  have hf : (fun i => !(vis.set nb ()).contains i) = fun i => (i != nb) && !vis.contains i := by
    funext i
    simp only [IdMap.contains_set, Bool.not_or, bne, eq_comm (a := nb)]
    rfl
  have hmem : nb ∈ (List.range s.nodes.bound).filter fun i => !vis.contains i :=
    List.mem_filter.2 ⟨List.mem_range.2 hlt, by simp [hnb]⟩
  rw [hf, ← List.filter_filter, ← (List.nodup_range.filter _).erase_eq_filter,
    List.length_erase_of_mem hmem]
  have := List.length_pos_of_mem hmem
  omega

theorem unv_empty (s : State V) : unv s (IdMap.empty : IdMap Unit) = s.nodes.bound := by
  simp [unv, IdMap.contains]

theorem node!_ok {s : State V} {i : Id} (h : s.nodes.contains i = true) : ∃ n, node! s i = .ok n := by
  obtain ⟨n, hn⟩ := IdMap.contains_iff.1 h
  exact ⟨n, by simp [node!, hn]⟩

section
variable (m : Metric V S) (s : State V) (q : V) (ef layer : Nat)

theorem admits_ok (hef : 1 ≤ ef) (rs : List (Hit S)) (d : S) : ∃ b, admits m.sc.lt ef rs d = .ok b := by
  cases rs with
  | nil => exact ⟨true, if_pos hef⟩
  | cons w _ => simp only [admits]; split <;> exact ⟨_, rfl⟩

theorem stops_ok (hef : 1 ≤ ef) (rs : List (Hit S)) (d : S) : ∃ b, stops m.sc.lt ef rs d = .ok b := by
  cases rs with
  | nil => exact ⟨false, if_neg (Nat.not_le.2 hef)⟩
  | cons w _ => simp only [stops]; split <;> exact ⟨_, rfl⟩

theorem scanNbrs_total (hef : 1 ≤ ef) (nbs : List Id) (st : List (Hit S) × List (Hit S) × IdMap Unit)
    (hnbs : ∀ nb ∈ nbs, s.nodes.contains nb = true) : ∃ st', scanNbrs m s q ef nbs st = .ok st' := by
  induction nbs generalizing st with
  | nil => exact ⟨st, rfl⟩
  | cons nb rest ih =>
    obtain ⟨cs, rs, vis⟩ := st
    have hrest : ∀ nb ∈ rest, s.nodes.contains nb = true := fun x hx => hnbs x (List.mem_cons_of_mem _ hx)
    obtain ⟨n, hn⟩ := node!_ok (hnbs nb (by simp))
    obtain ⟨b, hb⟩ := admits_ok m ef hef rs (m.dist q n.vec)
    cases hv : vis.contains nb with
    | true => simp only [scanNbrs, hv, if_true]; exact ih _ hrest
    | false =>
      simp only [scanNbrs, hv, hn, hb, Bool.false_eq_true, if_false]
      cases b
      · exact ih _ hrest
      · cases isDeleted s nb <;> exact ih _ hrest

theorem scanNbrs_measure {nbs : List Id} {cs rs : List (Hit S)} {vis : IdMap Unit}
    {cs' rs' : List (Hit S)} {vis' : IdMap Unit}
    (h : scanNbrs m s q ef nbs (cs, rs, vis) = .ok (cs', rs', vis'))
    (hcs : ∀ c ∈ cs, s.nodes.contains c.id = true) :
    (∀ c ∈ cs', s.nodes.contains c.id = true) ∧ cs'.length + unv s vis' ≤ cs.length + unv s vis := by
  refine scanNbrs_induct
    (fun _ cs1 _ vis1 => (∀ c ∈ cs1, s.nodes.contains c.id = true) ∧
      cs1.length + unv s vis1 ≤ cs.length + unv s vis)
    (fun _ _ _ _ _ _ hP => hP) ?_ ?_ h ⟨hcs, Nat.le_refl _⟩
  · intro nb _ n cs1 _ vis1 hvis hn _ ⟨h1, h2⟩
    have := unv_set s vis1 nb (IdMap.lt_bound_of_get? hn) hvis
    exact ⟨h1, Nat.le_trans (Nat.add_le_add_left (Nat.le_of_succ_le this) _) h2⟩
  · intro nb _ n cs1 _ vis1 hvis hn _ ⟨h1, h2⟩
    have := unv_set s vis1 nb (IdMap.lt_bound_of_get? hn) hvis
    have hl := (insAsc_perm m.sc.lt ⟨nb, m.dist q n.vec⟩ cs1).length_eq
    refine ⟨fun c hc => ?_, by
      rw [hl, List.length_cons, Nat.add_right_comm, Nat.add_assoc]
      exact Nat.le_trans (Nat.add_le_add_left this _) h2⟩
    rcases mem_insAsc.1 hc with rfl | hc
    · exact IdMap.contains_iff.2 ⟨n, hn⟩
    · exact h1 c hc

theorem searchLoop_total (hef : 1 ≤ ef) (hres : ∀ j w, w ∈ nbrsAt s layer j → s.nodes.contains w = true) :
    ∀ (fuel : Nat) (cs rs : List (Hit S)) (vis : IdMap Unit),
      (∀ c ∈ cs, s.nodes.contains c.id = true) → cs.length + unv s vis ≤ fuel →
      ∃ res, searchLoop m s q ef layer fuel cs rs vis = .ok res := by
  intro fuel
  induction fuel with
  | zero =>
    intro cs rs vis _ hm
    cases cs with
    | nil => exact ⟨rs, by simp [searchLoop]⟩
    | cons c cs => simp at hm
  | succ fuel ih =>
    intro cs rs vis hcs hm
    cases cs with
    | nil => exact ⟨rs, by simp [searchLoop]⟩
    | cons c cs =>
      obtain ⟨b, hb⟩ := stops_ok m ef hef rs c.score
      obtain ⟨n, hn⟩ := node!_ok (hcs c (by simp))
      have hcs' : ∀ x ∈ cs, s.nodes.contains x.id = true := fun x hx => hcs x (List.mem_cons_of_mem _ hx)
      rw [List.length_cons, Nat.add_right_comm] at hm
      have hm := Nat.le_of_succ_le_succ hm
      simp only [searchLoop, hb, hn]
      cases b with
      | true => exact ⟨rs, rfl⟩
      | false =>
        cases he : n.edges[layer]? with
        | none => exact ih cs rs vis hcs' hm
        | some nbs =>
          have hnbs : ∀ nb ∈ nbs, s.nodes.contains nb = true := fun nb hnb =>
            hres c.id nb (by simp [nbrsAt, node!_eq hn, he, hnb])
          obtain ⟨⟨cs', rs', vis'⟩, h1⟩ := scanNbrs_total m s q ef hef nbs (cs, rs, vis) hnbs
          obtain ⟨h3, h4⟩ := scanNbrs_measure m s q ef h1 hcs'
          simp only [h1]
          exact ih cs' rs' vis' h3 (Nat.le_trans h4 hm)

/-- **Fuel lemma / no fault.** If the neighbour lists of the layer point to resident
    vertices and the start vertex is resident, `searchLayer` completes: `nodes.bound + 1`
    rounds (the size of the id array) suffice and no nil lookup or empty-heap access happens
    (the ef clamp of fix f6a780e is what makes the heap bound safe while only soft-deleted
    vertices have been seen). -/
theorem searchLayer_total (ep : Id)
    (hres : ∀ j w, w ∈ nbrsAt s layer j → s.nodes.contains w = true)
    (hep : s.nodes.contains ep = true) :
    ∃ res, searchLayer m s q ep ef layer = .ok res := by
  simp only [searchLayer]
  obtain ⟨n, hn⟩ := node!_ok hep
  rw [hn]
  simp only
  have hlt : ep < s.nodes.bound := IdMap.lt_bound_of_get? (node!_eq hn)
  have hm : ([⟨ep, m.dist q n.vec⟩] : List (Hit S)).length +
      unv s ((IdMap.empty : IdMap Unit).set ep ()) ≤ s.nodes.bound + 1 := by
    have := unv_set s (IdMap.empty : IdMap Unit) ep hlt (by simp [IdMap.contains])
    rw [unv_empty] at this
    rw [List.length_singleton, Nat.add_comm]
    exact Nat.le_succ_of_le this
  obtain ⟨res, hr⟩ := searchLoop_total m s q (Nat.max ef 1) layer (Nat.le_max_right _ _) hres
    (s.nodes.bound + 1) [⟨ep, m.dist q n.vec⟩]
    (if isDeleted s ep then [] else [⟨ep, m.dist q n.vec⟩]) _
    (by intro c hc'; rcases List.mem_singleton.1 hc' with rfl; exact hep) hm
  rw [hr]
  exact ⟨res.reverse, rfl⟩

end
end Comet.HNSW
