/-
  CometProofs.XR — an IEEE-754-like scalar with signed zeros, infinities, NaN and an
  ARBITRARY rounding function, used for one purpose: to make "Autocut never panics"
  a theorem that covers equal, infinite and NaN scores (C19).

  `XR.fin q` is a finite value (`fin 0` is +0), `nzero` is −0.  The special-value
  tables of `+ − × ÷ >` are those of IEEE-754 (round-to-nearest): NaN propagates,
  ∞−∞ = 0×∞ = 0/0 = ∞/∞ = NaN, x/0 = ±∞, an exact zero sum of finite numbers is +0
  unless both operands are −0, signs of zero products/quotients multiply.  Results of
  operations on non-zero finite operands are `rnd (exact result)` where
  `rnd : ℚ → XR` is constrained ONLY by `rnd 0 = +0`, `rnd 1 = 1`, `rnd 2 = 2`:
  it may overflow to ±∞, underflow to ±0, even return NaN.  Round-to-nearest in an
  IEEE binary format satisfies the three equations (no such instance is constructed
  here); a statement proved for all `rnd` is meant to cover float32.
-/
import Mathlib.Tactic.NormNum
import Mathlib.Algebra.Order.Field.Rat
import Comet.Limiter
namespace Comet

inductive XR
  | fin (q : ℚ)
  | nzero
  | pinf
  | ninf
  | nan
deriving DecidableEq

namespace XR

/-- sign bit of a non-NaN value -/
def neg? : XR → Bool
  | fin q => decide (q < 0)
  | nzero => true
  | pinf => false
  | ninf => true
  | nan => false

def isZero : XR → Bool
  | fin q => decide (q = 0)
  | nzero => true
  | _ => false

def isInf : XR → Bool
  | pinf => true | ninf => true | _ => false

def zeroS (s : Bool) : XR := if s then nzero else fin 0
def infS (s : Bool) : XR := if s then ninf else pinf

def negate : XR → XR
  | fin q => if q = 0 then nzero else fin (-q)
  | nzero => fin 0
  | pinf => ninf
  | ninf => pinf
  | nan => nan

structure Rounding where
  rnd : ℚ → XR
  rnd0 : rnd 0 = fin 0
  rnd1 : rnd 1 = fin 1
  rnd2 : rnd 2 = fin 2

def add (r : Rounding) : XR → XR → XR
  | nan, _ => nan
  | _, nan => nan
  | pinf, ninf => nan
  | ninf, pinf => nan
  | pinf, _ => pinf
  | _, pinf => pinf
  | ninf, _ => ninf
  | _, ninf => ninf
  | nzero, nzero => nzero
  | nzero, fin q => fin q
  | fin q, nzero => fin q
  | fin a, fin b => r.rnd (a + b)

def sub (r : Rounding) (a b : XR) : XR := add r a (negate b)

def mul (r : Rounding) (a b : XR) : XR :=
  match a, b with
  | nan, _ => nan
  | _, nan => nan
  | a, b =>
    if (isInf a && isZero b) || (isZero a && isInf b) then nan
    else if isInf a || isInf b then infS (neg? a != neg? b)
    else if isZero a || isZero b then zeroS (neg? a != neg? b)
    else match a, b with
      | fin x, fin y => r.rnd (x * y)
      | _, _ => nan   -- unreachable

def div (r : Rounding) (a b : XR) : XR :=
  match a, b with
  | nan, _ => nan
  | _, nan => nan
  | a, b =>
    if (isInf a && isInf b) || (isZero a && isZero b) then nan
    else if isInf a then infS (neg? a != neg? b)
    else if isInf b then zeroS (neg? a != neg? b)
    else if isZero b then infS (neg? a != neg? b)
    else if isZero a then zeroS (neg? a != neg? b)
    else match a, b with
      | fin x, fin y => r.rnd (x / y)
      | _, _ => nan   -- unreachable

/-- `a > b`: false when either side is NaN; −0 = +0 -/
def gt : XR → XR → Bool
  | nan, _ => false
  | _, nan => false
  | pinf, pinf => false
  | pinf, _ => true
  | _, pinf => false
  | ninf, _ => false
  | _, ninf => true
  | nzero, nzero => false
  | nzero, fin q => decide (q < 0)
  | fin q, nzero => decide (0 < q)
  | fin a, fin b => decide (b < a)

def ops (r : Rounding) : FOps XR where
  zero := fin 0
  one := fin 1
  ofNat n := r.rnd n
  add := add r
  sub := sub r
  mul := mul r
  div := div r
  gt := gt

/-! ### the length-2 case of `Autocut`

  Entries of the special-value tables hold by evaluation (`rfl`); only finite non-zero
  operands need an argument. -/

theorem sub_fin (r : Rounding) (a : ℚ) {b : ℚ} (hb : b ≠ 0) :
    sub r (fin a) (fin b) = r.rnd (a + -b) := by
  rw [sub, negate, if_neg hb]
  rfl

theorem div_fin (r : Rounding) {a b : ℚ} (ha : a ≠ 0) (hb : b ≠ 0) :
    div r (fin a) (fin b) = r.rnd (a / b) := by
  simp [div, isInf, isZero, ha, hb]

theorem sub_self_cases (r : Rounding) (x : XR) : sub r x x = fin 0 ∨ sub r x x = nan := by
  cases x with
  | fin q =>
    by_cases h : q = 0
    · subst h; exact .inl rfl
    · rw [sub_fin r q h, add_neg_cancel, r.rnd0]; exact .inl rfl
  | nzero => exact .inl rfl
  | _ => exact .inr rfl

theorem zero_div_cases (r : Rounding) (z : XR) :
    div r (fin 0) z = fin 0 ∨ div r (fin 0) z = nzero ∨ div r (fin 0) z = nan := by
  cases z with
  | fin q =>
    by_cases h : q = 0
    · subst h; exact .inr (.inr rfl)
    · have e : div r (fin 0) (fin q) = zeroS (decide (q < 0)) := by
        simp [div, isInf, isZero, h, neg?]
      rw [e]
      cases decide (q < 0)
      · exact .inl rfl
      · exact .inr (.inl rfl)
  | pinf => exact .inl rfl
  | ninf => exact .inr (.inl rfl)
  | _ => exact .inr (.inr rfl)

theorem div_self_cases (r : Rounding) (z : XR) : div r z z = fin 1 ∨ div r z z = nan := by
  cases z with
  | fin q =>
    by_cases h : q = 0
    · subst h; exact .inr rfl
    · rw [div_fin r h h, div_self h, r.rnd1]; exact .inl rfl
  | _ => exact .inr rfl

/-- for two values `step = 1/(2−1) = 1` -/
theorem step_two (r : Rounding) : autocutStep (ops r) 2 = fin 1 := by
  show div r (fin 1) (sub r (r.rnd ((2 : ℕ) : ℚ)) (fin 1)) = fin 1
  rw [Nat.cast_ofNat, r.rnd2, sub_fin r 2 one_ne_zero, show (2 : ℚ) + -1 = 1 by norm_num, r.rnd1,
    div_fin r one_ne_zero one_ne_zero, div_one, r.rnd1]

/-- `xValue` for `i = 0` is +0 (`xvalue_one`: for `i = 1` it is 1) -/
theorem xvalue_zero (r : Rounding) :
    (ops r).add (ops r).zero ((ops r).mul ((ops r).ofNat 0) (autocutStep (ops r) 2)) = fin 0 := by
  rw [step_two]
  show add r (fin 0) (mul r (r.rnd ((0 : ℕ) : ℚ)) (fin 1)) = fin 0
  rw [Nat.cast_zero, r.rnd0]
  show r.rnd (0 + 0) = fin 0
  rw [add_zero, r.rnd0]

theorem xvalue_one (r : Rounding) :
    (ops r).add (ops r).zero ((ops r).mul ((ops r).ofNat 1) (autocutStep (ops r) 2)) = fin 1 := by
  rw [step_two]
  show add r (fin 0) (mul r (r.rnd ((1 : ℕ) : ℚ)) (fin 1)) = fin 1
  rw [Nat.cast_one, r.rnd1]
  show add r (fin 0) (r.rnd (1 * 1)) = fin 1
  rw [mul_one, r.rnd1]
  show r.rnd (0 + 1) = fin 1
  rw [zero_add, r.rnd1]

/-- The guard in front of the `diff[-1]` read is false for every pair of scores:
    `diff[0] ∈ {+0, −0, NaN}`, `diff[1] ∈ {+0, NaN}`. -/
theorem len2Safe (r : Rounding) : Len2Safe (ops r) := by
  intro y0 y1
  simp only [diffAt]
  rw [xvalue_zero r, xvalue_one r]
  show gt (sub r (div r (sub r y1 y0) (sub r y1 y0)) (fin 1))
      (sub r (div r (sub r y0 y0) (sub r y1 y0)) (fin 0)) = false
  -- diff[0] = (y0 − y0) / z − 0 with y0 − y0 ∈ {+0, NaN}
  have h0 : ∀ z, div r (sub r y0 y0) z = fin 0 ∨ div r (sub r y0 y0) z = nzero ∨
      div r (sub r y0 y0) z = nan := by
    intro z
    rcases sub_self_cases r y0 with h | h
    · rw [h]; exact zero_div_cases r z
    · rw [h]; exact .inr (.inr rfl)
  -- diff[1] = z / z − 1 with z / z ∈ {1, NaN}
  have h1 : ∀ z, sub r (div r z z) (fin 1) = fin 0 ∨ sub r (div r z z) (fin 1) = nan := by
    intro z
    rcases div_self_cases r z with h | h
    · rw [h, sub_fin r 1 one_ne_zero, add_neg_cancel, r.rnd0]; exact .inl rfl
    · rw [h]; exact .inr rfl
  rcases h1 (sub r y1 y0) with h1 | h1 <;> rcases h0 (sub r y1 y0) with h0 | h0 | h0 <;>
    rw [h1, h0] <;> rfl

end XR
end Comet
