/-
  Lemmas about Comet.BSI (the transcribed roaring bit-sliced index): membership
  in the `RB` operations, and the flag loop of `compareValue`, which for a stored value
  and operands of the SAME sign computes the most-significant-bit-first comparison
  `cmpBits` ("the first differing bit decides").
  One iteration is a finite statement, checked by exhaustive evaluation in the kernel;
  the loop is an induction on the slice index.  Continued in CometProofs/BSI.lean.
-/
import Comet.BSI
namespace Comet

namespace RB

theorem contains_eq_true {s : RB} {d : Nat} : s.contains d = true ↔ d ∈ s := List.contains_iff_mem

theorem mem_add {s : RB} {d x : Nat} : x ∈ add s d ↔ x = d ∨ x ∈ s := by
  unfold add
  split
  next h => exact ⟨Or.inr, fun h' => h'.elim (fun e => e ▸ contains_eq_true.mp h) id⟩
  next => exact List.mem_cons

theorem mem_remove {s : RB} {d x : Nat} : x ∈ remove s d ↔ x ∈ s ∧ x ≠ d := by
  simp [remove, List.mem_filter]

theorem mem_or {a b : RB} {x : Nat} : x ∈ RB.or a b ↔ x ∈ a ∨ x ∈ b := by
  by_cases h : x ∈ a <;> simp [RB.or, h]

theorem mem_and {a b : RB} {x : Nat} : x ∈ RB.and a b ↔ x ∈ a ∧ x ∈ b := by
  simp [RB.and, List.mem_filter]

theorem mem_andNot {a b : RB} {x : Nat} : x ∈ RB.andNot a b ↔ x ∈ a ∧ x ∉ b := by
  simp [RB.andNot, List.mem_filter]

theorem isEmpty_iff {a : RB} : a.isEmpty = true ↔ ∀ x, x ∉ a := by
  rw [List.isEmpty_iff, List.eq_nil_iff_forall_not_mem]

theorem same_iff {a b : RB} : same a b = true ↔ ∀ x, x ∈ a ↔ x ∈ b := by
  simp only [same, Bool.and_eq_true, List.all_eq_true, contains_eq_true, iff_def, forall_and]

end RB

namespace BSI

/-- extend a comparison of the lower bits by one more significant bit -/
def ext (sl vb : Bool) (c : Ordering) : Ordering :=
  if sl == vb then c else if vb then .lt else .gt

/-- most-significant-bit-first comparison of the low `j` bits of `x` against those of `v` -/
def cmpBits (x v : Nat → Bool) : Nat → Ordering
  | 0 => .eq
  | j + 1 => ext (x j) (v j) (cmpBits x v j)

/-- the flags that occur at the head of the loop when the signs agree: the single-value
    operators leave the loop at the first differing bit, so theirs are still the initial
    ones; for `range` each side is undecided (`eq`) or decided in favour (`gt1` / `lt2`) -/
def wf (op : Op) (f : Flags) : Bool :=
  if op == .range then !f.lt1 && f.gt1 == !f.eq1 && f.lt2 == !f.eq2 else f == {}

/-- what the flags mean, given the comparisons `c1` (against start) and `c2` (against end)
    of the bits not yet visited — same-sign case -/
def sem (op : Op) (f : Flags) (c1 c2 : Ordering) : Bool :=
  match op with
  | .lt => if f.eq1 then c1 == .lt else f.lt1
  | .le => if f.eq1 then c1 != .gt else f.lt1
  | .eq => f.eq1 && c1 == .eq
  | .ge => if f.eq1 then c1 != .lt else f.gt1
  | .gt => if f.eq1 then c1 == .gt else f.gt1
  | .range => (if f.eq1 then c1 != .lt else f.gt1) && (if f.eq2 then c2 != .gt else f.lt2)

instance decForallOrdering {p : Ordering → Prop} [∀ c, Decidable (p c)] : Decidable (∀ c, p c) :=
  decidable_of_iff (p .lt ∧ p .eq ∧ p .gt)
    ⟨fun ⟨a, b, c⟩ o => by cases o <;> assumption, fun h => ⟨h _, h _, h _⟩⟩

instance decForallFlags {p : Flags → Prop} [∀ f, Decidable (p f)] : Decidable (∀ f, p f) :=
  decidable_of_iff (∀ a b c d e, p ⟨a, b, c, d, e⟩)
    ⟨fun h f => by cases f; exact h .., fun h a b c d e => h _⟩

instance decForallOp {p : Op → Prop} [∀ o, Decidable (p o)] : Decidable (∀ o, p o) :=
  decidable_of_iff (p .lt ∧ p .le ∧ p .eq ∧ p .ge ∧ p .gt ∧ p .range)
    ⟨fun ⟨a, b, c, d, e, f⟩ o => by cases o <;> assumption, fun h => ⟨h _, h _, h _, h _, h _, h _⟩⟩

/-- one iteration keeps `sem` (and `wf`), or breaks with the verdict `sem` predicts -/
def stepOK (op : Op) (n eN sb eb sl : Bool) (f : Flags) (c1 c2 : Ordering) : Bool :=
  let r := body op n eN n sb eb sl f
  let want := sem op f (ext sl sb c1) (ext sl eb c2)
  if r.2 then verdict op n n r.1 == want
  else wf op r.1 && sem op r.1 c1 c2 == want

/- `body` is flag updates and `break`s transcribed from Go; that one iteration respects
   `sem` is a statement about finitely many Booleans, and is checked by running it on all
   of them, in the kernel (`decide +kernel`: plain `decide` evaluates it in the elaborator
   as well, which is slow). -/
theorem stepOK_range : ∀ (f : Flags), wf .range f = true → ∀ (n sb eb sl : Bool) (c1 c2 : Ordering),
    stepOK .range n n sb eb sl f c1 c2 = true := by decide +kernel

theorem stepOK_single : ∀ (op : Op), op ≠ .range → ∀ (n sb sl : Bool) (c1 : Ordering),
    stepOK op n n sb false sl {} c1 .eq = true := by decide +kernel

theorem stepOK_all (op : Op) (n eN sb eb sl : Bool) (f : Flags) (c1 c2 : Ordering)
    (hr : op = .range → eN = n) (hf : wf op f = true) : stepOK op n eN sb eb sl f c1 c2 = true := by
  by_cases hop : op = .range
  · subst hop; rw [hr rfl]; exact stepOK_range f hf n sb eb sl c1 c2
  · have hf' : f = {} := by simpa [wf, hop] using hf
    subst hf'
    -- for these operators `body` and `sem` do not look at `eN`, `eb`, `c2`: both sides of
    -- the `exact` unfold to the same term
    cases op <;> first | exact absurd rfl hop | exact stepOK_single _ (by decide) n sb sl c1

theorem verdict_eq_sem : ∀ (op : Op) (f : Flags), wf op f = true → ∀ (n : Bool),
    verdict op n n f = sem op f .eq .eq := by decide +kernel

theorem loop_sem (op : Op) (n eN : Bool) (cs ce : I64) (bits : Nat → Bool)
    (hr : op = .range → eN = n) :
    ∀ (j : Nat) (f : Flags), wf op f = true →
      verdict op n n (loop op n eN n cs ce bits j f) =
        sem op f (cmpBits bits cs.getLsbD j) (cmpBits bits ce.getLsbD j) := by
  intro j
  induction j with
  | zero => intro f hf; simpa [loop, cmpBits] using verdict_eq_sem op f hf n
  | succ j ih =>
    intro f hf
    have hs := stepOK_all op n eN (cs.getLsbD j) (ce.getLsbD j) (bits j) f
      (cmpBits bits cs.getLsbD j) (cmpBits bits ce.getLsbD j) hr hf
    simp only [stepOK] at hs
    simp only [loop, cmpBits]
    by_cases hb : (body op n eN n (cs.getLsbD j) (ce.getLsbD j) (bits j) f).2 = true
    · simp only [hb, if_true] at hs ⊢
      simpa using hs
    · simp only [hb, if_false, Bool.false_eq_true] at hs ⊢
      simp only [Bool.and_eq_true, beq_iff_eq] at hs
      rw [ih _ hs.1]
      exact hs.2

theorem loop_congr (op : Op) (sN eN iN : Bool) (cs ce : I64) (b b' : Nat → Bool) :
    ∀ (j : Nat) (f : Flags), (∀ i, i < j → b i = b' i) →
      loop op sN eN iN cs ce b j f = loop op sN eN iN cs ce b' j f := by
  intro j
  induction j with
  | zero => intro f _; rfl
  | succ j ih =>
    intro f h
    simp only [loop]
    rw [h j (Nat.lt_succ_self j), ih _ (fun i hi => h i (Nat.lt_succ_of_lt hi))]

theorem compareOne_congr (b b' : Nat → Bool) (op : Op) (s e : I64)
    (h : ∀ i, i < 64 → b i = b' i) : compareOne 64 b op s e = compareOne 64 b' op s e := by
  simp only [compareOne, beq_self_eq_true, Bool.true_and, if_true]
  rw [h 63 (by omega)]
  rw [loop_congr op _ _ _ _ _ b b' 63 _ (fun i hi => h i (by omega))]

end BSI
end Comet
