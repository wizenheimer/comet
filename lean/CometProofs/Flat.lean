/-
  Helper lemmas for the flat index (C01; the other vector indexes refine it): `step` case
  by case, the model refines the abstract "live list", which ids are stored, and a search
  as `selectK` over the candidates of the live list.
-/
import Comet.Vector.Flat
import CometProofs.Order
namespace Comet.Flat

variable {V S : Type}

theorem flushed_dim (s : State V) : (flushed s).dim = s.dim := rfl

theorem flushed_of_nil {s : State V} (h : s.deleted = []) : flushed s = s := by
  cases s; cases h; simp [flushed]

theorem ids_flushed_sublist (s : State V) : (ids (flushed s)).Sublist (ids s) :=
  List.filter_sublist.map _

theorem eff_flushed (s : State V) : eff (flushed s) = eff s := by
  simp [eff, flushed]

section Step
variable (m : Metric V S) (s : State V) (id : Id) (v : V)

theorem step_add_dim (h : m.dimOf v ≠ s.dim) : step m s (.add id v) = (s, some .dim) :=
  if_pos h

theorem step_add_zero (h : m.dimOf v = s.dim) (hz : m.pre v = none) :
    step m s (.add id v) = (s, some .zero) := by
  simp only [step, h, hz, ne_eq, not_true_eq_false, if_false]

theorem step_add_ok {v' : V} (h : m.dimOf v = s.dim) (hp : m.pre v = some v')
    (hd : id ∉ s.deleted) :
    step m s (.add id v) = ({ s with vecs := s.vecs ++ [(id, v')] }, none) := by
  simp only [step, h, hp, hd, ne_eq, not_true_eq_false, if_false]

theorem step_add_purge {v' : V} (h : m.dimOf v = s.dim) (hp : m.pre v = some v')
    (hd : id ∈ s.deleted) : step m s (.add id v) = step m (flushed s) (.add id v) := by
  rw [step_add_ok m (flushed s) id v h hp List.not_mem_nil]
  simp only [step, h, hp, hd, ne_eq, not_true_eq_false, if_false, if_true]

theorem step_remove_unknown (h : s.vecs.any (·.1 == id) = false) :
    step m s (.remove id) = (s, some .notFound) := by
  simp only [step, h, Bool.false_eq_true, not_false_eq_true, if_true]

theorem step_remove_deleted (h : s.vecs.any (·.1 == id) = true) (hd : id ∈ s.deleted) :
    step m s (.remove id) = (s, some .deleted) := by
  simp only [step, h, hd, not_true_eq_false, if_false, if_true]

theorem step_remove_ok (h : s.vecs.any (·.1 == id) = true) (hd : id ∉ s.deleted) :
    step m s (.remove id) = ({ s with deleted := id :: s.deleted }, none) := by
  simp only [step, h, hd, not_true_eq_false, if_false]

theorem step_flush : step m s .flush = (flushed s, none) := by
  simp only [step]
  split
  · next h => rw [flushed_of_nil (List.isEmpty_iff.1 h)]
  · rfl

end Step

theorem step_cases (m : Metric V S) (s : State V) {P : Op V → State V × Option Err → Prop}
    (add_dim : ∀ id v, m.dimOf v ≠ s.dim → P (.add id v) (s, some .dim))
    (add_zero : ∀ id v, m.dimOf v = s.dim → m.pre v = none → P (.add id v) (s, some .zero))
    (add_ok : ∀ id v v', m.dimOf v = s.dim → m.pre v = some v' → id ∉ s.deleted →
      P (.add id v) ({ s with vecs := s.vecs ++ [(id, v')] }, none))
    (add_purge : ∀ id v v', m.dimOf v = s.dim → m.pre v = some v' → id ∈ s.deleted →
      P (.add id v) ({ flushed s with vecs := (flushed s).vecs ++ [(id, v')] }, none))
    (remove_unknown : ∀ id, s.vecs.any (·.1 == id) = false → P (.remove id) (s, some .notFound))
    (remove_deleted : ∀ id, s.vecs.any (·.1 == id) = true → id ∈ s.deleted →
      P (.remove id) (s, some .deleted))
    (remove_ok : ∀ id, s.vecs.any (·.1 == id) = true → id ∉ s.deleted →
      P (.remove id) ({ s with deleted := id :: s.deleted }, none))
    (flush : P .flush (flushed s, none)) (op : Op V) : P op (step m s op) := by
  cases op with
  | add id v =>
    by_cases h : m.dimOf v = s.dim
    · cases hp : m.pre v with
      | none => exact step_add_zero m s id v h hp ▸ add_zero id v h hp
      | some v' =>
        by_cases hd : id ∈ s.deleted
        · rw [step_add_purge m s id v h hp hd, step_add_ok m (flushed s) id v h hp List.not_mem_nil]
          exact add_purge id v v' h hp hd
        · exact step_add_ok m s id v h hp hd ▸ add_ok id v v' h hp hd
    · exact step_add_dim m s id v h ▸ add_dim id v h
  | remove id =>
    cases h : s.vecs.any (·.1 == id) with
    | false => exact step_remove_unknown m s id h ▸ remove_unknown id h
    | true =>
      by_cases hd : id ∈ s.deleted
      · exact step_remove_deleted m s id h hd ▸ remove_deleted id h hd
      · exact step_remove_ok m s id h hd ▸ remove_ok id h hd
  | flush => exact step_flush m s ▸ flush

/-- A model and the flat model branch on the same conditions: outcomes are compared branch
    by branch. -/
theorem rel_ite {α β : Type} {R : α → β → Prop} {c : Prop} [Decidable c] {a1 a2 : α} {b1 b2 : β}
    (h1 : c → R a1 b1) (h2 : ¬c → R a2 b2) : R (if c then a1 else a2) (if c then b1 else b2) := by
  split
  · exact h1 ‹_›
  · exact h2 ‹_›

theorem step_congr {m1 m2 : Metric V S} (hd : m1.dimOf = m2.dimOf) (hp : m1.pre = m2.pre) :
    step m1 = step m2 := by
  funext s op
  cases op <;> simp only [step, hd, hp]

theorem step_dim (m : Metric V S) (s : State V) (op : Op V) : (step m s op).1.dim = s.dim :=
  step_cases m s (P := fun _ r => r.1.dim = s.dim) (fun _ _ _ => rfl) (fun _ _ _ _ => rfl)
    (fun _ _ _ _ _ _ => rfl) (fun _ _ _ _ _ _ => rfl) (fun _ _ => rfl) (fun _ _ _ => rfl)
    (fun _ _ _ => rfl) rfl op

theorem run_dim (m : Metric V S) (s : State V) (ops : List (Op V)) : (run m s ops).dim = s.dim := by
  induction ops generalizing s with
  | nil => rfl
  | cons op t ih => exact (ih _).trans (step_dim m s op)

theorem eff_append (s : State V) (id : Id) (v' : V) (h : id ∉ s.deleted) :
    eff { s with vecs := s.vecs ++ [(id, v')] } = eff s ++ [(id, v')] := by
  simp [eff, List.filter_append, h]

/-- One-step simulation against the live-list specification. A re-added id is covered:
    comet's Add purges its tombstone first. -/
theorem eff_step (m : Metric V S) (s : State V) (op : Op V) :
    eff (step m s op).1 = specStep m s.dim (eff s) op := by
  refine step_cases m s (P := fun op r => eff r.1 = specStep m s.dim (eff s) op)
    ?add_dim ?add_zero ?add_ok ?add_purge ?remove_unknown ?remove_deleted ?remove_ok (eff_flushed s) op
  case add_dim =>
    intro id v h
    exact (if_pos h).symm
  case add_zero =>
    intro id v h hz
    simp only [specStep, h, hz, ne_eq, not_true_eq_false, if_false]
  case add_ok =>
    intro id v v' h hp hd
    simp only [specStep, h, hp, ne_eq, not_true_eq_false, if_false]
    exact eff_append s id v' hd
  case add_purge =>
    intro id v v' h hp _
    simp only [specStep, h, hp, ne_eq, not_true_eq_false, if_false]
    rw [← eff_flushed s]
    exact eff_append (flushed s) id v' List.not_mem_nil
  case remove_unknown =>
    -- id not stored: filtering it out of the live list changes nothing
    intro id h
    refine (List.filter_eq_self.2 fun p hp => ?_).symm
    simpa using List.any_eq_false.1 h p (List.mem_filter.1 hp).1
  case remove_deleted =>
    -- id tombstoned already: it is not in the live list
    intro id _ hd
    refine (List.filter_eq_self.2 fun p hp => ?_).symm
    have : p.1 ∉ s.deleted := by simpa using (List.mem_filter.1 hp).2
    simpa using fun he : p.1 = id => this (he ▸ hd)
  case remove_ok =>
    intro id _ _
    simp only [specStep, eff, List.filter_filter]
    refine List.filter_congr fun p _ => ?_
    by_cases h : p.1 = id <;> simp [h]

theorem eff_run (m : Metric V S) (s : State V) (ops : List (Op V)) :
    eff (run m s ops) = ops.foldl (specStep m s.dim) (eff s) := by
  induction ops generalizing s with
  | nil => rfl
  | cons op t ih => exact (ih _).trans (by rw [step_dim, eff_step]; rfl)

theorem eff_run_init (m : Metric V S) (dim : Nat) (ops : List (Op V)) :
    eff (run m (init dim) ops) = live m dim ops :=
  eff_run m (init dim) ops

theorem addedIds_cons (op : Op V) (t : List (Op V)) :
    addedIds (op :: t) = addedIds [op] ++ addedIds t := by
  cases op <;> rfl

theorem ids_step_sublist (m : Metric V S) (s : State V) (op : Op V) :
    (ids (step m s op).1).Sublist (ids s ++ addedIds [op]) := by
  have happ : ∀ (t : State V) id v', ids { t with vecs := t.vecs ++ [(id, v')] } = ids t ++ [id] :=
    fun t id v' => List.map_append
  exact step_cases m s (P := fun op r => (ids r.1).Sublist (ids s ++ addedIds [op]))
    (add_dim := fun _ _ _ => List.sublist_append_left ..)
    (add_zero := fun _ _ _ _ => List.sublist_append_left ..)
    (add_ok := fun id _ v' _ _ _ => happ s id v' ▸ .refl _)
    (add_purge := fun id _ v' _ _ _ => happ (flushed s) id v' ▸ (ids_flushed_sublist s).append_right _)
    (remove_unknown := fun _ _ => List.sublist_append_left ..)
    (remove_deleted := fun _ _ _ => List.sublist_append_left ..)
    (remove_ok := fun _ _ _ => List.sublist_append_left ..)
    (flush := (ids_flushed_sublist s).trans (List.sublist_append_left ..)) op

theorem ids_run_sublist (m : Metric V S) (s : State V) (ops : List (Op V)) :
    (ids (run m s ops)).Sublist (ids s ++ addedIds ops) := by
  induction ops generalizing s with
  | nil => exact List.sublist_append_left ..
  | cons op t ih =>
    rw [addedIds_cons, ← List.append_assoc]
    exact (ih _).trans ((ids_step_sublist m s op).append_right _)

/-- distinct add ids (C01's quantifier) give distinct stored ids -/
theorem ids_run_nodup (m : Metric V S) (s : State V) (ops : List (Op V))
    (h0 : (ids s).Nodup) (hfresh : FreshAdds ops) (hnew : ∀ i ∈ ids s, i ∉ addedIds ops) :
    (ids (run m s ops)).Nodup :=
  (ids_run_sublist m s ops).nodup
    (List.nodup_append.2 ⟨h0, hfresh, fun a ha _ hb he => hnew a ha (he ▸ hb)⟩)

/-- `ids_run_sublist` for the specification, which from `l` is the model run from the state that
    stores `l` without tombstones -/
theorem specStep_ids_sublist (m : Metric V S) (dim : Nat) (l : List (Id × V)) (ops : List (Op V)) :
    ((ops.foldl (specStep m dim) l).map (·.1)).Sublist (l.map (·.1) ++ addedIds ops) := by
  have he : eff (⟨dim, l, []⟩ : State V) = l :=
    List.filter_eq_self.2 fun _ _ => decide_eq_true List.not_mem_nil
  have h := eff_run m ⟨dim, l, []⟩ ops
  rw [he] at h
  exact h ▸ (List.filter_sublist.map _).trans (ids_run_sublist m ⟨dim, l, []⟩ ops)

theorem specStep_mem (m : Metric V S) (dim : Nat) (l : List (Id × V)) (op : Op V)
    (p : Id × V) (hp : p ∈ specStep m dim l op) :
    p ∈ l ∨ ∃ x, op = .add p.1 x ∧ m.pre x = some p.2 := by
  cases op with
  | add id v =>
    simp only [specStep] at hp
    split at hp
    · exact .inl hp
    · split at hp
      · exact .inl hp
      · next v' hv =>
        rcases List.mem_append.1 hp with hp | hp
        · exact .inl hp
        · cases List.mem_singleton.1 hp
          exact .inr ⟨v, rfl, hv⟩
  | remove id => exact .inl (List.mem_filter.1 hp).1
  | flush => exact .inl hp

theorem live_mem_add (m : Metric V S) (dim : Nat) (ops : List (Op V)) :
    ∀ p ∈ live m dim ops, ∃ x, Op.add p.1 x ∈ ops ∧ m.pre x = some p.2 := by
  suffices h : ∀ (l : List (Id × V)), ∀ p ∈ ops.foldl (specStep m dim) l,
      p ∈ l ∨ ∃ x, Op.add p.1 x ∈ ops ∧ m.pre x = some p.2 from
    fun p hp => (h [] p hp).resolve_left List.not_mem_nil
  induction ops with
  | nil => exact fun l p hp => .inl hp
  | cons op t ih =>
    intro l p hp
    rcases ih _ p hp with h | ⟨x, hx, hpre⟩
    · rcases specStep_mem m dim l op p h with h | ⟨x, rfl, hpre⟩
      · exact .inl h
      · exact .inr ⟨x, List.mem_cons_self, hpre⟩
    · exact .inr ⟨x, List.mem_cons_of_mem _ hx, hpre⟩

theorem live_mem_pre (m : Metric V S) (dim : Nat) (ops : List (Op V)) :
    ∀ p ∈ live m dim ops, ∃ x, m.pre x = some p.2 := fun p hp =>
  (live_mem_add m dim ops p hp).imp fun _ h => h.2

theorem mem_cands {m : Metric V S} {l : List (Id × V)} {q' : V} {thr : S} {F : List Id}
    {x : Hit S} : x ∈ cands m l q' thr F ↔ ∃ p ∈ l, eligible F p.1 = true ∧
      thrSkip m.sc thr (m.dist q' p.2) = false ∧ x = ⟨p.1, m.dist q' p.2⟩ := by
  simp only [cands, List.mem_filterMap]
  refine exists_congr fun p => and_congr_right fun _ => ?_
  cases eligible F p.1 <;> cases thrSkip m.sc thr (m.dist q' p.2) <;> simp [eq_comm]

theorem scan_eq_cands (m : Metric V S) (s : State V) (q' : V) (thr : S) (filter : List Id) :
    scan m s q' thr filter = cands m (eff s) q' thr filter := by
  simp only [scan, cands, eff, List.filterMap_filter]
  congr 1
  funext p
  by_cases h : p.1 ∈ s.deleted <;> simp [h]

theorem searchSingle_eq (m : Metric V S) (s : State V) (q q' : V) (k : Int) (thr : S)
    (filter : List Id) (hq : m.dimOf q = s.dim) (hpre : m.pre q = some q') :
    searchSingle m s q k thr filter = .ok (selectK m.sc.le k (scan m s q' thr filter)) := by
  simp only [searchSingle, hq, hpre, ne_eq, not_true_eq_false, if_false, selectK]
  congr 2
  rw [List.length_mergeSort]
  exact sanitizeK_twice k _ _ (List.length_filterMap_le _ _)

theorem searchSingle_run (m : Metric V S) (dim : Nat) (ops : List (Op V)) (q q' : V) (k : Int)
    (thr : S) (F : List Id) (hq : m.dimOf q = dim) (hpre : m.pre q = some q') :
    searchSingle m (run m (init dim) ops) q k thr F =
      .ok (selectK m.sc.le k (cands m (live m dim ops) q' thr F)) := by
  rw [searchSingle_eq m _ q q' k thr F (hq.trans (run_dim m (init dim) ops).symm) hpre, scan_eq_cands,
    eff_run_init]

theorem searchSingle_congr (m : Metric V S) {s s' : State V} (hd : s.dim = s'.dim)
    (he : eff s = eff s') (q : V) (k : Int) (thr : S) (F : List Id) :
    searchSingle m s q k thr F = searchSingle m s' q k thr F := by
  by_cases hq : m.dimOf q = s.dim
  · cases hpre : m.pre q with
    | none => simp only [searchSingle, hpre, hd]
    | some q' =>
      rw [searchSingle_eq m s q q' k thr F hq hpre, searchSingle_eq m s' q q' k thr F (hd ▸ hq) hpre,
        scan_eq_cands, scan_eq_cands, he]
  · exact (if_pos hq).trans (if_pos (hd ▸ hq)).symm

end Comet.Flat
