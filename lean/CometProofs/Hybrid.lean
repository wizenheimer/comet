/-
  Helper lemmas for C06: visibility algebra of the three sub-index models, the sub-steps of
  `addInternal` / `remove` as instances of one shape (`subOp`), and the definition of the
  consistency invariant `Inv` of the hybrid index (preserved in Properties/C06.lean).
-/
import Comet.Hybrid
namespace Comet.Hybrid

variable {V T M : Type}

namespace VecIdx
variable (vpre : V → Except Err V) (x : VecIdx V) (id : Id) (v : V)

@[simp] theorem visible_purge (j : Id) : x.purge.visible j = x.visible j := by
  simp only [visible, purge, Bool.false_eq_true, if_false]

@[simp] theorem visible_flush (j : Id) : x.flush.visible j = x.visible j :=
  visible_purge x j

theorem add_err (h : (x.add vpre id v).2.isSome) : (x.add vpre id v).1 = x := by
  unfold add at *
  cases hv : vpre v with
  | error e => rfl
  | ok v' => rw [hv] at h; cases h

theorem add_ok_iff : (x.add vpre id v).2 = none ↔ ∃ v', vpre v = .ok v' := by
  unfold add
  cases vpre v with
  | error e => exact ⟨nofun, nofun⟩
  | ok v' => exact ⟨fun _ => ⟨v', rfl⟩, fun _ => rfl⟩

theorem visible_append (y : VecIdx V) (id : Id) (v' : V) (hd : y.deleted id = false) (j : Id) :
    visible ⟨fun j => if j = id then y.entries j ++ [v'] else y.entries j, y.deleted⟩ j =
      if j = id then y.visible id ++ [v'] else y.visible j := by
  unfold visible
  by_cases hj : j = id
  · subst hj; simp only [hd, if_true, Bool.false_eq_true, if_false]
  · simp only [if_neg hj]

theorem visible_add (v' : V) (h : vpre v = .ok v') (j : Id) :
    (x.add vpre id v).1.visible j = if j = id then x.visible id ++ [v'] else x.visible j := by
  unfold add
  rw [h]
  cases hd : x.deleted id
  · exact visible_append x id v' hd j
  · -- the purge that precedes the append changes nothing visible and clears the tombstone
    simp only [if_true]
    rw [visible_append x.purge id v' rfl j, visible_purge, visible_purge]

theorem visible_add_ne (j : Id) (hj : j ≠ id) : (x.add vpre id v).1.visible j = x.visible j := by
  cases hv : vpre v with
  | error e => rw [add_err vpre x id v (by unfold add; rw [hv]; rfl)]
  | ok v' => rw [visible_add vpre x id v v' hv j, if_neg hj]

theorem remove_cases :
    (x.visible id = [] ∧ (x.remove id).2.isSome ∧ (x.remove id).1 = x) ∨
    (x.visible id ≠ [] ∧
      x.remove id = (⟨x.entries, fun j => if j = id then true else x.deleted j⟩, none)) := by
  unfold remove visible
  cases h2 : x.deleted id
  · cases h1 : x.entries id
    · exact .inl ⟨rfl, rfl, rfl⟩
    · exact .inr ⟨nofun, rfl⟩
  · cases h1 : (x.entries id).isEmpty
    · exact .inl ⟨rfl, rfl, rfl⟩
    · exact .inl ⟨rfl, rfl, rfl⟩

theorem remove_err (h : (x.remove id).2.isSome) : (x.remove id).1 = x := by
  rcases remove_cases x id with ⟨_, _, h'⟩ | ⟨_, h'⟩
  · exact h'
  · rw [h'] at h; cases h

theorem visible_remove (h : (x.remove id).2 = none) (j : Id) :
    (x.remove id).1.visible j = if j = id then [] else x.visible j := by
  rcases remove_cases x id with ⟨_, h', _⟩ | ⟨_, h'⟩
  · rw [h] at h'; cases h'
  · rw [h']
    unfold visible
    by_cases hj : j = id
    · simp only [hj, if_true]
    · simp only [if_neg hj]

theorem visible_remove_ne (j : Id) (hj : j ≠ id) :
    (x.remove id).1.visible j = x.visible j := by
  cases h : (x.remove id).2 with
  | none => rw [visible_remove x id h j, if_neg hj]
  | some e => rw [remove_err x id (by rw [h]; rfl)]

theorem remove_ok_of_visible (h : x.visible id ≠ []) : (x.remove id).2 = none := by
  rcases remove_cases x id with ⟨h', _⟩ | ⟨_, h'⟩
  · exact absurd h' h
  · rw [h']

end VecIdx

namespace TxtIdx
variable (x : TxtIdx T) (id : Id)

@[simp] theorem visible_flush (j : Id) : x.flush.visible j = x.visible j := by
  simp only [visible, flush, Bool.false_eq_true, if_false]

theorem visible_add (t : T) (j : Id) :
    (x.add id t).visible j = if j = id then some t else x.visible j := by
  unfold visible add
  by_cases hj : j = id
  · simp only [hj, if_true, Bool.false_eq_true, if_false]
  · simp only [if_neg hj]

theorem remove_cases :
    (x.visible id = none ∧ x.remove id = x) ∨
    x.remove id = ⟨x.docs, fun j => if j = id then true else x.deleted j⟩ := by
  unfold remove visible
  cases h2 : x.deleted id
  · cases h1 : x.docs id
    · exact .inl ⟨rfl, rfl⟩
    · exact .inr rfl
  · cases h1 : (x.docs id).isNone
    · exact .inl ⟨rfl, rfl⟩
    · exact .inl ⟨rfl, rfl⟩

theorem visible_remove (j : Id) :
    (x.remove id).visible j = if j = id then none else x.visible j := by
  rcases remove_cases x id with ⟨hv, h⟩ | h <;> rw [h]
  · by_cases hj : j = id
    · rw [if_pos hj, hj, hv]
    · rw [if_neg hj]
  · unfold visible
    by_cases hj : j = id
    · simp only [hj, if_true]
    · simp only [if_neg hj]

end TxtIdx

namespace MetaIdx
variable (mok : M → Bool) (x : MetaIdx M) (id : Id) (m : M)

theorem add_err (h : (x.add mok id m).2.isSome) : (x.add mok id m).1 = x := by
  unfold add at *
  cases hm : mok m
  · rfl
  · rw [hm] at h; cases h

theorem add_ok_iff : (x.add mok id m).2 = none ↔ mok m = true := by
  unfold add
  cases mok m
  · exact ⟨nofun, nofun⟩
  · exact ⟨fun _ => rfl, fun _ => rfl⟩

theorem visible_add (h : mok m = true) (j : Id) :
    (x.add mok id m).1.visible j = if j = id then x.visible id ++ [m] else x.visible j := by
  unfold add visible
  rw [if_pos h]
  by_cases hj : j = id
  · simp only [hj, if_true]
  · simp only [if_neg hj]

theorem visible_add_ne (j : Id) (hj : j ≠ id) : (x.add mok id m).1.visible j = x.visible j := by
  cases hm : mok m
  · rw [add_err mok x id m (by unfold add; rw [hm]; rfl)]
  · rw [visible_add mok x id m hm j, if_neg hj]

theorem visible_remove (j : Id) : (x.remove id).visible j = if j = id then [] else x.visible j :=
  rfl

end MetaIdx

/-- Every sub-step of `addInternal` and of `remove` has this shape: the operation `f` of one
    sub-index runs only when that sub-index is configured and the call concerns its modality
    (`oa` — for an add the content supplied, for a remove the docInfo flag).  The result is the
    sub-index afterwards, whether `f` ran, and `f`'s error.  Stating the sub-steps through it
    (`addVec_eq` … `removeMeta_eq`) makes explicit that each reads and writes one field only. -/
def subOp {X A : Type} (f : X → A → X × Option Err) :
    Option X → Option A → Option X × Bool × Option Err
  | some x, some a => (some (f x a).1, true, (f x a).2)
  | ox, _ => (ox, false, none)

section subOp
variable {X A O : Type} {f : X → A → X × Option Err} {ox : Option X} {oa : Option A}

theorem subOp_cases (f : X → A → X × Option Err) (ox : Option X) (oa : Option A) :
    (∃ x a, ox = some x ∧ oa = some a ∧ subOp f ox oa = (some (f x a).1, true, (f x a).2)) ∨
    ((ox = none ∨ oa = none) ∧ subOp f ox oa = (ox, false, none)) := by
  cases ox with
  | none => exact .inr ⟨.inl rfl, rfl⟩
  | some x =>
    cases oa with
    | none => exact .inr ⟨.inr rfl, rfl⟩
    | some a => exact .inl ⟨x, a, rfl, rfl, rfl⟩

theorem subOp_none (h : ox = none ∨ oa = none) : subOp f ox oa = (ox, false, none) := by
  rcases h with rfl | rfl
  · rfl
  · cases ox <;> rfl

theorem subOp_not_flag (h : (subOp f ox oa).2.1 = false) : subOp f ox oa = (ox, false, none) := by
  rcases subOp_cases f ox oa with ⟨_, _, _, _, h'⟩ | ⟨_, h'⟩
  · rw [h'] at h; cases h
  · exact h'

theorem subOp_flag : (subOp f ox oa).2.1 = true ↔ ∃ x a, ox = some x ∧ oa = some a := by
  cases ox with
  | none => exact ⟨nofun, nofun⟩
  | some x =>
    cases oa with
    | none => exact ⟨nofun, nofun⟩
    | some a => exact ⟨fun _ => ⟨x, a, rfl, rfl⟩, fun _ => rfl⟩

theorem subOp_obs (obs : Option X → O) (h : ∀ x a, obs (some (f x a).1) = obs (some x)) :
    obs (subOp f ox oa).1 = obs ox := by
  rcases subOp_cases f ox oa with ⟨x, a, rfl, rfl, _⟩ | ⟨_, h'⟩
  · exact h x a
  · rw [h']

theorem subOp_err (h : ∀ x a, (f x a).2.isSome → (f x a).1 = x)
    (he : (subOp f ox oa).2.2.isSome) : (subOp f ox oa).1 = ox := by
  rcases subOp_cases f ox oa with ⟨x, a, rfl, rfl, _⟩ | ⟨_, h'⟩
  · exact congrArg some (h x a he)
  · rw [h']

theorem subOp_reset (obs : Option X → O) (e : O) (P : Option Err → Prop)
    (hnone : obs none = e) (hskip : oa = none → obs ox = e)
    (hf : ∀ x a, P (f x a).2 → obs (some (f x a).1) = e)
    (hP : P (subOp f ox oa).2.2) : obs (subOp f ox oa).1 = e := by
  rcases subOp_cases f ox oa with ⟨x, a, rfl, rfl, _⟩ | ⟨hn | hn, h'⟩
  · exact hf x a hP
  · rw [h', hn]; exact hnone
  · rw [h']; exact hskip hn

end subOp

/-- how `remove` hands a docInfo flag to `subOp` -/
def flagArg (b : Bool) : Option Unit := if b then some () else none

theorem flagArg_eq_none {b : Bool} : flagArg b = none ↔ b = false := by
  cases b
  · exact ⟨fun _ => rfl, fun _ => rfl⟩
  · exact ⟨nofun, nofun⟩

theorem flagArg_eq_some {b : Bool} {u : Unit} : flagArg b = some u ↔ b = true := by
  cases b
  · exact ⟨nofun, nofun⟩
  · exact ⟨fun _ => rfl, fun _ => rfl⟩

section add
variable (p : Params V M) (s : State V T M) (id : Id) (d : Doc V T M)

theorem addVec_eq :
    addVec p s id d =
      ({ s with vec := (subOp (fun x v => x.add p.vpre id v) s.vec d.vec).1 },
       (subOp (fun x v => x.add p.vpre id v) s.vec d.vec).2) := by
  rcases s with ⟨_ | x, _, _, _, _⟩ <;> rcases d with ⟨_ | v, _, _⟩ <;> rfl

theorem addTxt_eq :
    addTxt s id d =
      ({ s with txt := (subOp (fun x t => (x.add id t, none)) s.txt d.txt).1 },
       (subOp (fun x t => (x.add id t, none)) s.txt d.txt).2.1) := by
  rcases s with ⟨_, _ | x, _, _, _⟩ <;> rcases d with ⟨_, _ | t, _⟩ <;> rfl

theorem addMeta_eq :
    addMeta p s id d =
      ({ s with mdx := (subOp (fun x m => x.add p.mok id m) s.mdx d.md).1 },
       (subOp (fun x m => x.add p.mok id m) s.mdx d.md).2) := by
  rcases s with ⟨_, _, _ | x, _, _⟩ <;> rcases d with ⟨_, _, _ | m⟩ <;> rfl

/-- (with `addTxt_flag`, `addMeta_flag`) the flags recorded in docInfo say which modalities were
    supplied AND configured -/
theorem addVec_flag :
    (addVec p s id d).2.1 = true ↔ (∃ x v, s.vec = some x ∧ d.vec = some v) := by
  rw [addVec_eq]; exact subOp_flag

theorem addTxt_flag :
    (addTxt s id d).2 = true ↔ (∃ x t, s.txt = some x ∧ d.txt = some t) := by
  rw [addTxt_eq]; exact subOp_flag

theorem addMeta_flag :
    (addMeta p s id d).2.1 = true ↔ (∃ x m, s.mdx = some x ∧ d.md = some m) := by
  rw [addMeta_eq]; exact subOp_flag

theorem addVec_err (h : (addVec p s id d).2.2.isSome) : (addVec p s id d).1 = s := by
  rw [addVec_eq] at h ⊢
  exact congrArg (fun o => { s with vec := o })
    (subOp_err (fun x v => VecIdx.add_err p.vpre x id v) h)

/-- after the up-front validation the metadata sub-add cannot fail -/
theorem addMeta_ok_of_not_bad (h : badMeta p s d = false) : (addMeta p s id d).2.2 = none := by
  rcases s with ⟨_, _, _ | x, _, _⟩ <;> rcases d with ⟨_, _, _ | m⟩
  case some.some => exact (MetaIdx.add_ok_iff p.mok x id m).2 ((Bool.not_eq_false' _).mp h)
  all_goals rfl

theorem vecVisible_of_vec {s : State V T M} {x : VecIdx V} (h : s.vec = some x) (j : Id) :
    vecVisible s j = x.visible j := by unfold vecVisible; rw [h]

theorem metaVisible_of_mdx {s : State V T M} {x : MetaIdx M} (h : s.mdx = some x) (j : Id) :
    metaVisible s j = x.visible j := by unfold metaVisible; rw [h]

/-- `addInternal` either fails and changes nothing, or is the three sub-adds run side by side
    on the given state plus the docInfo entry -/
theorem addInternal_cases :
    ((addInternal p s id d).2.isSome ∧ (addInternal p s id d).1 = s) ∨
    ((addVec p s id d).2.2 = none ∧ (addMeta p s id d).2.2 = none ∧
      addInternal p s id d =
        ({ vec := (addVec p s id d).1.vec, txt := (addTxt s id d).1.txt,
           mdx := (addMeta p s id d).1.mdx, counter := s.counter,
           info := fun j => if j = id then
               some ⟨(addVec p s id d).2.1, (addTxt s id d).2, (addMeta p s id d).2.1⟩
             else s.info j }, none)) := by
  by_cases hb : badMeta p s d = true
  · left
    rw [addInternal, if_pos hb]
    exact ⟨rfl, rfl⟩
  · have h3 := addMeta_ok_of_not_bad p s id d (Bool.eq_false_iff.2 hb)
    by_cases h1 : (addVec p s id d).2.2.isSome = true
    · left
      rw [addInternal, if_neg hb]
      simp only [if_pos h1]
      exact ⟨h1, addVec_err p s id d h1⟩
    · right
      refine ⟨Option.not_isSome_iff_eq_none.1 h1, h3, ?_⟩
      -- no branch fails; by the `_eq` lemmas each sub-add writes its own field only, so the
      -- later ones may be stated on `s` instead of on their predecessor's result
      simp only [addVec_eq] at h1
      simp only [addMeta_eq] at h3
      simp only [addInternal, addVec_eq, addTxt_eq, addMeta_eq, hb, h1, h3, Option.isSome_none,
        Bool.false_eq_true, if_false]

end add

section remove
variable (s : State V T M) (id : Id) (inf : Info)

theorem removeVec_eq :
    removeVec s id inf =
      ({ s with vec := (subOp (fun x _ => x.remove id) s.vec (flagArg inf.hasVector)).1 },
       (subOp (fun x _ => x.remove id) s.vec (flagArg inf.hasVector)).2.2) := by
  rcases s with ⟨_ | x, _, _, _, _⟩ <;> rcases inf with ⟨_ | _, _, _⟩ <;> rfl

theorem removeTxt_eq :
    removeTxt s id inf =
      { s with txt := (subOp (fun x _ => (x.remove id, none)) s.txt (flagArg inf.hasText)).1 } := by
  rcases s with ⟨_, _ | x, _, _, _⟩ <;> rcases inf with ⟨_, _ | _, _⟩ <;> rfl

theorem removeMeta_eq :
    removeMeta s id inf =
      { s with mdx := (subOp (fun x _ => (x.remove id, none)) s.mdx (flagArg inf.hasMeta)).1 } := by
  rcases s with ⟨_, _, _ | x, _, _⟩ <;> rcases inf with ⟨_, _, _ | _⟩ <;> rfl

theorem removeVec_err (h : (removeVec s id inf).2.isSome) : (removeVec s id inf).1 = s := by
  rw [removeVec_eq] at h ⊢
  exact congrArg (fun o => { s with vec := o })
    (subOp_err (fun x _ => VecIdx.remove_err x id) h)

end remove

/-- `docInfo` and the sub-indexes agree: an id without docInfo is findable nowhere; an id
    with docInfo is findable by vector search iff its `hasVector` flag is set, and not
    findable through a modality whose flag is clear. -/
def Inv (s : State V T M) : Prop := ∀ j,
  match s.info j with
  | none => vecVisible s j = [] ∧ txtVisible s j = none ∧ metaVisible s j = []
  | some inf =>
      (inf.hasVector = true → vecVisible s j ≠ []) ∧
      (inf.hasVector = false → vecVisible s j = []) ∧
      (inf.hasText = false → txtVisible s j = none) ∧
      (inf.hasMeta = false → metaVisible s j = [])

end Comet.Hybrid
