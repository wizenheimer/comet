/-
  Lemmas for C19 (limiter.go): index safety of the `Autocut` model.
-/
import Comet.Limiter
namespace Comet

theorem idx_ok (xs : List α) (i : Nat) (h : i < xs.length) : idx xs (i : Int) = .ok xs[i] := by
  rw [idx, if_neg (Int.not_lt.2 (Int.natCast_nonneg i)), Int.toNat_natCast,
    List.getElem?_eq_getElem h]

theorem idx_ok' (xs : List α) (i : Int) (h0 : 0 ≤ i) (h : i.toNat < xs.length) :
    ∃ x, idx xs i = .ok x := by
  rw [← Int.toNat_of_nonneg h0]
  exact ⟨_, idx_ok xs _ h⟩

theorem idx_pred (xs : List α) (i : Nat) (h0 : i ≠ 0) (h : i ≤ xs.length) :
    idx xs ((i : Int) - 1) = .ok (xs[i - 1]'(Nat.sub_one_lt_of_le (Nat.pos_of_ne_zero h0) h)) := by
  rw [← Int.natCast_one, ← Int.natCast_sub (Nat.pos_of_ne_zero h0)]
  exact idx_ok xs (i - 1) _

theorem idx_neg (xs : List α) (i : Int) (h : i < 0) : idx xs i = .error (.index i xs.length) := by
  unfold idx; simp [h]

theorem mapM_ok {ε α β : Type} (f : α → Except ε β) (l : List α) {n : Nat} (hn : l.length = n)
    (h : ∀ a ∈ l, ∃ b, f a = .ok b) : ∃ bs, l.mapM f = .ok bs ∧ bs.length = n := by
  induction l generalizing n with
  | nil => exact ⟨[], rfl, hn⟩
  | cons a l ih =>
    rw [List.forall_mem_cons] at h
    obtain ⟨b, hb⟩ := h.1
    obtain ⟨bs, hbs, hl⟩ := ih rfl h.2
    refine ⟨b :: bs, ?_, hn ▸ congrArg (· + 1) hl⟩
    rw [List.mapM_cons, hb, hbs]
    rfl

/-- the first loop never panics and yields `len(yValues)` differences (any operations) -/
theorem autocutDiff_ok (o : FOps F) (ys : List F) :
    ∃ d, autocutDiff o ys = .ok d ∧ d.length = ys.length := by
  refine mapM_ok _ (List.range ys.length) List.length_range fun i hi => ?_
  have hi : i < ys.length := List.mem_range.1 hi
  obtain ⟨y0, e0⟩ := idx_ok' ys 0 (Int.le_refl 0) (Nat.zero_lt_of_lt hi)
  rw [idx_ok ys i hi, e0, idx_pred ys ys.length (Nat.ne_of_gt (Nat.zero_lt_of_lt hi)) (Nat.le_refl _)]
  exact ⟨_, rfl⟩

theorem autocutDiff_two (o : FOps F) (y0 y1 : F) :
    autocutDiff o [y0, y1] = .ok [diffAt o 2 y0 y1 y0 0, diffAt o 2 y0 y1 y1 1] := rfl

/-- the neighbour read behind the guard is in range when there are ≥ 3 differences:
    `diff[i-2]` for the last index, `diff[i+1]` for the others -/
theorem idx_neighbour_ok (diff : List F) (h3 : 3 ≤ diff.length) (i : Nat) (hi : i < diff.length) :
    ∃ x, idx diff (if ((i : Int) == (diff.length : Int) - 1 && decide (diff.length > 1)) = true
      then (i : Int) - 2 else (i : Int) + 1) = .ok x := by
  split
  next hl =>
    simp only [Bool.and_eq_true, beq_iff_eq, decide_eq_true_eq] at hl
    exact idx_ok' diff _ (by omega) (by omega)
  next hl =>
    simp only [Bool.and_eq_true, beq_iff_eq, decide_eq_true_eq, not_and] at hl
    have : (i : Int) ≠ (diff.length : Int) - 1 := fun he => hl he (by omega)
    exact idx_ok' diff _ (by omega) (by omega)

theorem bind_ok {ε α β : Type} {x : Except ε α} {f : α → Except ε β} {P : β → Prop} {a : α}
    (hx : x = .ok a) (hf : ∃ r, f a = .ok r ∧ P r) : ∃ r, (x >>= f) = .ok r ∧ P r := by
  subst hx
  exact hf

/-- The second loop never panics (any operations) unless there are exactly two
    differences with a true guard; it returns `n` or a scanned index. -/
theorem autocutScan_ok (o : FOps F) (diff : List F) (c : Int) (n : Nat)
    (hL : ∀ h : diff.length = 2,
      o.gt (diff[1]'(h ▸ Nat.one_lt_two)) (diff[0]'(h ▸ Nat.zero_lt_two)) = false)
    (is : List Nat) (cnt : Int) (his : ∀ i ∈ is, i < diff.length) :
    ∃ r, autocutScan o diff c n is cnt = .ok r ∧ (r = n ∨ r ∈ is) := by
  induction is generalizing cnt with
  | nil => exact ⟨n, rfl, .inl rfl⟩
  | cons i is ih =>
    rw [List.forall_mem_cons] at his
    have lift : ∀ cnt', ∃ r, autocutScan o diff c n is cnt' = .ok r ∧ (r = n ∨ r ∈ i :: is) :=
      fun cnt' => (ih cnt' his.2).imp fun r h => ⟨h.1, h.2.imp_right (List.mem_cons_of_mem _)⟩
    rw [autocutScan]
    by_cases hi0 : i = 0
    · rw [if_pos (beq_iff_eq.2 hi0)]
      exact lift cnt
    rw [if_neg (mt beq_iff_eq.1 hi0)]
    -- peel the reads off one by one: `diff[i]`, `diff[i-1]`, then those behind the guard
    refine bind_ok (idx_ok diff i his.1) (bind_ok (idx_pred diff i hi0 (Nat.le_of_lt his.1)) ?_)
    dsimp only
    by_cases hg : o.gt (diff[i]'his.1) (diff[i - 1]'(Nat.lt_of_le_of_lt (Nat.sub_le ..) his.1)) = true
    · rw [if_pos hg]
      -- the guard holds, so these are not the two differences of `hL`
      have h3 : 3 ≤ diff.length := Nat.le_of_not_lt fun hlt => by
        have h2 : diff.length = 2 := by omega
        obtain rfl : i = 1 := by omega
        exact Bool.false_ne_true ((hL h2).symm.trans hg)
      obtain ⟨x, ex⟩ := idx_neighbour_ok diff h3 i his.1
      refine bind_ok (idx_ok diff i his.1) (bind_ok ex (bind_ok rfl ?_))
      split
      · split
        · exact ⟨i, rfl, .inr (List.mem_cons_self ..)⟩
        · exact lift _
      · exact lift _
    · rw [if_neg hg]
      exact lift cnt

/-- **Index safety.**  `Autocut` does not panic and returns an index `≤ len`: for every
    length other than 2 whatever the operations, for length 2 when the guard is false. -/
theorem autocut_ok (o : FOps F) (ys : List F) (c : Int) (h : ys.length ≠ 2 ∨ Len2Safe o) :
    ∃ n, autocut o ys c = .ok n ∧ n ≤ ys.length := by
  rw [autocut]
  by_cases h1 : ys.length ≤ 1
  · rw [if_pos h1]
    exact ⟨_, rfl, Nat.le_refl _⟩
  rw [if_neg h1]
  obtain ⟨d, hd, hl⟩ := autocutDiff_ok o ys
  have hL : ∀ h2 : d.length = 2,
      o.gt (d[1]'(h2 ▸ Nat.one_lt_two)) (d[0]'(h2 ▸ Nat.zero_lt_two)) = false := fun hd2 => by
    rcases h with hne | hs
    · exact absurd (hl ▸ hd2) hne
    · obtain ⟨y0, y1, rfl⟩ : ∃ y0 y1, ys = [y0, y1] :=
        match ys, (hl ▸ hd2 : ys.length = 2) with
        | [y0, y1], _ => ⟨y0, y1, rfl⟩
      rw [autocutDiff_two] at hd
      cases hd
      exact hs y0 y1
  obtain ⟨r, hr, hmem⟩ := autocutScan_ok o d c ys.length hL (List.range d.length) 0
    fun i => List.mem_range.1
  refine bind_ok hd ⟨r, hr, ?_⟩
  rcases hmem with rfl | hmem
  · exact Nat.le_refl _
  · exact hl ▸ Nat.le_of_lt (List.mem_range.1 hmem)

end Comet
