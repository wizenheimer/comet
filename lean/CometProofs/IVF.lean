/-
  Helper lemmas for C13 (IVF index). A trained IVF state is the flat index's vector list
  split into buckets by `nearest` (`Sim`, preserved by every Add / Remove / Flush), so a
  search is a flat scan over the probed buckets; the probed buckets are a prefix of a
  sorted permutation of the centroids, and exact top-k is monotone in the candidates.
-/
import Comet.Vector.IVF
import CometProofs.Flat
import CometProofs.Argmin
import CometProofs.Buckets

namespace Comet
variable {S : Type}

theorem topK_mono (le : S → S → Bool)
    (tot : ∀ a b : S, le a b || le b a)
    (tr : ∀ a b c : S, le a b → le b c → le a c)
    (k : Int) (c extra c' r r' : List (Hit S))
    (hc : c'.Perm (c ++ extra))
    (h : IsTopK le k c r) (h' : IsTopK le k c' r') :
    r.length ≤ r'.length ∧
      ∀ (i : Nat) (a a' : Hit S), r[i]? = some a → r'[i]? = some a' → le a'.score a.score = true := by
  have hlen : r.length ≤ r'.length := by
    rw [h.len, h'.len]
    exact sanitizeK_mono k (by rw [hc.length_eq, List.length_append]; exact Nat.le_add_right ..)
  refine ⟨hlen, fun i a a' hia hia' => ?_⟩
  obtain ⟨hi, rfl⟩ := List.getElem?_eq_some_iff.1 hia
  obtain ⟨hi', rfl⟩ := List.getElem?_eq_some_iff.1 hia'
  have refl : ∀ x : S, le x x = true := fun x => by simpa using tot x x
  obtain ⟨hs, ⟨rest, hperm, _⟩, _⟩ := h
  obtain ⟨hs', ⟨rest', hperm', hle'⟩, _⟩ := h'
  -- suppose not: then the i+1 hits r[0..i] are all strictly better than r'[i] …
  cases hcontra : le r'[i].score r[i].score with
  | true => rfl
  | false =>
    exfalso
    let P : Hit S → Bool := fun x => !le r'[i].score x.score
    have hP : ∀ x ∈ r.take (i + 1), P x = true := by
      intro x hx
      have hxa : le x.score r[i].score = true := by
        rw [List.take_succ_eq_append_getElem hi, List.mem_append, List.mem_singleton] at hx
        rcases hx with hx | rfl
        · exact hs.take_drop i x hx _ (List.drop_eq_getElem_cons hi ▸ List.mem_cons_self)
        · exact refl _
      cases hc2 : le r'[i].score x.score with
      | false => simp [P, hc2]
      | true => rw [tr _ _ _ hc2 hxa] at hcontra; cases hcontra
    have h1 : i + 1 ≤ ((r ++ rest) ++ extra).countP P :=
      calc i + 1 = (r.take (i + 1)).length := by rw [List.length_take, Nat.min_eq_left hi]
        _ = (r.take (i + 1)).countP P := (List.countP_eq_length.2 hP).symm
        _ ≤ _ := ((List.take_sublist _ _).trans ((List.sublist_append_left _ _).trans
          (List.sublist_append_left _ _))).countP_le
    -- … but in c' only r'[0..i-1] can be
    have hz1 : (r'.drop i).countP P = 0 := by
      refine List.countP_eq_zero.2 fun x hx => ?_
      rw [List.drop_eq_getElem_cons hi', List.mem_cons] at hx
      have hax : le r'[i].score x.score = true := by
        rcases hx with rfl | hx
        · exact refl _
        · have := List.drop_eq_getElem_cons hi' ▸ hs'.sublist (List.drop_sublist i r')
          exact (List.pairwise_cons.1 this).1 x hx
      simp [P, hax]
    have hz2 : rest'.countP P = 0 :=
      List.countP_eq_zero.2 fun x hx => by simp [P, hle' _ (List.getElem_mem hi') x hx]
    have h2 : (r' ++ rest').countP P ≤ i := by
      rw [List.countP_append, hz2, ← List.take_append_drop i r', List.countP_append, hz1]
      exact Nat.le_trans List.countP_le_length (List.length_take_le _ _)
    rw [(((hperm.append_right extra).trans hc.symm).trans hperm'.symm).countP_eq] at h1
    exact Nat.not_succ_le_self i (Nat.le_trans h1 h2)
end Comet

namespace Comet.IVF
variable {V S : Type}

theorem argminLoop_eq (sc : Scalar S) (ds : List S) (i mi : Nat) (md : S) :
    argminLoop sc ds i mi md = PQ.argminLoop sc.lt ds i md mi := by
  induction ds generalizing i mi md with
  | nil => rfl
  | cons d ds ih => rw [argminLoop, PQ.argminLoop, ih, ih]

/-- `top` serves the case in which nothing beats the `+Inf` start value and index 0 is returned;
    `PQ.argmin_spec` excludes that case by `hfin` instead. -/
theorem argmin_spec (sc : Scalar S) (ord : sc.Ordered) (inf : S) (top : ∀ x, sc.le x inf = true)
    (f : α → S) (l : List α) (hne : l ≠ []) :
    ∃ c, l[argmin sc inf (l.map f)]? = some c ∧
      (∀ c' ∈ l, sc.le (f c) (f c') = true) ∧
      ∀ j, j < argmin sc inf (l.map f) → ∀ cj, l[j]? = some cj → sc.le (f cj) (f c) = false := by
  unfold argmin
  rw [argminLoop_eq]
  rcases PQ.argminLoop_spec ord (l.map f) 0 inf 0 with ⟨h1, h2⟩ | ⟨j, hj, h1, _, h3, h4⟩
  · rw [h1]
    exact ⟨l[0]'(List.length_pos_iff.2 hne), List.getElem?_eq_getElem _,
      fun c' hc' => ord.trans _ _ _ (top _) (ord.lt_false_iff.1 (h2 _ (List.mem_map_of_mem hc'))),
      fun j hj => nomatch hj⟩
  · rw [h1, Nat.zero_add]
    rw [List.getElem_map] at h3 h4
    exact ⟨l[j]'(List.length_map f ▸ hj), List.getElem?_eq_getElem _,
      fun c' hc' => ord.lt_false_iff.1 (h3 _ (List.mem_map_of_mem hc')),
      fun j' hj' cj hcj => ord.not_le_of_lt (h4 _ (List.mem_of_getElem?
        ((List.getElem?_take_of_lt hj').trans (by rw [List.getElem?_map, hcj]; rfl))))⟩

theorem insertBy_perm (le : α → α → Bool) (a : α) (l : List α) : (insertBy le a l).Perm (a :: l) := by
  induction l with
  | nil => exact .refl _
  | cons b bs ih =>
    rw [insertBy]
    split
    · exact .refl _
    · exact (ih.cons b).trans (.swap a b bs)

theorem insSort_perm (le : α → α → Bool) (l : List α) : (insSort le l).Perm l := by
  induction l with
  | nil => exact .refl _
  | cons a as ih => exact (insertBy_perm le a _).trans (ih.cons a)

theorem insertBy_sorted (le : α → α → Bool)
    (tot : ∀ a b, le a b || le b a) (tr : ∀ a b c, le a b → le b c → le a c)
    (a : α) (l : List α) (h : l.Pairwise fun x y => le x y = true) :
    (insertBy le a l).Pairwise fun x y => le x y = true := by
  induction l with
  | nil => exact List.pairwise_singleton _ _
  | cons b bs ih =>
    obtain ⟨hb, hbs⟩ := List.pairwise_cons.1 h
    rw [insertBy]
    split
    · next hab =>
      exact List.pairwise_cons.2 ⟨List.forall_mem_cons.2 ⟨hab, fun x hx => tr _ _ _ hab (hb x hx)⟩, h⟩
    · next hab =>
      have hba : le b a = true := by simpa [hab] using tot a b
      refine List.pairwise_cons.2 ⟨fun x hx => ?_, ih hbs⟩
      rcases List.mem_cons.1 ((insertBy_perm le a bs).subset hx) with rfl | hx
      · exact hba
      · exact hb x hx

theorem insSort_sorted (le : α → α → Bool)
    (tot : ∀ a b, le a b || le b a) (tr : ∀ a b c, le a b → le b c → le a c)
    (l : List α) : (insSort le l).Pairwise fun x y => le x y = true := by
  induction l with
  | nil => exact .nil
  | cons a as ih => exact insertBy_sorted le tot tr a _ ih

theorem idxDists_eq (m : Metric V S) (q' : V) (cs : List V) (i : Nat) :
    idxDists m q' cs i = (cs.zipIdx i).map fun p => (p.2, m.dist q' p.1) := by
  induction cs generalizing i with
  | nil => rfl
  | cons c cs ih => rw [idxDists, ih, List.zipIdx_cons, List.map_cons]

theorem rank_perm (m : Metric V S) (q' : V) (cs : List V) :
    (rank m q' cs).Perm (cs.zipIdx.map fun p => (p.2, m.dist q' p.1)) :=
  idxDists_eq m q' cs 0 ▸ insSort_perm _ _

theorem rank_map_fst_perm (m : Metric V S) (q' : V) (cs : List V) :
    ((rank m q' cs).map (·.1)).Perm (List.range cs.length) := by
  have := (rank_perm m q' cs).map (·.1)
  rw [List.map_map] at this
  rw [List.range_eq_range', ← List.zipIdx_map_snd 0 cs]
  exact this

theorem rank_length (m : Metric V S) (q' : V) (cs : List V) : (rank m q' cs).length = cs.length := by
  rw [(rank_perm m q' cs).length_eq, List.length_map, List.length_zipIdx]

theorem mem_rank (m : Metric V S) (q' : V) (cs : List V) (a : Nat × S) (h : a ∈ rank m q' cs) :
    ∃ c, cs[a.1]? = some c ∧ a.2 = m.dist q' c := by
  obtain ⟨p, hp, rfl⟩ := List.mem_map.1 ((rank_perm m q' cs).subset h)
  exact ⟨p.1, List.mem_zipIdx_iff_getElem?.1 hp, rfl⟩

theorem rank_sorted (m : Metric V S) (ord : m.sc.Ordered) (q' : V) (cs : List V) :
    (rank m q' cs).Pairwise fun a b => m.sc.le a.2 b.2 = true :=
  insSort_sorted _ (fun a b => ord.total a.2 b.2) (fun a b c => ord.trans a.2 b.2 c.2) _

theorem probe_sublist (m : Metric V S) (q' : V) (cs : List V) (np : Nat) :
    (probe m q' cs np).Sublist ((rank m q' cs).map (·.1)) :=
  (List.take_sublist _ _).map _

theorem lt_of_mem_probe {m : Metric V S} {q' : V} {cs : List V} {np i : Nat}
    (h : i ∈ probe m q' cs np) : i < cs.length :=
  List.mem_range.1 ((rank_map_fst_perm m q' cs).subset ((probe_sublist m q' cs np).subset h))

theorem probe_isProbeSet (m : Metric V S) (ord : m.sc.Ordered) (q' : V) (cs : List V) (np : Nat)
    (hnp : np ≤ cs.length) : IsProbeSet m q' cs np (probe m q' cs np) := by
  refine ⟨(probe_sublist m q' cs np).nodup ((rank_map_fst_perm m q' cs).nodup_iff.2 List.nodup_range),
    ?_, fun i hi => lt_of_mem_probe hi, ?_⟩
  · rw [probe, List.length_map, List.length_take, rank_length, Nat.min_eq_left hnp]
  · intro i hi j hj ci cj hci hcj
    obtain ⟨a, ha, rfl⟩ := List.mem_map.1 hi
    -- j occurs in the ranking, necessarily in the dropped part
    have hjmem : j ∈ (rank m q' cs).map (·.1) :=
      (rank_map_fst_perm m q' cs).symm.subset (List.mem_range.2 (List.getElem?_eq_some_iff.1 hcj).1)
    obtain ⟨b, hb, rfl⟩ := List.mem_map.1 hjmem
    rw [← List.take_append_drop np (rank m q' cs), List.mem_append] at hb
    have hb' : b ∈ (rank m q' cs).drop np := hb.resolve_left fun hb => hj (List.mem_map.2 ⟨b, hb, rfl⟩)
    obtain ⟨ca, hca, ea⟩ := mem_rank m q' cs a (List.mem_of_mem_take ha)
    obtain ⟨cb, hcb, eb⟩ := mem_rank m q' cs b (List.mem_of_mem_drop hb')
    cases hci.symm.trans hca
    cases hcj.symm.trans hcb
    exact ea ▸ eb ▸ (rank_sorted m ord q' cs).take_drop np a ha b hb'

theorem mem_probe_full (m : Metric V S) (q' : V) (cs : List V) (i : Nat) (hi : i < cs.length) :
    i ∈ probe m q' cs cs.length := by
  rw [probe, List.take_of_length_le (Nat.le_of_eq (rank_length m q' cs))]
  exact (rank_map_fst_perm m q' cs).symm.subset (List.mem_range.2 hi)

theorem appendAt_eq_modify (e : α) (ls : List (List α)) (j : Nat) :
    appendAt e ls j = ls.modify j (· ++ [e]) := by
  induction ls generalizing j with
  | nil => rw [appendAt, List.modify_nil]
  | cons l ls ih =>
    cases j with
    | zero => rfl
    | succ j => rw [appendAt, ih, List.modify_succ_cons]

theorem appendAt_length (e : α) (ls : List (List α)) (j : Nat) :
    (appendAt e ls j).length = ls.length := by
  rw [appendAt_eq_modify, List.length_modify]

theorem gather_bucketsOf (g : α → Nat) (n : Nat) (l : List α) (P : List Nat) (h : ∀ i ∈ P, i < n) :
    gather (bucketsOf g n l) P = some (P.map fun i => l.filter fun e => g e == i) := by
  induction P with
  | nil => rfl
  | cons i is ih =>
    obtain ⟨hi, his⟩ := List.forall_mem_cons.1 h
    rw [gather, bucketsOf_getElem? g n l i hi, ih his]
    rfl

theorem nearest_lt (m : Metric V S) (inf : S) (v : V) (cs : List V) (hne : cs ≠ []) :
    nearest m inf v cs < cs.length := by
  rw [nearest, argmin, argminLoop_eq, ← List.length_map (m.dist v)]
  exact PQ.argmin_lt m.sc.lt inf _ (mt List.map_eq_nil_iff.1 hne)

/-- the cluster `Add` assigns an entry to -/
def keyOf (m : Metric V S) (inf : S) (cs : List V) (e : Id × V) : Nat := nearest m inf e.2 cs

/-- refinement relation between a trained IVF state and the flat index holding the same data -/
structure Sim (m : Metric V S) (inf : S) (cs : List V) (s : State V) (f : Flat.State V) : Prop where
  dim : s.dim = f.dim
  nlist : s.nlist = cs.length
  cent : s.centroids = cs
  trained : s.trained = true
  deleted : s.deleted = f.deleted
  lists : s.lists = bucketsOf (keyOf m inf cs) cs.length f.vecs

section Sim
variable {m : Metric V S} {inf : S} {cs : List V} {s : State V} {f : Flat.State V}

theorem Sim.flatten_perm (h : Sim m inf cs s f) (hne : cs ≠ []) : s.lists.flatten.Perm f.vecs :=
  h.lists ▸ flatten_bucketsOf_perm _ _ _ fun e _ => nearest_lt m inf e.2 cs hne

/-- the early return is redundant: without tombstones, filtering by "not tombstoned" keeps all -/
theorem flushLocked_eq (s : State V) : flushLocked s =
    { s with lists := s.lists.map (fun l => l.filter fun p => p.1 ∉ s.deleted), deleted := [] } := by
  unfold flushLocked
  split
  · next h =>
    obtain ⟨_, _, _, lists, deleted, _⟩ := s
    cases List.isEmpty_iff.1 h
    congr 1
    exact ((List.map_congr_left fun l _ => List.filter_eq_self.2 fun _ _ => rfl).trans
      (List.map_id' lists)).symm
  · rfl

theorem sim_flushed (h : Sim m inf cs s f) : Sim m inf cs (flushLocked s) (Flat.flushed f) := by
  rw [flushLocked_eq]
  refine ⟨h.dim, h.nlist, h.cent, h.trained, rfl, ?_⟩
  show List.map _ s.lists = _
  rw [h.lists, h.deleted]
  exact map_filter_bucketsOf _ _ _ _

theorem sim_purge (h : Sim m inf cs s f) (id : Id) :
    Sim m inf cs (if id ∈ s.deleted then flushLocked s else s)
      (if id ∈ f.deleted then Flat.flushed f else f) := by
  rw [h.deleted]
  split
  · exact sim_flushed h
  · exact h

/-- the list the entry goes to exists (no panic), and appending there keeps the relation -/
theorem sim_append (hne : cs ≠ []) (h : Sim m inf cs s f) (id : Id) (v' : V) :
    nearest m inf v' s.centroids < s.lists.length ∧
      Sim m inf cs { s with lists := appendAt (id, v') s.lists (nearest m inf v' s.centroids) }
        { f with vecs := f.vecs ++ [(id, v')] } := by
  refine ⟨?_, h.dim, h.nlist, h.cent, h.trained, h.deleted, ?_⟩
  · rw [h.cent, h.lists, bucketsOf_length]
    exact nearest_lt m inf v' cs hne
  · show appendAt (id, v') s.lists (nearest m inf v' s.centroids) = _
    rw [h.lists, h.cent, appendAt_eq_modify, bucketsOf_append_single]
    rfl

end Sim

/-- one-step simulation of `Flat.step`, which has the same re-add purge -/
theorem sim_step (m : Metric V S) (inf : S) (cs : List V) (hne : cs ≠ [])
    (s : State V) (f : Flat.State V) (h : Sim m inf cs s f) (op : Flat.Op V) :
    Sim m inf cs (step m inf s (ofFlat op)).1 (Flat.step m f op).1 ∧
      (step m inf s (ofFlat op)).2 = (Flat.step m f op).2.map Fail.err := by
  have branch := @Flat.rel_ite _ _ fun (a : State V × Option Fail) (b : Flat.State V × Option Err) =>
    Sim m inf cs a.1 b.1 ∧ a.2 = b.2.map Fail.err
  cases op with
  | add id v =>
    rw [ofFlat, step, if_neg (by simp [h.trained]), h.dim, Flat.step]
    refine branch (fun _ => ⟨h, rfl⟩) fun _ => ?_
    cases m.pre v with
    | none => exact ⟨h, rfl⟩
    | some v' =>
      obtain ⟨hlt, hsim⟩ := sim_append hne (sim_purge h id) id v'
      simp only [if_pos hlt]
      exact ⟨hsim, rfl⟩
  | remove id =>
    have hany : s.lists.any (fun l => l.any (·.1 == id)) = f.vecs.any (·.1 == id) :=
      List.any_flatten ▸ (h.flatten_perm hne).any_eq
    rw [ofFlat, step, hany, h.deleted, Flat.step]
    exact branch (fun _ => ⟨h, rfl⟩) fun _ => branch (fun _ => ⟨h, rfl⟩) fun _ =>
      ⟨⟨h.dim, h.nlist, h.cent, h.trained, rfl, h.lists⟩, rfl⟩
  | flush => exact Flat.step_flush m f ▸ ⟨sim_flushed h, rfl⟩

theorem sim_run (m : Metric V S) (inf : S) (cs : List V) (hne : cs ≠ [])
    (s : State V) (f : Flat.State V) (h : Sim m inf cs s f) (ops : List (Flat.Op V)) :
    Sim m inf cs (run m inf s (ops.map ofFlat)) (Flat.run m f ops) := by
  induction ops generalizing s f with
  | nil => exact h
  | cons op t ih => exact ih _ _ (sim_step m inf cs hne s f h op).1

theorem sim_train (m : Metric V S) (inf : S) (dim nlist n : Nat) (cs : List V)
    (hn : nlist ≤ n) (hcs : cs.length = nlist) :
    Sim m inf cs (step m inf (init dim nlist) (.train n cs)).1 (Flat.init dim) := by
  rw [step, if_neg (show ¬ n < (init dim nlist : State V).nlist from Nat.not_lt.2 hn)]
  exact ⟨rfl, hcs.symm, rfl, rfl, rfl, by rw [hcs]; exact (bucketsOf_nil _ _).symm⟩

theorem clampProbes_le (p : Int) (n : Nat) : clampProbes p n ≤ n := sanitizeK_le p n

theorem clampProbes_full {p : Int} {n : Nat} (h : p ≤ 0 ∨ (n : Int) ≤ p) : clampProbes p n = n := by
  by_cases h1 : p ≤ 0 ∨ (n : Int) < p
  · exact if_pos h1
  · cases Int.le_antisymm (Int.not_lt.1 (not_or.1 h1).2) (h.resolve_left (not_or.1 h1).1)
    exact (if_neg h1).trans (Int.toNat_natCast n)

theorem clampProbes_of_pos_le {p : Int} {n : Nat} (h0 : 0 < p) (h : p ≤ n) :
    clampProbes p n = p.toNat := sanitizeK_of_pos_le h0 h

/-- in a trained state that refines `f`, a search is a flat scan over the probed buckets of `f` -/
theorem searchSingle_eq (m : Metric V S) (inf : S) (cs : List V)
    (s : State V) (f : Flat.State V) (h : Sim m inf cs s f)
    (q q' : V) (k : Int) (thr : S) (F : List Id) (p : Int)
    (hq : m.dimOf q = s.dim) (hpre : m.pre q = some q') :
    searchSingle m s q k thr F p = .ok (selectK m.sc.le k
      (Flat.scan m ⟨s.dim,
        (probe m q' cs (clampProbes p cs.length)).flatMap
          (fun i => f.vecs.filter fun e => keyOf m inf cs e == i), f.deleted⟩ q' thr F)) := by
  have hlen : ¬ (rank m q' cs).length < clampProbes p cs.length :=
    Nat.not_lt.2 (rank_length m q' cs ▸ clampProbes_le p cs.length)
  have hg := gather_bucketsOf (keyOf m inf cs) cs.length f.vecs
    (probe m q' cs (clampProbes p cs.length)) fun i hi => lt_of_mem_probe hi
  rw [probe] at hg
  simp only [searchSingle, h.trained, hq, hpre, h.cent, h.nlist, hlen, h.lists, h.deleted, hg,
    Bool.not_true, Bool.false_eq_true, ne_eq, not_true_eq_false, if_false, List.flatMap, probe]

theorem scan_probe_perm (m : Metric V S) (inf : S) (cs : List V) (f : Flat.State V)
    (dim : Nat) (q' : V) (thr : S) (F : List Id) (P : List Nat) (hnd : P.Nodup) :
    (Flat.scan m ⟨dim, P.flatMap (fun i => f.vecs.filter fun e => keyOf m inf cs e == i),
        f.deleted⟩ q' thr F).Perm
      (probeCands m inf cs P (Flat.eff f) q' thr F) := by
  rw [Flat.scan_eq_cands]
  refine List.Perm.filterMap _ ?_
  have := (buckets_perm (keyOf m inf cs) f.vecs P hnd).filter (fun p => decide (p.1 ∉ f.deleted))
  rw [List.filter_filter] at this
  refine this.trans (.of_eq ?_)
  rw [inClusters, Flat.eff, List.filter_filter]
  exact List.filter_congr fun e _ => Bool.and_comm _ _

def trainedRun (m : Metric V S) (inf : S) (dim nlist n : Nat) (cs : List V)
    (ops : List (Flat.Op V)) : State V :=
  run m inf (init dim nlist) (.train n cs :: ops.map ofFlat)

theorem sim_trainedRun (m : Metric V S) (inf : S) (dim nlist n : Nat) (cs : List V)
    (hpos : 0 < nlist) (hn : nlist ≤ n) (hcs : cs.length = nlist) (ops : List (Flat.Op V)) :
    Sim m inf cs (trainedRun m inf dim nlist n cs ops) (Flat.run m (Flat.init dim) ops) :=
  sim_run m inf cs (List.ne_nil_of_length_pos (hcs ▸ hpos)) _ _
    (sim_train m inf dim nlist n cs hn hcs) ops

end Comet.IVF
