/-
  Lemmas for C04: association lists, the categorical key, and the
  representation invariant `Inv` of the metadata index with its preservation by
  `Add` / `Remove` (CometProofs/MetaEval.lean: the ingredients of the filters;
  CometProofs/MetaQuery.lean: filters and queries).

  `Inv s live get num` relates a model state to an abstract view of the documents:
  `live d` (the id is live), `get d f` (the value document `d` carries under `f`),
  `num f` (a number has ever been stored under `f`).
-/
import CometProofs.BSI
import Comet.MetaSpec
import CometProofs.AList
namespace Comet.Meta
open Comet

theorem lookup_cons' {α β : Type} [DecidableEq α] (a k : α) (b : β) (es : List (α × β)) :
    List.lookup a ((k, b) :: es) = if a = k then some b else List.lookup a es := by
  rw [List.lookup_cons]
  split <;> simp_all

theorem upsert_eq_aset {β : Type} (k : String) (f : Option β → β) (l : List (String × β)) :
    upsert k f l = BM25.aset l k (f (l.lookup k)) := by
  induction l with
  | nil => rfl
  | cons p r ih =>
    rw [upsert, BM25.aset, List.lookup_cons]
    by_cases h : p.1 = k
    · rw [if_pos h, if_pos (beq_iff_eq.2 h), beq_iff_eq.2 h.symm]
    · rw [if_neg h, if_neg (mt beq_iff_eq.1 h), beq_eq_false_iff_ne.2 (Ne.symm h), ih]

theorem lookup_upsert {β : Type} (k k' : String) (f : Option β → β) (l : List (String × β)) :
    (upsert k f l).lookup k' = if k' = k then some (f (l.lookup k)) else l.lookup k' := by
  rw [upsert_eq_aset, ← BM25.aget_eq_lookup, BM25.aget_aset, BM25.aget_eq_lookup]

theorem nodup_keys_upsert {β : Type} (k : String) (f : Option β → β) (l : List (String × β))
    (h : (l.map (·.1)).Nodup) : ((upsert k f l).map (·.1)).Nodup :=
  upsert_eq_aset k f l ▸ BM25.nodup_akeys_aset l k _ h

theorem lookup_map_val {β γ : Type} (g : β → γ) (k : String) (l : List (String × β)) :
    (l.map fun p => (p.1, g p.2)).lookup k = (l.lookup k).map g := by
  rw [← BM25.aget_eq_lookup, ← BM25.aget_eq_lookup]
  exact BM25.aget_map_val l (fun _ => g) k

theorem keys_map_val {β γ : Type} (g : β → γ) (l : List (String × β)) :
    (l.map fun p => (p.1, g p.2)).map (·.1) = l.map (·.1) :=
  BM25.akeys_map_val l fun _ => g

theorem mem_of_lookup {α β : Type} [DecidableEq α] {k : α} {v : β} {l : List (α × β)}
    (h : l.lookup k = some v) : (k, v) ∈ l :=
  BM25.mem_of_aget ((BM25.aget_eq_lookup l k).trans h)

theorem lookup_of_mem {α β : Type} [DecidableEq α] {k : α} {v : β} {l : List (α × β)}
    (hnd : (l.map (·.1)).Nodup) (h : (k, v) ∈ l) : l.lookup k = some v :=
  (BM25.aget_eq_lookup l k).symm.trans (BM25.aget_of_mem hnd h)

theorem lookup_filter_ne {β : Type} (id d : Nat) (l : List (Nat × β)) :
    (l.filter (·.1 != id)).lookup d = if d = id then none else l.lookup d := by
  rw [← BM25.aget_eq_lookup, BM25.aget_filter_key l (· != id) d, BM25.aget_eq_lookup]
  simp only [bne_iff_ne, ne_eq, ite_not]

theorem keyOf_toList (f v : String) : (keyOf f v).toList = f.toList ++ ':' :: v.toList := by
  simp [keyOf, String.toList_append]

theorem split_colon_inj {a a' b b' : List Char} (ha : ':' ∉ a) (ha' : ':' ∉ a')
    (h : a ++ ':' :: b = a' ++ ':' :: b') : a = a' ∧ b = b' := by
  -- `a` is what precedes the first ':'
  have key : ∀ {a b : List Char}, ':' ∉ a → (a ++ ':' :: b).takeWhile (· != ':') = a := fun ha => by
    rw [List.takeWhile_append_of_pos fun c hc => bne_iff_ne.mpr fun (e : c = ':') => ha (e ▸ hc)]
    simp
  have e : a = a' := by rw [← key (b := b) ha, h, key ha']
  subst e
  exact ⟨rfl, List.cons.inj (List.append_cancel_left h) |>.2⟩

theorem noColon_iff {s : String} : noColon s = true ↔ ':' ∉ s.toList := by
  simp [noColon]

theorem keyOf_inj {f f' v v' : String} (hf : noColon f = true) (hf' : noColon f' = true)
    (h : keyOf f v = keyOf f' v') : f = f' ∧ v = v' := by
  have h' := congrArg String.toList h
  rw [keyOf_toList, keyOf_toList] at h'
  have := split_colon_inj (noColon_iff.mp hf) (noColon_iff.mp hf') h'
  exact ⟨String.toList_inj.mp this.1, String.toList_inj.mp this.2⟩

/-- the prefix test of `getExistenceBitmap` selects exactly the keys of the field -/
theorem hasPrefix_keyOf {f f' v : String} (hf : noColon f = true) (hf' : noColon f' = true) :
    hasPrefix (keyOf f' v) (f ++ ":") = true ↔ f' = f := by
  have hpre : (f ++ ":").toList = f.toList ++ [':'] := by
    rw [String.toList_append]; rfl
  simp only [hasPrefix, Bool.and_eq_true, decide_eq_true_eq, List.isPrefixOf_iff_prefix, hpre, keyOf_toList]
  constructor
  · rintro ⟨_, t, ht⟩
    have h2 : f.toList ++ ':' :: t = f'.toList ++ ':' :: v.toList := by
      rw [← ht]; simp
    exact (String.toList_inj.mp (split_colon_inj (noColon_iff.mp hf) (noColon_iff.mp hf') h2).1).symm
  · rintro rfl
    refine ⟨by simp, v.toList, by simp⟩

def intOf : Option Value → Option I64
  | some (.int x) => some x
  | _ => none

theorem intOf_eq_some {w : Option Value} {y : I64} : intOf w = some y ↔ w = some (.int y) := by
  cases w with
  | none => simp [intOf]
  | some v => cases v <;> simp [intOf]

structure Inv (s : State) (live : Nat → Prop) (get : Nat → String → Option Value)
    (num : String → Prop) : Prop where
  all : ∀ d, d ∈ s.allDocs ↔ live d
  catKeys : (s.categorical.map (·.1)).Nodup
  -- existential in `(f, v)`: `keyOf` is injective only on colon-free fields, which `Inv` does not assume
  cat : ∀ key bm, s.categorical.lookup key = some bm →
    ∀ d, d ∈ bm ↔ ∃ f v, keyOf f v = key ∧ get d f = some (.str v)
  catHas : ∀ d f v, get d f = some (.str v) → (s.categorical.lookup (keyOf f v)).isSome = true
  numKeys : ∀ f, (s.numeric.lookup f).isSome = true ↔ num f
  rep : ∀ f b, s.numeric.lookup f = some b → BSI.Rep b (fun d => intOf (get d f))
  intSeen : ∀ d f x, get d f = some (.int x) → num f
  getLive : ∀ d f v, get d f = some v → live d

theorem Inv.mem_cat {s : State} {live get num} (h : Inv s live get num) (key : String) (d : Nat) :
    d ∈ (s.categorical.lookup key).getD [] ↔ ∃ f v, keyOf f v = key ∧ get d f = some (.str v) := by
  cases hl : s.categorical.lookup key with
  | some bm => exact h.cat key bm hl d
  | none =>
    refine ⟨nofun, fun ⟨f, v, hk, hg⟩ => ?_⟩
    have := h.catHas d f v hg
    rw [hk, hl] at this; cases this

theorem inv_init : Inv Meta.init (fun _ => False) (fun _ _ => none) (fun _ => False) := by
  refine ⟨by simp [Meta.init], by simp [Meta.init], ?_, ?_, by simp [Meta.init], ?_, ?_, ?_⟩ <;>
    simp [Meta.init]

theorem Inv.congr {s : State} {live live' : Nat → Prop} {get get' : Nat → String → Option Value}
    {num num' : String → Prop} (h : Inv s live get num) (hl : ∀ d, live d ↔ live' d)
    (hg : ∀ d f, get d f = get' d f) (hn : ∀ f, num f ↔ num' f) : Inv s live' get' num' := by
  have e1 : live = live' := funext fun d => propext (hl d)
  have e2 : get = get' := funext fun d => funext fun f => hg d f
  have e3 : num = num' := funext fun f => propext (hn f)
  subst e1 e2 e3
  exact h

def upd (get : Nat → String → Option Value) (id : Nat) (k : String) (v : Value) :
    Nat → String → Option Value :=
  fun d f => if d = id ∧ f = k then some v else get d f

theorem upd_eq_some {get : Nat → String → Option Value} {id : Nat} {k : String} (v : Value)
    (hnone : get id k = none) {d : Nat} {f : String} {w : Value} :
    upd get id k v d f = some w ↔ (d = id ∧ f = k ∧ w = v) ∨ get d f = some w := by
  unfold upd
  split
  next hc =>
    obtain ⟨rfl, rfl⟩ := hc
    simp [hnone, eq_comm]
  next hc => exact ⟨Or.inr, fun h => h.resolve_left fun h' => hc ⟨h'.1, h'.2.1⟩⟩

theorem inv_allDocs_add {s : State} {live get num} (h : Inv s live get num) (id : Nat) :
    Inv { s with allDocs := RB.add s.allDocs id } (fun d => d = id ∨ live d) get num :=
  { h with
    all := fun d => by simp only [RB.mem_add, h.all]
    getLive := fun d f v hv => Or.inr (h.getLive d f v hv) }

theorem inv_addCategorical {s : State} {live get num} (h : Inv s live get num) (id : Nat) (k v : String)
    (hnone : get id k = none) (hlive : live id) :
    Inv (addCategorical s k v id) live (upd get id k (.str v)) num := by
  have hupd {d f w} := upd_eq_some (.str v) hnone (d := d) (f := f) (w := w)
  refine ⟨h.all, nodup_keys_upsert _ _ _ h.catKeys, ?_, ?_, h.numKeys, ?_, ?_, ?_⟩
  · intro key bm hbm d
    simp only [addCategorical, lookup_upsert] at hbm
    have hnew : (∃ f' v', keyOf f' v' = key ∧ d = id ∧ f' = k ∧ v' = v) ↔ key = keyOf k v ∧ d = id :=
      ⟨fun ⟨_, _, hk, hd, e1, e2⟩ => ⟨e1 ▸ e2 ▸ hk.symm, hd⟩, fun ⟨hk, hd⟩ => ⟨k, v, hk.symm, hd, rfl, rfl⟩⟩
    simp only [hupd, Value.str.injEq, and_or_left, exists_or, ← h.mem_cat, hnew]
    split at hbm
    next hkey =>
      subst hkey; cases hbm
      cases s.categorical.lookup (keyOf k v) <;> simp [RB.mem_add]
    next hkey => simp [hbm, hkey]
  · intro d f' v' hg
    simp only [addCategorical, lookup_upsert]
    split
    · rfl
    · refine h.catHas d f' v' (hupd.mp hg |>.resolve_left ?_)
      rintro ⟨_, rfl, hv⟩
      cases hv; contradiction
  · intro f b hb
    refine (h.rep f b hb).congr fun d => ?_
    unfold upd
    split
    next hc => rw [hc.1, hc.2, hnone]; rfl
    next => rfl
  · intro d f x hg
    exact h.intSeen d f x (hupd.mp hg |>.resolve_left fun ⟨_, _, hv⟩ => nomatch hv)
  · intro d f w hg
    exact (hupd.mp hg).elim (fun ⟨hd, _, _⟩ => hd ▸ hlive) (h.getLive d f w)

theorem inv_addNumeric {s : State} {live get num} (h : Inv s live get num) (id : Nat) (k : String) (x : I64)
    (hnone : get id k = none) (hlive : live id) :
    Inv (addNumeric s k id x) live (upd get id k (.int x)) (fun f => f = k ∨ num f) := by
  have hupd {d f w} := upd_eq_some (.int x) hnone (d := d) (f := f) (w := w)
  have hstr : ∀ d f v, upd get id k (.int x) d f = some (.str v) ↔ get d f = some (.str v) :=
    fun d f v => hupd.trans (or_iff_right fun ⟨_, _, hv⟩ => nomatch hv)
  refine ⟨h.all, h.catKeys, ?_, ?_, ?_, ?_, ?_, ?_⟩
  · intro key bm hbm d
    rw [h.cat key bm hbm d]
    simp only [hstr]
  · exact fun d f v hg => h.catHas d f v ((hstr d f v).mp hg)
  · intro f
    simp only [addNumeric, lookup_upsert]
    split
    next hf => simp [hf]
    next hf => simp [hf, h.numKeys]
  · intro f b hb
    simp only [addNumeric, lookup_upsert] at hb
    split at hb
    next hf =>
      subst hf; cases hb
      -- column `f` of the updated view, over any `m` that is column `f` of the old one
      have e : ∀ m : Nat → Option I64, (∀ d, m d = intOf (get d f)) →
          ∀ d, (if d = id then some x else m d) = intOf (upd get id f (.int x) d f) := by
        intro m hm d
        by_cases hd : d = id <;> simp [upd, hd, intOf, hm]
      cases hold : s.numeric.lookup f with
      | none =>
        -- no BSI yet: no document carries a number under `f`
        refine (BSI.rep_setValue BSI.rep_new id x).congr (e _ fun d =>
          .symm <| Option.eq_none_iff_forall_ne_some.mpr fun y hy => ?_)
        have := (h.numKeys f).mpr (h.intSeen d f y (intOf_eq_some.mp hy))
        rw [hold] at this; cases this
      | some b0 => exact (BSI.rep_setValue (h.rep f b0 hold) id x).congr (e _ fun _ => rfl)
    next hf =>
      refine (h.rep f b hb).congr fun d => ?_
      rw [upd, if_neg fun hc => hf hc.2]
  · intro d f y hg
    exact (hupd.mp hg).elim (fun ⟨_, hf, _⟩ => Or.inl hf) fun hg0 => Or.inr (h.intSeen d f y hg0)
  · intro d f w hg
    exact (hupd.mp hg).elim (fun ⟨hd, _, _⟩ => hd ▸ hlive) (h.getLive d f w)

theorem remove_cat_lookup (s : State) (id : Nat) (key : String) :
    (remove s id).categorical.lookup key = (s.categorical.lookup key).map (fun bm => RB.remove bm id) :=
  lookup_map_val (fun bm => RB.remove bm id) key s.categorical

theorem remove_num_lookup (s : State) (id : Nat) (f : String) :
    (remove s id).numeric.lookup f = (s.numeric.lookup f).map (fun b => BSI.clearValues b [id]) :=
  lookup_map_val (fun b => BSI.clearValues b [id]) f s.numeric

theorem remove_cat_keys (s : State) (id : Nat) :
    (remove s id).categorical.map (·.1) = s.categorical.map (·.1) :=
  keys_map_val (fun bm => RB.remove bm id) s.categorical

theorem inv_remove {s : State} {live get num} (h : Inv s live get num) (id : Nat) :
    Inv (remove s id) (fun d => d ≠ id ∧ live d) (fun d f => if d = id then none else get d f) num := by
  have hget : ∀ {d f v}, (if d = id then none else get d f) = some v → d ≠ id ∧ get d f = some v :=
    Option.ite_none_left_eq_some.mp
  refine ⟨?_, ?_, ?_, ?_, ?_, ?_, ?_, ?_⟩
  · intro d
    simp only [remove, RB.mem_remove, h.all]
    exact And.comm
  · rw [remove_cat_keys]; exact h.catKeys
  · intro key bm hbm d
    rw [remove_cat_lookup, Option.map_eq_some_iff] at hbm
    obtain ⟨bm0, hold, rfl⟩ := hbm
    rw [RB.mem_remove, h.cat key bm0 hold d]
    by_cases hd : d = id <;> simp [hd]
  · intro d f v hg
    rw [remove_cat_lookup, Option.isSome_map]
    exact h.catHas d f v (hget hg).2
  · intro f
    rw [remove_num_lookup, Option.isSome_map]
    exact h.numKeys f
  · intro f b hb
    rw [remove_num_lookup, Option.map_eq_some_iff] at hb
    obtain ⟨b0, hold, rfl⟩ := hb
    refine (BSI.rep_clearValues (h.rep f b0 hold) id).congr fun d => ?_
    split <;> rfl
  · exact fun d f x hg => h.intSeen d f x (hget hg).2
  · exact fun d f v hg => ⟨(hget hg).1, h.getLive d f v (hget hg).2⟩

/-- the view after the metadata loop of `Add` walked `doc` -/
def updAll (get : Nat → String → Option Value) (id : Nat) : Doc → Nat → String → Option Value
  | [] => get
  | (k, v) :: r => updAll (upd get id k v) id r

theorem updAll_apply (id : Nat) (doc : Doc) : ∀ (get : Nat → String → Option Value),
    (doc.map (·.1)).Nodup → ∀ d f, updAll get id doc d f =
      if d = id then (match doc.lookup f with | some v => some v | none => get d f) else get d f := by
  induction doc with
  | nil => intro get _ d f; simp [updAll]
  | cons kv r ih =>
    intro get hnd d f
    obtain ⟨k, v⟩ := kv
    simp only [List.map_cons, List.nodup_cons] at hnd
    rw [updAll, ih _ hnd.2, lookup_cons']
    by_cases hd : d = id
    · subst hd
      simp only [if_true]
      by_cases hf : f = k
      · subst hf
        have : r.lookup f = none :=
          (BM25.aget_eq_lookup r f).symm.trans ((BM25.aget_eq_none_iff r f).2 hnd.1)
        simp [this, upd]
      · simp [hf, upd]
    · simp [hd, upd]

theorem intFields_mem {doc : Doc} {f : String} : f ∈ intFields doc ↔ ∃ x, (f, Value.int x) ∈ doc := by
  induction doc with
  | nil => simp [intFields]
  | cons p r ih =>
    obtain ⟨k, v⟩ := p
    cases v <;> simp [intFields, ih, exists_or, eq_comm]

/-- the metadata loop of `Add` on a validated document -/
theorem inv_addKVs (id : Nat) (live : Nat → Prop) (hl : live id) (kvs : List (String × Option Value)) :
    ∀ (doc : Doc) (s : State) (get : Nat → String → Option Value) (num : String → Prop),
    Inv s live get num → docOf kvs = some doc → (doc.map (·.1)).Nodup →
    (∀ k, k ∈ doc.map (·.1) → get id k = none) →
    (addKVs id s kvs).2 = false ∧
      Inv (addKVs id s kvs).1 live (updAll get id doc) (fun f => f ∈ intFields doc ∨ num f) := by
  induction kvs with
  | nil =>
    intro doc s get num h hdoc _ _
    cases hdoc
    exact ⟨rfl, h.congr (fun _ => Iff.rfl) (fun _ _ => rfl) (fun f => by simp [intFields])⟩
  | cons kv r ih =>
    intro doc s get num h hdoc hnd hnone
    obtain ⟨k, _ | v⟩ := kv
    · cases hdoc
    simp only [docOf, Option.map_eq_some_iff] at hdoc
    obtain ⟨doc', hdoc', rfl⟩ := hdoc
    simp only [List.map_cons, List.nodup_cons] at hnd
    have hk : get id k = none := hnone k (by simp)
    have hnone' : ∀ w k', k' ∈ doc'.map (·.1) → upd get id k w id k' = none := fun w k' hk' => by
      have : k' ≠ k := fun e => hnd.1 (e ▸ hk')
      simp only [upd, this, and_false, if_false]
      exact hnone k' (by simp [hk'])
    cases v with
    | int x =>
      obtain ⟨e, h2⟩ := ih doc' _ _ _ (inv_addNumeric h id k x hk hl) hdoc' hnd.2 (hnone' _)
      exact ⟨e, h2.congr (fun _ => Iff.rfl) (fun _ _ => rfl)
        (fun f => by simp only [intFields, List.mem_cons, or_assoc, or_left_comm])⟩
    | str w => exact ih doc' _ _ _ (inv_addCategorical h id k w hk hl) hdoc' hnd.2 (hnone' _)

theorem docOf_keys {kvs : List (String × Option Value)} :
    ∀ {doc : Doc}, docOf kvs = some doc → doc.map (·.1) = kvs.map (·.1) := by
  induction kvs with
  | nil => intro doc h; cases h; rfl
  | cons kv r ih =>
    intro doc h
    obtain ⟨k, _ | v⟩ := kv
    · cases h
    simp only [docOf, Option.map_eq_some_iff] at h
    obtain ⟨doc', hdoc', rfl⟩ := h
    simp [ih hdoc']

theorem docOf_isSome : ∀ kvs : List (String × Option Value), (docOf kvs).isSome = validateMetadata kvs
  | [] => rfl
  | (_, none) :: _ => rfl
  | (_, some _) :: r => by
    have := docOf_isSome r
    simp only [validateMetadata] at this
    simp [docOf, validateMetadata, this]

def InvS (s : State) (sp : Spec) : Prop :=
  Inv s (fun d => (sp.docs.lookup d).isSome = true) sp.docs.get (fun f => f ∈ sp.numSeen)

/-- well-formed step: `Add` of an id that is not live, with a proper map (unique keys) -/
def okOp (sp : Spec) : HOp → Bool
  | .add id kvs => (sp.docs.lookup id).isNone && decide (kvs.map (·.1)).Nodup
  | .remove _ => true

def wfHist : Spec → List HOp → Bool
  | _, [] => true
  | sp, op :: r => okOp sp op && wfHist (sp.step op) r

theorem get_cons (id : Nat) (doc : Doc) (D : Docs) (d : Nat) (f : String) :
    Docs.get ((id, doc) :: D) d f = if d = id then doc.lookup f else D.get d f := by
  simp only [Docs.get, lookup_cons']
  by_cases hd : d = id <;> simp [hd]

theorem invS_step {s : State} {sp : Spec} (h : InvS s sp) (op : HOp) (hok : okOp sp op = true) :
    InvS (step s op) (sp.step op) := by
  cases op with
  | remove id =>
    refine (inv_remove h id).congr (fun d => ?_) (fun d f => ?_) (fun _ => Iff.rfl)
    · simp only [Spec.step, lookup_filter_ne]
      split <;> simp [*]
    · simp only [Spec.step, Docs.get, lookup_filter_ne]
      split <;> rfl
  | add id kvs =>
    simp only [okOp, Bool.and_eq_true, decide_eq_true_eq, Option.isNone_iff_eq_none] at hok
    simp only [step, Spec.step, add, ← docOf_isSome]
    cases hdoc : docOf kvs with
    | none => exact h
    | some doc =>
      have hnl : ∀ f, sp.docs.get id f = none := fun f => by simp [Docs.get, hok.1]
      have hnd : (doc.map (·.1)).Nodup := by rw [docOf_keys hdoc]; exact hok.2
      obtain ⟨_, h2⟩ := inv_addKVs id _ (Or.inl rfl) kvs doc _ _ _ (inv_allDocs_add h id) hdoc hnd
        (fun k _ => hnl k)
      refine h2.congr (fun d => ?_) (fun d f => ?_) (fun f => ?_)
      · rw [lookup_cons']
        split <;> simp [*]
      · rw [updAll_apply id doc _ hnd, get_cons]
        split
        next hd => rw [hd, hnl]; cases doc.lookup f <;> rfl
        next => rfl
      · simp [List.mem_append]

theorem invS_run (ops : List HOp) : ∀ (s : State) (sp : Spec), InvS s sp → wfHist sp ops = true →
    InvS (ops.foldl step s) (ops.foldl Spec.step sp) := by
  induction ops with
  | nil => exact fun _ _ h _ => h
  | cons op r ih =>
    intro s sp h hw
    simp only [wfHist, Bool.and_eq_true] at hw
    exact ih _ _ (invS_step h op hw.1) hw.2

theorem invS_init : InvS Meta.init {} := by
  have := inv_init
  exact this.congr (fun d => by simp) (fun d f => by simp [Docs.get]) (fun f => by simp)

end Comet.Meta
