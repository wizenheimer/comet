/-
  Lemmas for C04: `evaluateFilter` is exact on well-typed filters without mixed
  signs; `Not`; the AND / OR loops (AND exits early on an empty result); `Execute`; every id that
  `Execute` returns is live (no side condition).
-/
import CometProofs.MetaEval
namespace Comet.Meta
open Comet

theorem queryCat_eq (s : State) (f : String) (o : Operand) :
    queryCategorical s (.cmp .eq f o) = .ok (catSet s (keyOf f o.txt)) := by
  simp only [queryCategorical, catSet]
  cases catLookup s (keyOf f o.txt) <;> rfl

theorem queryCat_ne (s : State) (f : String) (o : Operand) :
    ∃ r, queryCategorical s (.cmp .ne f o) = .ok r ∧
      ∀ d, d ∈ r ↔ d ∈ s.allDocs ∧ d ∉ catSet s (keyOf f o.txt) := by
  simp only [queryCategorical, catSet]
  cases catLookup s (keyOf f o.txt) <;> exact ⟨_, rfl, fun d => by simp [RB.mem_andNot]⟩

-- `.ne ↦ .eq` is a placeholder: `queryNumeric` answers `ne` as `eBM \ eq`, never through `bsiOp`
def bsiOp : CmpOp → BSI.Op
  | .eq => .eq | .ne => .eq | .gt => .gt | .gte => .ge | .lt => .lt | .lte => .le

theorem evaluateFilter_cmp (s : State) (op : CmpOp) (f : String) (o : Operand) :
    evaluateFilter s (.cmp op f o) =
      match s.numeric.lookup f with
      | some b => queryNumeric b (.cmp op f o)
      | none => queryCategorical s (.cmp op f o) := rfl

theorem evaluateFilter_range (s : State) (f : String) (lo hi : Operand) :
    evaluateFilter s (.range f lo hi) =
      match s.numeric.lookup f with
      | some b => queryNumeric b (.range f lo hi)
      | none => queryCategorical s (.range f lo hi) := rfl

theorem evaluateFilter_isIn (s : State) (n : Bool) (f : String) (vs : Option (List Operand)) :
    evaluateFilter s (.isIn n f vs) =
      match s.numeric.lookup f with
      | some b => queryNumeric b (.isIn n f vs)
      | none => queryCategorical s (.isIn n f vs) := rfl

theorem numRel_iff (rel : Int → Int → Bool) (g : String → Option Value) (f : String) (x : I64) (t : String) :
    numRel rel g f (.int x t) = true ↔ ∃ y, g f = some (.int y) ∧ rel y.toInt x.toInt = true := by
  unfold numRel
  cases g f with
  | none => simp
  | some w => cases w <;> simp [Operand.val]

theorem sat_cmp_int (N : List String) (g : String → Option Value) (f : String) (x : I64) (t : String)
    (op : CmpOp) (hop : op ≠ .ne) :
    sat N g (.cmp op f (.int x t)) = true ↔
      ∃ y, g f = some (.int y) ∧ BSI.signedCmp (bsiOp op) y x 0 = true := by
  cases op
  case ne => exact absurd rfl hop
  case eq => simp [sat, Operand.val, BSI.signedCmp, bsiOp]
  all_goals simp only [sat, BSI.signedCmp, bsiOp, numRel_iff]

theorem sat_range_int (N : List String) (g : String → Option Value) (f : String) (l u : I64) (lt ut : String) :
    sat N g (.range f (.int l lt) (.int u ut)) = true ↔
      ∃ y, g f = some (.int y) ∧ BSI.signedCmp .range y l u = true := by
  cases hg : g f with
  | none => simp [sat, numRel, hg]
  | some w => cases w <;> simp [sat, numRel, hg, Operand.val, BSI.signedCmp]

theorem queryNumeric_cmp (b : BSI.T) (op : CmpOp) (f : String) (x : I64) (t : String) (hop : op ≠ .ne) :
    queryNumeric b (.cmp op f (.int x t)) = .ok (BSI.compareValue b (bsiOp op) x 0) := by
  cases op <;> first | rfl | exact absurd rfl hop

/-- one filter is exact: a well-typed filter whose operands do not differ in sign from
    any stored value of the field evaluates without error to the live documents
    satisfying it. -/
theorem evaluateFilter_exact {s : State} {sp : Spec} (h : InvS s sp) (hc : conform sp = true)
    (flt : Filter) (hwt : wellTypedF sp.numSeen sp.docs flt = true)
    (hcol : noColon flt.field = true) (hms : mixedSignF sp.numSeen sp.docs flt = false) :
    ∃ r, evaluateFilter s flt = .ok r ∧
      ∀ d, d ∈ r ↔ ((sp.docs.lookup d).isSome = true ∧ sat sp.numSeen (sp.docs.get d) flt = true) := by
  have hlive : ∀ {d f v}, sp.docs.get d f = some v → (sp.docs.lookup d).isSome = true := h.getLive _ _ _
  have addLive : ∀ {d} {P : Prop}, (P → (sp.docs.lookup d).isSome = true) →
      (P ↔ (sp.docs.lookup d).isSome = true ∧ P) := fun hP => (and_iff_right_of_imp hP).symm
  cases flt with
  | ex neg f =>
    cases neg with
    | false =>
      refine ⟨getExistenceBitmap s f, rfl, fun d => ?_⟩
      rw [mem_getExistence h hc f hcol d]
      exact addLive fun hi => (Option.isSome_iff_exists.mp hi).elim fun _ => hlive
    | true =>
      refine ⟨RB.andNot s.allDocs (getExistenceBitmap s f), rfl, fun d => ?_⟩
      rw [RB.mem_andNot, mem_getExistence h hc f hcol d, h.all d]
      simp only [sat]
      cases sp.docs.get d f <;> simp
  | cmp op f o =>
    rw [evaluateFilter_cmp]
    cases hn : s.numeric.lookup f with
    | some b =>
      have hN : sp.numSeen.contains f = true := by rw [numContains h, hn]; rfl
      simp only [wellTypedF, hN, if_true] at hwt
      cases o with
      | str sv => cases hwt
      | int x txt =>
        simp only [mixedSignF, hN, Bool.true_and] at hms
        have hsign : ∀ d y, sp.docs.get d f = some (.int y) → y.msb = x.msb :=
          fun d y hg => noMixed_of hms hg x txt (.head _)
        by_cases hop : op = .ne
        · subst hop
          have hNm : f ∈ sp.numSeen := List.contains_iff_mem.mp hN
          refine ⟨_, rfl, fun d => ?_⟩
          -- `eBM \ eq`: the documents that have the field with a value other than `x`, which is how `sat` reads
          -- a numeric `ne`. Without the field neither side holds; with value `y`, `d` is live and both say `y ≠ x`.
          rw [RB.mem_andNot, mem_eBM h hn d, mem_numCmp h hn .eq x 0 hsign nofun d]
          cases hg : sp.docs.get d f with
          | none => simp [sat, hNm, hg]
          | some w =>
            obtain ⟨y, rfl⟩ := get_int_of_num hc hN hg
            simp [sat, hNm, hg, Operand.val, BSI.signedCmp, hlive hg]
        · refine ⟨_, queryNumeric_cmp b op f x txt hop, fun d => ?_⟩
          rw [mem_numCmp h hn (bsiOp op) x 0 hsign (by cases op <;> nofun) d, sat_cmp_int _ _ f x txt op hop]
          exact addLive fun ⟨_, hg, _⟩ => hlive hg
    | none =>
      have hN : sp.numSeen.contains f = false := by rw [numContains h, hn]; rfl
      simp only [wellTypedF, hN, Bool.false_eq_true, if_false, Bool.and_eq_true, Bool.or_eq_true,
        Bool.not_eq_true', beq_iff_eq] at hwt
      obtain ⟨hop, hty⟩ := hwt
      have hcat := mem_catSet h hc f hcol o hty
      rcases hop with rfl | rfl
      · refine ⟨_, queryCat_eq s f o, fun d => ?_⟩
        rw [hcat d]
        simp only [sat, beq_iff_eq]
        exact addLive hlive
      · obtain ⟨r, hr, hmem⟩ := queryCat_ne s f o
        refine ⟨r, hr, fun d => ?_⟩
        -- `allDocs \ key`: live and not equal, documents without the field included; that is `sat` of `ne`
        -- on a field that is not numeric
        simp only [hmem d, hcat d, h.all d, sat, hN, Bool.false_eq_true, if_false, Bool.not_eq_true',
          beq_eq_false_iff_ne, ne_eq]
  | range f lo hi =>
    rw [evaluateFilter_range]
    simp only [wellTypedF, Bool.and_eq_true] at hwt
    obtain ⟨⟨hN, hlo⟩, hhi⟩ := hwt
    obtain ⟨b, hn⟩ := Option.isSome_iff_exists.mp ((numContains h f).symm.trans hN)
    rw [hn]
    cases lo with
    | str _ => cases hlo
    | int l ltxt =>
      cases hi with
      | str _ => cases hhi
      | int u utxt =>
        simp only [mixedSignF, hN, Bool.true_and] at hms
        refine ⟨_, rfl, fun d => ?_⟩
        rw [mem_numCmp h hn .range l u (fun d y hg => noMixed_of hms hg l ltxt (.head _))
          (fun _ d y hg => noMixed_of hms hg u utxt (.tail _ (.head _))) d, sat_range_int]
        exact addLive fun ⟨_, hg, _⟩ => hlive hg
  | isIn neg f vs =>
    rw [evaluateFilter_isIn]
    cases vs with
    | none => cases hwt
    | some l =>
      simp only [wellTypedF, Bool.and_eq_true, Bool.not_eq_true', List.all_eq_true, Bool.or_eq_true] at hwt
      obtain ⟨hN, hty⟩ := hwt
      have hn : s.numeric.lookup f = none :=
        Option.not_isSome_iff_eq_none.mp (by rw [← numContains h, hN]; simp)
      rw [hn]
      have hcat : ∀ o, o ∈ l → ∀ d, d ∈ catSet s (keyOf f o.txt) ↔ sp.docs.get d f = some o.val :=
        fun o ho => mem_catSet h hc f hcol o (hty o ho)
      cases neg with
      | false =>
        refine ⟨_, rfl, fun d => ?_⟩
        rw [mem_foldl_in s f d l []]
        simp only [List.not_mem_nil, false_or, sat, List.any_eq_true, beq_iff_eq]
        exact (exists_congr fun o => and_congr_right fun ho => hcat o ho d).trans
          (addLive fun ⟨_, _, hg⟩ => hlive hg)
      | true =>
        refine ⟨_, rfl, fun d => ?_⟩
        rw [mem_foldl_notIn s f d l s.allDocs, h.all d]
        simp only [sat, Bool.not_eq_true', List.any_eq_false, beq_iff_eq]
        exact and_congr_right fun _ => forall₂_congr fun o ho => not_congr (hcat o ho d)

theorem notF_field (flt : Filter) : (notF flt).field = flt.field := by
  cases flt with
  | cmp op f o => cases op <;> rfl
  | _ => rfl

theorem wellTypedF_notF (N : List String) (D : Docs) (flt : Filter) :
    wellTypedF N D (notF flt) = wellTypedF N D flt := by
  cases flt with
  | cmp op f o => cases op <;> rfl
  | isIn n f vs => cases vs <;> rfl
  | _ => rfl

theorem mixedSignF_notF (N : List String) (D : Docs) (flt : Filter) :
    mixedSignF N D (notF flt) = mixedSignF N D flt := by
  cases flt with
  | cmp op f o => cases op <;> rfl
  | _ => rfl

theorem dec_le_not_lt (a b : Int) : decide (a ≤ b) = !decide (b < a) := by
  simp only [← Int.not_lt, decide_not]

/-- `Not` is the complement within the universe (specification side): for every
    operator `Not` handles (all but `range`), on well-typed filters and documents whose
    values have the field's type. -/
theorem sat_notF (N : List String) (D : Docs) (g : String → Option Value) (flt : Filter)
    (hwt : wellTypedF N D flt = true) (hg : ∀ f v, g f = some v → v.isInt = N.contains f)
    (hnr : flt.isRange = false) :
    sat N g (notF flt) = (univ N g flt && !sat N g flt) := by
  cases flt with
  | range f lo hi => cases hnr
  | ex n f => cases n <;> cases g f <;> simp [notF, sat, univ]
  | isIn n f vs =>
    cases vs with
    | none => cases hwt
    | some l => cases n <;> simp [notF, sat, univ]
  | cmp op f o =>
    by_cases hN : f ∈ N
    · simp only [wellTypedF, List.contains_iff_mem, hN, if_true] at hwt
      cases o with
      | str _ => cases hwt
      | int x txt =>
        cases hgf : g f with
        | none => cases op <;> simp [notF, sat, univ, numRel, hN, hgf]
        | some v =>
          have hv := (hg f v hgf).trans (List.contains_iff_mem.mpr hN)
          cases v with
          | str _ => cases hv
          | int y =>
            cases op <;> simp [notF, sat, univ, numRel, hN, hgf, Operand.val, dec_le_not_lt, bne]
    · simp only [wellTypedF, List.contains_iff_mem, hN, if_false, Bool.and_eq_true, Bool.or_eq_true,
        beq_iff_eq] at hwt
      rcases hwt.1 with rfl | rfl <;> simp [notF, sat, univ, hN]

def LeafOK (sp : Spec) (l : Leaf) : Prop :=
  wellTypedF sp.numSeen sp.docs l.f = true ∧ noColon l.f.field = true ∧
    mixedSignF sp.numSeen sp.docs l.f = false ∧ notRangeL l = false

/-- a leaf (`f` or `Not(f)`, `Not(range)` excluded) is exact -/
theorem leaf_exact {s : State} {sp : Spec} (h : InvS s sp) (hc : conform sp = true) (l : Leaf)
    (hl : LeafOK sp l) :
    ∃ r, evaluateFilter s l.toFilter = .ok r ∧
      ∀ d, d ∈ r ↔ ((sp.docs.lookup d).isSome = true ∧ satLeaf sp.numSeen (sp.docs.get d) l = true) := by
  obtain ⟨neg, flt⟩ := l
  obtain ⟨hwt, hcol, hms, hnr⟩ := hl
  cases neg with
  | false => exact evaluateFilter_exact h hc flt hwt hcol hms
  | true =>
    obtain ⟨r, hr1, hr2⟩ := evaluateFilter_exact h hc (notF flt) ((wellTypedF_notF _ _ flt).trans hwt)
      ((congrArg noColon (notF_field flt)).trans hcol) ((mixedSignF_notF _ _ flt).trans hms)
    refine ⟨r, hr1, fun d => ?_⟩
    rw [hr2 d, sat_notF sp.numSeen sp.docs (sp.docs.get d) flt hwt (fun f v hg => (conform_get hc hg).1) hnr]
    rfl

/-- what `evaluateFilter` returns (`[]` on error; only used under `AllOK`) -/
def evalSet (s : State) (f : Filter) : RB :=
  match evaluateFilter s f with
  | .ok r => r
  | .error _ => []

def AllOK (s : State) (fs : List Filter) : Prop := ∀ f, f ∈ fs → ∃ r, evaluateFilter s f = .ok r

theorem evalSet_of_ok {s : State} {f : Filter} {r : RB} (h : evaluateFilter s f = .ok r) :
    evalSet s f = r := by simp [evalSet, h]

theorem AllOK.cons {s : State} {f : Filter} {fs : List Filter} (h : AllOK s (f :: fs)) :
    (∃ bm, evaluateFilter s f = .ok bm) ∧ AllOK s fs :=
  ⟨h f (List.mem_cons_self ..), fun f' hf' => h f' (List.mem_cons_of_mem _ hf')⟩

theorem groupLoop_and (s : State) (fs : List Filter) :
    ∀ res : Option RB, groupLoop s .and fs res = simpleLoop s fs res := by
  induction fs with
  | nil => intro res; cases res <;> rfl
  | cons f fs ih =>
    intro res
    simp only [groupLoop, simpleLoop, beq_self_eq_true, if_true, Bool.true_and, ih]

/-- the AND loop: the intersection of the accumulator (if any) and the filters' sets; the
    early exit returns an empty set, and then the intersection is empty too -/
theorem simpleLoop_mem (s : State) (fs : List Filter) : ∀ res : Option RB, AllOK s fs →
    (res = none → fs ≠ []) →
    ∃ r, simpleLoop s fs res = .ok r ∧
      ∀ d, d ∈ r ↔ (∀ a, res = some a → d ∈ a) ∧ ∀ f, f ∈ fs → d ∈ evalSet s f := by
  induction fs with
  | nil =>
    intro res _ hne
    cases res with
    | none => exact absurd rfl (hne rfl)
    | some a => exact ⟨a, rfl, fun d => by simp⟩
  | cons f fs ih =>
    intro res hok _
    obtain ⟨⟨bm, hbm⟩, hok'⟩ := hok.cons
    simp only [simpleLoop, hbm, List.forall_mem_cons, evalSet_of_ok hbm]
    have key : ∀ r' : RB, (∀ d, d ∈ r' ↔ (∀ a, res = some a → d ∈ a) ∧ d ∈ bm) →
        ∃ r, (if r'.isEmpty then Except.ok r' else simpleLoop s fs (some r')) = .ok r ∧
          ∀ d, d ∈ r ↔ (∀ a, res = some a → d ∈ a) ∧ d ∈ bm ∧ ∀ f, f ∈ fs → d ∈ evalSet s f := by
      intro r' hmem
      split
      next hemp =>
        have hno := RB.isEmpty_iff.mp hemp
        exact ⟨r', rfl, fun d => iff_of_false (hno d) fun hd => hno d ((hmem d).mpr ⟨hd.1, hd.2.1⟩)⟩
      next =>
        obtain ⟨r, hr, hm⟩ := ih (some r') hok' (fun h => nomatch h)
        exact ⟨r, hr, fun d => by simp only [hm d, Option.some.injEq, forall_eq', hmem d, and_assoc]⟩
    cases res
    · exact key bm (by simp)
    · exact key _ (by simp [RB.mem_and])

/-- the OR loop (any logic but `AND`): the union of the accumulator and the filters' sets -/
theorem groupLoop_or_mem (s : State) (logic : Logic) (hl : logic ≠ .and) (fs : List Filter) :
    ∀ (res : Option RB), AllOK s fs →
    ∃ r, groupLoop s logic fs res = .ok r ∧
      ∀ d, d ∈ r ↔ d ∈ res.getD [] ∨ ∃ f, f ∈ fs ∧ d ∈ evalSet s f := by
  induction fs with
  | nil => intro res _; cases res <;> exact ⟨_, rfl, fun d => by simp⟩
  | cons f fs ih =>
    intro res hok
    obtain ⟨⟨bm, hbm⟩, hok'⟩ := hok.cons
    simp only [groupLoop, hbm, Bool.and_eq_true, beq_iff_eq, hl, false_and, if_false]
    refine (ih _ hok').imp fun r hr => ⟨hr.1, fun d => ?_⟩
    rw [hr.2 d]
    cases res <;> simp [RB.mem_or, or_assoc, evalSet_of_ok hbm]

def groupSem (s : State) (g : Group) (d : Nat) : Prop :=
  if g.filters = [] then d ∈ s.allDocs
  else if g.logic = .and then ∀ f, f ∈ g.filters → d ∈ evalSet s f
  else ∃ f, f ∈ g.filters ∧ d ∈ evalSet s f

theorem execute_simple_algebra (s : State) (fs : List Filter) (hne : fs ≠ []) (hok : AllOK s fs) :
    ∃ r, execute s fs [] = .ok r ∧ ∀ d, d ∈ r ↔ ∀ f, f ∈ fs → d ∈ evalSet s f := by
  obtain ⟨r, hr, hm⟩ := simpleLoop_mem s fs none hok (fun _ => hne)
  exact ⟨r, by simp [execute, executeSimpleFilters, hne, hr], fun d => by simp [hm d]⟩

theorem executeGroup_algebra (s : State) (g : Group) (hok : AllOK s g.filters) :
    ∃ r, executeGroup s g = .ok r ∧ ∀ d, d ∈ r ↔ groupSem s g d := by
  obtain ⟨logic, fs⟩ := g
  by_cases hfs : fs = []
  · subst hfs; exact ⟨s.allDocs, rfl, fun d => by simp [groupSem]⟩
  simp only [executeGroup, List.isEmpty_iff, hfs, if_false, groupSem]
  by_cases hl : logic = .and
  · subst hl
    obtain ⟨r, hr, hm⟩ := simpleLoop_mem s fs none hok (fun _ => hfs)
    exact ⟨r, by rw [groupLoop_and, hr], fun d => by simp [hm d]⟩
  · obtain ⟨r, hr, hm⟩ := groupLoop_or_mem s logic hl fs none hok
    exact ⟨r, hr, fun d => by simp [hm d, hl]⟩

theorem groupsLoop_mem (s : State) (gs : List Group) : ∀ (i : Nat) (res : Option RB),
    (∀ g, g ∈ gs → AllOK s g.filters) →
    ∃ r, groupsLoop s gs i res = .ok r ∧
      ∀ d, d ∈ r ↔ d ∈ res.getD [] ∨ ∃ g, g ∈ gs ∧ groupSem s g d := by
  induction gs with
  | nil => intro _ res _; cases res <;> exact ⟨_, rfl, fun d => by simp⟩
  | cons g gs ih =>
    intro i res hok
    obtain ⟨gr, hgr, hG⟩ := executeGroup_algebra s g (hok g (List.mem_cons_self ..))
    simp only [groupsLoop, hgr]
    refine (ih (i + 1) _ fun g' hg' => hok g' (List.mem_cons_of_mem _ hg')).imp
      fun r hr => ⟨hr.1, fun d => ?_⟩
    rw [hr.2 d]
    cases res <;> simp [RB.mem_or, or_assoc, hG d]

/-- across groups: the union of the groups' sets; simple filters alongside are ignored -/
theorem execute_groups_algebra (s : State) (fs : List Filter) (gs : List Group) (hne : gs ≠ [])
    (hok : ∀ g, g ∈ gs → AllOK s g.filters) :
    ∃ r, execute s fs gs = .ok r ∧ ∀ d, d ∈ r ↔ ∃ g, g ∈ gs ∧ groupSem s g d := by
  obtain ⟨r, hr, hm⟩ := groupsLoop_mem s gs 0 none hok
  exact ⟨r, by simp [execute, executeFilterGroups, hne, hr], fun d => by simp [hm d]⟩

theorem forall_mem_and {α : Type} {l : List α} (hne : l ≠ []) {A : Prop} {P : α → Prop} :
    (∀ x, x ∈ l → A ∧ P x) ↔ A ∧ ∀ x, x ∈ l → P x := by
  obtain ⟨x, hx⟩ := List.exists_mem_of_ne_nil l hne
  exact ⟨fun h => ⟨(h x hx).1, fun y hy => (h y hy).2⟩, fun h y hy => ⟨h.1, h.2 y hy⟩⟩

theorem exists_mem_and {α : Type} {l : List α} {A : Prop} {P : α → Prop} :
    (∃ x, x ∈ l ∧ A ∧ P x) ↔ A ∧ ∃ x, x ∈ l ∧ P x :=
  ⟨fun ⟨x, hx, a, p⟩ => ⟨a, x, hx, p⟩, fun ⟨a, x, hx, p⟩ => ⟨x, hx, a, p⟩⟩

theorem exists_mem_map {α β : Type} {f : α → β} {l : List α} {P : β → Prop} :
    (∃ y, y ∈ l.map f ∧ P y) ↔ ∃ x, x ∈ l ∧ P (f x) :=
  ⟨fun ⟨_, hy, p⟩ => let ⟨x, hx, e⟩ := List.mem_map.mp hy; ⟨x, hx, e ▸ p⟩,
    fun ⟨_, hx, p⟩ => ⟨_, List.mem_map_of_mem hx, p⟩⟩

theorem mem_evalSet_leaf {s : State} {sp : Spec} (h : InvS s sp) (hc : conform sp = true) {l : Leaf}
    (hl : LeafOK sp l) :
    (∃ r, evaluateFilter s l.toFilter = .ok r) ∧
    ∀ d, d ∈ evalSet s l.toFilter ↔
      ((sp.docs.lookup d).isSome = true ∧ satLeaf sp.numSeen (sp.docs.get d) l = true) := by
  obtain ⟨r, hr, hm⟩ := leaf_exact h hc l hl
  exact ⟨⟨r, hr⟩, fun d => by rw [evalSet_of_ok hr]; exact hm d⟩

theorem allOK_leaves {s : State} {sp : Spec} (h : InvS s sp) (hc : conform sp = true) {ls : List Leaf}
    (hl : ∀ l, l ∈ ls → LeafOK sp l) : AllOK s (ls.map Leaf.toFilter) := by
  intro f hf
  obtain ⟨l, hlm, rfl⟩ := List.mem_map.mp hf
  exact (mem_evalSet_leaf h hc (hl l hlm)).1

theorem group_exact {s : State} {sp : Spec} (h : InvS s sp) (hc : conform sp = true) (g : LGroup)
    (hl : ∀ l, l ∈ g.leaves → LeafOK sp l) (d : Nat) :
    groupSem s g.toGroup d ↔
      ((sp.docs.lookup d).isSome = true ∧ satGroup sp.numSeen (sp.docs.get d) g = true) := by
  obtain ⟨logic, ls⟩ := g
  by_cases hls : ls = []
  · subst hls; simp [LGroup.toGroup, groupSem, satGroup, h.all d]
  have leaf : ∀ l, l ∈ ls → (d ∈ evalSet s l.toFilter ↔
      (sp.docs.lookup d).isSome = true ∧ satLeaf sp.numSeen (sp.docs.get d) l = true) :=
    fun l hlm => (mem_evalSet_leaf h hc (hl l hlm)).2 d
  -- Both sides are brought to the form `∀ l ∈ ls, _` (AND) or `∃ l ∈ ls, _` (OR), to compare them leaf by leaf;
  -- on the right, liveness goes under the quantifier (under `∀` because `ls ≠ []`).
  simp only [LGroup.toGroup, groupSem, satGroup, List.map_eq_nil_iff, List.isEmpty_iff, hls, if_false,
    List.forall_mem_map, exists_mem_map]
  by_cases hlog : logic = .and
  · subst hlog
    simp only [if_true, beq_self_eq_true, List.all_eq_true, ← forall_mem_and hls]
    exact forall₂_congr leaf
  · simp only [beq_iff_eq, hlog, if_false, List.any_eq_true, ← exists_mem_and]
    exact exists_congr fun l => and_congr_right (leaf l)

theorem mem_specAnswer {sp : Spec} (hc : conform sp = true) (fs : List Leaf) (gs : List LGroup) (d : Nat) :
    d ∈ specAnswer sp fs gs ↔
      ((sp.docs.lookup d).isSome = true ∧ satQuery sp.numSeen (sp.docs.get d) fs gs = true) := by
  simp only [specAnswer, List.mem_map, List.mem_filter]
  constructor
  · rintro ⟨⟨d', doc⟩, ⟨hm, hsat⟩, rfl⟩
    have hl := lookup_of_mem (conform_nodup hc) hm
    exact ⟨by simp [hl], get_of_lookup hl ▸ hsat⟩
  · rintro ⟨hlive, hsat⟩
    obtain ⟨doc, hl⟩ := Option.isSome_iff_exists.mp hlive
    exact ⟨(d, doc), ⟨mem_of_lookup hl, get_of_lookup hl ▸ hsat⟩, rfl⟩

/-- the query is exact under the side conditions (well-typed, no mixed signs, no
    `Not(range)`): `Execute` returns without error exactly the specification's answer. -/
theorem execute_exact {s : State} {sp : Spec} (h : InvS s sp) (hc : conform sp = true)
    (fs : List Leaf) (gs : List LGroup)
    (hwt : wellTypedQ sp fs gs = true) (hms : noMixedSign sp fs gs = true)
    (hnr : noNotRange fs gs = true) :
    ∃ r, execute s (fs.map Leaf.toFilter) (gs.map LGroup.toGroup) = .ok r ∧
      ∀ d, d ∈ r ↔ d ∈ specAnswer sp fs gs := by
  simp only [wellTypedQ, noMixedSign, noNotRange, Bool.and_eq_true, List.all_eq_true, Bool.not_eq_true']
    at hwt hms hnr
  have hok : ∀ l, l ∈ leavesOf fs gs → LeafOK sp l := fun l hl =>
    ⟨(hwt.2 l hl).1, (hwt.2 l hl).2, hms l hl, hnr l hl⟩
  by_cases hgs : gs = []
  · subst hgs
    by_cases hfs : fs = []
    · subst hfs
      exact ⟨s.allDocs, rfl, fun d => by rw [mem_specAnswer hc, h.all d]; simp [satQuery]⟩
    · obtain ⟨r, hr, hm⟩ := execute_simple_algebra s (fs.map Leaf.toFilter) (by simpa using hfs)
        (allOK_leaves h hc hok)
      refine ⟨r, hr, fun d => ?_⟩
      rw [hm d, mem_specAnswer hc]
      simp only [satQuery, List.isEmpty_nil, Bool.not_true, Bool.false_eq_true, if_false,
        List.all_eq_true, List.forall_mem_map, ← forall_mem_and hfs]
      exact forall₂_congr fun l hl => (mem_evalSet_leaf h hc (hok l hl)).2 d
  · have hemp : gs.isEmpty = false := by simpa using hgs
    have hokg : ∀ g, g ∈ gs → ∀ l, l ∈ g.leaves → LeafOK sp l := fun g hg l hl =>
      hok l (by simp only [leavesOf, hemp, Bool.not_false, if_true]; exact List.mem_flatMap.mpr ⟨g, hg, hl⟩)
    obtain ⟨r, hr, hm⟩ := execute_groups_algebra s (fs.map Leaf.toFilter) (gs.map LGroup.toGroup)
      (by simpa using hgs) fun g' hg' => by
        obtain ⟨g, hg, rfl⟩ := List.mem_map.mp hg'
        exact allOK_leaves h hc (hokg g hg)
    refine ⟨r, hr, fun d => ?_⟩
    rw [hm d, mem_specAnswer hc]
    simp only [satQuery, hemp, Bool.not_false, if_true, List.any_eq_true, exists_mem_map, ← exists_mem_and]
    exact exists_congr fun g => and_congr_right fun hg => group_exact h hc g (hokg g hg) d

/-! ### only live documents are ever returned (no side condition at all) -/

theorem queryNumeric_sub {b : BSI.T} {flt : Filter} {r : RB} (hr : queryNumeric b flt = .ok r) :
    ∀ d, d ∈ r → d ∈ b.eBM := by
  -- all of them are `List.filter … b.eBM`
  cases flt with
  | cmp op f o =>
    cases o with
    | str _ => cases hr
    | int x t => cases op <;> cases hr <;> exact fun d hd => (List.mem_filter.mp hd).1
  | range f lo hi =>
    cases lo with
    | str _ => cases hr
    | int l _ =>
      cases hi with
      | str _ => cases hr
      | int u _ => cases hr; exact fun d hd => (List.mem_filter.mp hd).1
  | isIn n f vs => cases hr
  | ex n f => cases hr

theorem queryCategorical_sub {s : State} {flt : Filter} {r : RB} (hr : queryCategorical s flt = .ok r) :
    ∀ d, d ∈ r → d ∈ s.allDocs ∨ ∃ key, d ∈ catSet s key := by
  intro d hd
  cases flt with
  | cmp op f o =>
    cases op with
    | eq => rw [queryCat_eq] at hr; cases hr; exact Or.inr ⟨_, hd⟩
    | ne =>
      obtain ⟨r', hr', hm⟩ := queryCat_ne s f o
      cases hr'.symm.trans hr
      exact Or.inl ((hm d).mp hd).1
    | _ => cases hr
  | range f lo hi => cases hr
  | isIn n f vs =>
    cases vs with
    | none => cases n <;> cases hr
    | some l =>
      cases n <;> cases hr
      · obtain ⟨v, _, hv⟩ := ((mem_foldl_in s f d l []).mp hd).resolve_left (fun h => nomatch h)
        exact Or.inr ⟨_, hv⟩
      · exact Or.inl ((mem_foldl_notIn s f d l s.allDocs).mp hd).1
  | ex n f => cases hr

def SubLive (sp : Spec) (a : RB) : Prop := ∀ d, d ∈ a → (sp.docs.lookup d).isSome = true

theorem evaluateFilter_live {s : State} {sp : Spec} (h : InvS s sp) (flt : Filter) (r : RB)
    (hr : evaluateFilter s flt = .ok r) : SubLive sp r := by
  have hall : SubLive sp s.allDocs := fun d => (h.all d).mp
  have hnum : ∀ f b, s.numeric.lookup f = some b → SubLive sp b.eBM :=
    fun f b hb d hd => let ⟨_, hy⟩ := (mem_eBM h hb d).mp hd; h.getLive d f _ hy
  have hex : ∀ f, SubLive sp (getExistenceBitmap s f) := by
    intro f d hd
    unfold getExistenceBitmap at hd
    split at hd
    next b hn => exact hnum f b hn d hd
    next =>
      rw [mem_foldl_or (fun key => hasPrefix key (f ++ ":")) d] at hd
      obtain ⟨⟨key, bm⟩, hm, _, hd⟩ := hd.resolve_left (fun h => nomatch h)
      obtain ⟨f, _, _, hg⟩ := (h.cat key bm (lookup_of_mem h.catKeys hm) d).mp hd
      exact h.getLive d f _ hg
  intro d hd
  cases flt with
  | ex neg f =>
    cases neg <;> cases hr
    · exact hex f d hd
    · exact hall d (RB.mem_andNot.mp hd).1
  | _ =>
    simp only [evaluateFilter] at hr
    split at hr
    next b hn => exact hnum _ b hn d (queryNumeric_sub hr d hd)
    next =>
      rcases queryCategorical_sub hr d hd with h1 | ⟨key, h1⟩
      · exact hall d h1
      · obtain ⟨f, _, _, hg⟩ := (mem_catSet_iff h key d).mp h1
        exact h.getLive d f _ hg

theorem groupLoop_live {s : State} {sp : Spec} (h : InvS s sp) (logic : Logic) (fs : List Filter) :
    ∀ (acc : Option RB) (r : RB),
    SubLive sp (acc.getD []) → groupLoop s logic fs acc = .ok r → SubLive sp r := by
  induction fs with
  | nil =>
    intro acc r ha hr
    cases acc <;> cases hr <;> exact ha
  | cons f fs ih =>
    intro acc r ha hr
    simp only [groupLoop] at hr
    cases he : evaluateFilter s f with
    | error e => simp [he] at hr
    | ok bm =>
      have hbm : SubLive sp bm := evaluateFilter_live h f bm he
      simp only [he] at hr
      have key : ∀ r' : RB, SubLive sp r' →
          (if (logic == .and && r'.isEmpty) = true then Except.ok r' else groupLoop s logic fs (some r')) = .ok r →
          SubLive sp r := by
        intro r' hr' hif
        split at hif
        · cases hif; exact hr'
        · exact ih (some r') r hr' hif
      cases acc with
      | none => exact key bm hbm hr
      | some a =>
        refine key (if logic == .and then RB.and a bm else RB.or a bm) ?_ hr
        split
        · exact fun d hd => hbm d (RB.mem_and.mp hd).2
        · exact fun d hd => (RB.mem_or.mp hd).elim (ha d) (hbm d)

theorem executeGroup_live {s : State} {sp : Spec} (h : InvS s sp) (g : Group) (r : RB)
    (hr : executeGroup s g = .ok r) : SubLive sp r := by
  simp only [executeGroup] at hr
  split at hr
  · cases hr; exact fun d hd => (h.all d).mp hd
  · exact groupLoop_live h g.logic g.filters none r (fun d hd => nomatch hd) hr

theorem groupsLoop_live {s : State} {sp : Spec} (h : InvS s sp) (gs : List Group) :
    ∀ (i : Nat) (acc : Option RB) (r : RB),
    SubLive sp (acc.getD []) → groupsLoop s gs i acc = .ok r → SubLive sp r := by
  induction gs with
  | nil =>
    intro _ acc r ha hr
    cases acc <;> cases hr <;> exact ha
  | cons g gs ih =>
    intro i acc r ha hr
    simp only [groupsLoop] at hr
    cases he : executeGroup s g with
    | error e => simp [he] at hr
    | ok gr =>
      have hgr : SubLive sp gr := executeGroup_live h g gr he
      simp only [he] at hr
      refine ih (i + 1) _ r ?_ hr
      cases acc with
      | none => exact hgr
      | some a => exact fun d hd => (RB.mem_or.mp hd).elim (ha d) (hgr d)

/-- whatever the query (ill-typed, mixed signs, `Not(range)` included): every returned id is live -/
theorem execute_live {s : State} {sp : Spec} (h : InvS s sp) (fs : List Filter) (gs : List Group) (r : RB)
    (hr : execute s fs gs = .ok r) : SubLive sp r := by
  simp only [execute, executeFilterGroups, executeSimpleFilters, ← groupLoop_and] at hr
  split at hr
  · exact groupsLoop_live h gs 0 none r (fun d hd => nomatch hd) hr
  · split at hr
    · split at hr
      · cases hr
      · cases hr; exact groupLoop_live h .and fs none _ (fun d hd => nomatch hd) ‹_›
    · cases hr; exact fun d hd => (h.all d).mp hd

theorem execute_single {s : State} {f : Filter} {r : RB} (h : evaluateFilter s f = .ok r) :
    execute s [f] [] = .ok r := by
  simp [execute, executeSimpleFilters, simpleLoop, h]

/-- ids of a successful answer (for the `decide`d witnesses) -/
def okIds : Except Err RB → Option (List Nat)
  | .ok r => some r
  | .error _ => none

end Comet.Meta
