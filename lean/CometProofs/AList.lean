/-
  Go maps as association lists: look-up, update, delete and key list
  (`aget`, `aset`, `aerase`, `akeys` of Comet/BM25.lean), for any key type with decidable
  equality.
  `aget` is `List.lookup` (`aget_eq_lookup`); the maps of fusion.go, the metadata index
  and the storage directory are read through these lemmas.
-/
import Comet.BM25
namespace Comet.BM25

variable {α β γ : Type} [DecidableEq α]

omit [DecidableEq α] in
theorem akeys_cons (p : α × β) (t : List (α × β)) : akeys (p :: t) = p.1 :: akeys t := rfl

omit [DecidableEq α] in
theorem nodup_snoc {l : List α} {a : α} (h : l.Nodup) (ha : a ∉ l) : (l ++ [a]).Nodup :=
  (List.perm_append_singleton a l).nodup_iff.2 (List.nodup_cons.2 ⟨ha, h⟩)

theorem aget_eq_lookup (l : List (α × β)) (a : α) : aget l a = l.lookup a := by
  induction l with
  | nil => rfl
  | cons p t ih =>
    rw [aget, List.lookup_cons, ih]
    by_cases h : p.1 = a
    · rw [if_pos h, beq_iff_eq.2 h.symm]
    · rw [if_neg h, beq_eq_false_iff_ne.2 (Ne.symm h)]

theorem aget_aset (l : List (α × β)) (a a' : α) (b : β) :
    aget (aset l a b) a' = if a' = a then some b else aget l a' := by
  induction l with
  | nil => simp only [aset, aget, eq_comm]
  | cons p t ih =>
    obtain ⟨k, v⟩ := p
    by_cases hk : k = a
    · subst hk
      by_cases h : k = a'
      · subst h; simp [aset, aget]
      · simp [aset, aget, h, Ne.symm h]
    · by_cases h : a' = a
      · subst h; simp [aset, aget, hk, ih]
      · simp only [aset, hk, if_false, aget, ih, h]

theorem aget_filter_key (l : List (α × β)) (p : α → Bool) (a : α) :
    aget (l.filter fun x => p x.1) a = if p a then aget l a else none := by
  induction l with
  | nil => simp [aget]
  | cons x t ih =>
    obtain ⟨k, v⟩ := x
    by_cases hp : p k = true
    · by_cases hk : k = a
      · subst hk; simp [List.filter, hp, aget]
      · simp [List.filter, hp, aget, hk, ih]
    · by_cases hk : k = a
      · subst hk; simp [List.filter, hp, ih]
      · simp [List.filter, hp, aget, hk, ih]

theorem aget_aerase (l : List (α × β)) (a a' : α) :
    aget (aerase l a) a' = if a' = a then none else aget l a' := by
  rw [aerase, aget_filter_key l (fun k => decide (k ≠ a)) a']
  by_cases h : a' = a
  · rw [if_pos h, if_neg fun hc => absurd h (of_decide_eq_true hc)]
  · rw [if_neg h, if_pos (decide_eq_true h)]

theorem aget_aerase_self (l : List (α × β)) (a : α) : aget (aerase l a) a = none := by
  rw [aget_aerase, if_pos rfl]

theorem aget_aerase_ne (l : List (α × β)) {a a' : α} (h : a' ≠ a) :
    aget (aerase l a) a' = aget l a' := by
  rw [aget_aerase, if_neg h]

theorem getD_aget_aset (l : List (α × β)) (a a' : α) (b dflt : β) :
    (aget (aset l a b) a').getD dflt = if a' = a then b else (aget l a').getD dflt := by
  rw [aget_aset]; split <;> rfl

theorem getD_aget_aerase (l : List (α × β)) (a a' : α) (dflt : β) :
    (aget (aerase l a) a').getD dflt = if a' = a then dflt else (aget l a').getD dflt := by
  rw [aget_aerase]; split <;> rfl

/-- `if len(x) == 0 { delete(m, a) } else { m[a] = x }` reads back, with nil for the
    default, as `m[a] = x` -/
theorem getD_aget_aset_or_aerase (l : List (α × β)) (a a' : α) (b dflt : β) {c : Prop} [Decidable c]
    (hc : c → b = dflt) :
    (aget (if c then aerase l a else aset l a b) a').getD dflt =
      if a' = a then b else (aget l a').getD dflt := by
  by_cases h : c
  · rw [if_pos h, getD_aget_aerase, hc h]
  · rw [if_neg h, getD_aget_aset]

theorem aget_append (l₁ l₂ : List (α × β)) (a : α) :
    aget (l₁ ++ l₂) a = (aget l₁ a).or (aget l₂ a) := by
  rw [aget_eq_lookup, aget_eq_lookup, aget_eq_lookup, List.lookup_append]

/-- `delete(m, a)` followed by an append of `(a, b)` reads back as `m[a] = b` -/
theorem aget_aerase_append (l : List (α × β)) (a a' : α) (b : β) :
    aget (aerase l a ++ [(a, b)]) a' = if a' = a then some b else aget l a' := by
  rw [aget_append, aget_aerase]
  by_cases h : a' = a
  · rw [if_pos h, if_pos h, h, aget, if_pos rfl]; rfl
  · rw [if_neg h, if_neg h, aget, if_neg (Ne.symm h)]; exact Option.or_none

theorem aget_eq_none_iff (l : List (α × β)) (a : α) : aget l a = none ↔ a ∉ akeys l := by
  rw [aget_eq_lookup, List.lookup_eq_none_iff, akeys, List.mem_map]
  exact ⟨fun h ⟨p, hp, e⟩ => bne_iff_ne.1 (h p hp) e.symm,
    fun h p hp => bne_iff_ne.2 fun e => h ⟨p, hp, e.symm⟩⟩

theorem aget_isSome_iff (l : List (α × β)) (a : α) : (aget l a).isSome ↔ a ∈ akeys l :=
  Option.isSome_iff_ne_none.trans ((not_congr (aget_eq_none_iff l a)).trans Decidable.not_not)

theorem mem_of_aget {l : List (α × β)} {a : α} {b : β} (h : aget l a = some b) : (a, b) ∈ l := by
  obtain ⟨l₁, l₂, rfl, -⟩ := List.lookup_eq_some_iff.1 ((aget_eq_lookup l a).symm.trans h)
  exact List.mem_append_right _ List.mem_cons_self

theorem aget_of_mem {l : List (α × β)} (hn : (akeys l).Nodup) {a : α} {b : β} (h : (a, b) ∈ l) :
    aget l a = some b := by
  obtain ⟨l₁, l₂, rfl⟩ := List.append_of_mem h
  have hn' := (List.nodup_cons.1 ((List.perm_middle.map Prod.fst).nodup_iff.1 hn)).1
  rw [aget_eq_lookup, List.lookup_eq_some_iff]
  exact ⟨l₁, l₂, rfl, fun p hp => bne_iff_ne.2 fun e =>
    hn' (List.mem_map.2 ⟨p, List.mem_append_left _ hp, e.symm⟩)⟩

theorem aget_iff_mem {l : List (α × β)} (hn : (akeys l).Nodup) (a : α) (b : β) :
    aget l a = some b ↔ (a, b) ∈ l := ⟨mem_of_aget, aget_of_mem hn⟩

omit [DecidableEq α] in
theorem nodup_of_nodup_akeys {l : List (α × β)} (h : (akeys l).Nodup) : l.Nodup :=
  List.Pairwise.of_map (·.1) (fun _ _ hne e => hne (congrArg _ e)) h

theorem perm_of_aget_eq {l₁ l₂ : List (α × β)} (h₁ : (akeys l₁).Nodup) (h₂ : (akeys l₂).Nodup)
    (h : ∀ a, aget l₁ a = aget l₂ a) : l₁.Perm l₂ := by
  rw [List.perm_ext_iff_of_nodup (nodup_of_nodup_akeys h₁) (nodup_of_nodup_akeys h₂)]
  intro ⟨a, b⟩
  rw [← aget_iff_mem h₁, ← aget_iff_mem h₂, h]

theorem aset_of_not_mem (l : List (α × β)) {a : α} (b : β) (h : a ∉ akeys l) :
    aset l a b = l ++ [(a, b)] := by
  induction l with
  | nil => rfl
  | cons p t ih =>
    obtain ⟨k, v⟩ := p
    rw [akeys_cons, List.mem_cons, not_or] at h
    rw [aset, if_neg (Ne.symm h.1), ih h.2]; rfl

theorem akeys_aset_of_mem (l : List (α × β)) {a : α} (b : β) (h : a ∈ akeys l) :
    akeys (aset l a b) = akeys l := by
  induction l with
  | nil => cases h
  | cons p t ih =>
    obtain ⟨k, v⟩ := p
    rw [aset]
    by_cases hk : k = a
    · rw [if_pos hk]; rfl
    · rw [if_neg hk, akeys_cons, akeys_cons, ih ((List.mem_cons.1 h).resolve_left (Ne.symm hk))]

theorem nodup_akeys_aset (l : List (α × β)) (a : α) (b : β) (h : (akeys l).Nodup) :
    (akeys (aset l a b)).Nodup := by
  by_cases hm : a ∈ akeys l
  · rw [akeys_aset_of_mem l b hm]; exact h
  · rw [aset_of_not_mem l b hm, akeys, List.map_append]; exact nodup_snoc h hm

theorem akeys_aerase (l : List (α × β)) (a : α) :
    akeys (aerase l a) = (akeys l).filter fun k => decide (k ≠ a) := by
  rw [akeys, aerase, akeys, List.filter_map]; rfl

theorem nodup_akeys_aerase (l : List (α × β)) (a : α) (h : (akeys l).Nodup) :
    (akeys (aerase l a)).Nodup := by
  rw [akeys_aerase]; exact h.sublist List.filter_sublist

theorem not_mem_akeys_aerase (l : List (α × β)) (a : α) : a ∉ akeys (aerase l a) := by
  rw [akeys_aerase, List.mem_filter, decide_eq_true_eq]
  exact fun h => h.2 rfl

theorem aerase_of_not_mem (l : List (α × β)) {a : α} (h : a ∉ akeys l) : aerase l a = l :=
  List.filter_eq_self.2 fun p hp => decide_eq_true fun e => h (List.mem_map.2 ⟨p, hp, e⟩)

theorem split_of_aget {l : List (α × β)} (hn : (akeys l).Nodup) {a : α} {b : β}
    (h : aget l a = some b) : ∃ l₁ l₂, l = l₁ ++ (a, b) :: l₂ ∧ aerase l a = l₁ ++ l₂ := by
  obtain ⟨l₁, l₂, rfl, -⟩ := List.lookup_eq_some_iff.1 ((aget_eq_lookup l a).symm.trans h)
  have hn' := (List.nodup_cons.1 ((List.perm_middle.map Prod.fst).nodup_iff.1 hn)).1
  refine ⟨l₁, l₂, rfl, ?_⟩
  rw [aerase, List.filter_append, List.filter_cons_of_neg (by simp), ← List.filter_append]
  exact aerase_of_not_mem (l₁ ++ l₂) hn'

theorem length_aerase {l : List (α × β)} (hn : (akeys l).Nodup) {a : α} {b : β}
    (h : aget l a = some b) : (aerase l a).length + 1 = l.length := by
  obtain ⟨l₁, l₂, e₁, e₂⟩ := split_of_aget hn h
  rw [e₂, e₁, List.length_append, List.length_append, List.length_cons, Nat.add_assoc]

theorem aget_filter (l : List (α × β)) (P : α → β → Bool) (hn : (akeys l).Nodup) (a : α) :
    aget (l.filter fun p => P p.1 p.2) a = (aget l a).filter (P a) := by
  have hn' : (akeys (l.filter fun p => P p.1 p.2)).Nodup := hn.sublist (List.filter_sublist.map _)
  refine Option.ext fun b => ?_
  rw [aget_iff_mem hn', List.mem_filter, ← aget_iff_mem hn, Option.filter_eq_some_iff]

theorem aget_map_val (l : List (α × β)) (f : α → β → γ) (a : α) :
    aget (l.map fun p => (p.1, f p.1 p.2)) a = (aget l a).map (f a) := by
  induction l with
  | nil => simp [aget]
  | cons p t ih =>
    obtain ⟨k, v⟩ := p
    by_cases hk : k = a
    · subst hk; simp [aget]
    · simp [aget, hk, ih]

omit [DecidableEq α] in
theorem akeys_map_val (l : List (α × β)) (f : α → β → γ) :
    akeys (l.map fun p => (p.1, f p.1 p.2)) = akeys l := by
  rw [akeys, akeys, List.map_map]; rfl

theorem aerase_map_val (l : List (α × β)) (f : α → β → γ) (a : α) :
    aerase (l.map fun p => (p.1, f p.1 p.2)) a = (aerase l a).map fun p => (p.1, f p.1 p.2) := by
  rw [aerase, aerase, List.filter_map]; rfl

end Comet.BM25
