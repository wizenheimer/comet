/-
  C13 — IVF is exact at full probe; fewer probes search the nearest clusters exactly.

  Helper lemmas are in CometProofs/IVF.lean (and Comet/TopK.lean, CometProofs/Flat.lean).

    * `m : Metric V S` (dimension, preprocessing, distance, score scalar) and
      `inf : S` (the `+Inf` the arg-min loop starts from) are parameters; the search
      theorems hold for every metric whose score order is a total preorder
      (`m.sc.Ordered`); only `ivf_nearest_least_minimiser` needs `inf` on top
      (`∀ x, le x inf`).
    * `trainedRun m inf dim nlist n cs ops` (CometProofs/IVF.lean) is the model state after
      `NewIVFIndex(dim, nlist)`, `Train` of `n ≥ nlist` vectors for which k-means
      returned the centroids `cs` (`|cs| = nlist`, otherwise arbitrary: empty clusters
      and identical centroids included), and then the Add / Remove / Flush history
      `ops` — a history of the flat index (`Flat.Op`), so that "the same data" is the
      flat index after `ops` and the specification is C01's `Flat.live m dim ops`.
    * Histories are arbitrary: ids may be re-added (`Add` of a soft-deleted id purges
      the tombstones first, in the IVF index as in the flat index). Only
      `ivf_stored_in_exactly_one` needs C01's `FreshAdds`, each id added at most once:
      with a re-added live id an id legitimately occurs twice.
    * `nearest m inf v cs` is `FindNearestCentroidIndex`; `probe m q' cs np` the
      first `np` list indexes of the model's centroid ranking; `clampProbes p nlist`
      the effective number of probes for the builder value `p ∈ ℤ`.
    * `IsProbeSet m q' cs np P`: `P` is a legitimate reading of "the `np` clusters
      whose centroids are nearest to the query" (ties may be resolved either way).
    * `probeCands m inf cs P live q' thr F`: the hits the property allows for the
      probe set `P` — live, stored in a cluster of `P`, eligible under the id
      restriction `F`, within the threshold; scored by the metric.
-/
import CometProofs.IVF
namespace Comet.IVF

variable {V S : Type}

/-- `FindNearestCentroidIndex` returns the least index among the minimisers: the
    centroid it names is at least as near as every centroid, and every centroid with
    a smaller index is strictly farther. -/
theorem ivf_nearest_least_minimiser (m : Metric V S) (ord : m.sc.Ordered) (inf : S)
    (top : ∀ x, m.sc.le x inf = true) (v : V) (cs : List V) (hne : cs ≠ []) :
    ∃ c, cs[nearest m inf v cs]? = some c ∧
      (∀ c' ∈ cs, m.sc.le (m.dist v c) (m.dist v c') = true) ∧
      ∀ j, j < nearest m inf v cs → ∀ cj, cs[j]? = some cj →
        m.sc.le (m.dist v cj) (m.dist v c) = false :=
  argmin_spec m.sc ord inf top (m.dist v) cs hne

/-- A successful `Add` preprocesses the vector, purges the soft-deleted entries first
    when the id is itself soft-deleted (`s₁`), and appends the entry to the list of the
    centroid nearest to the *preprocessed* vector; nothing else changes. -/
theorem ivf_add_stores_in_nearest (m : Metric V S) (inf : S) (s s' : State V) (id : Id) (v : V)
    (h : step m inf s (.add id v) = (s', none)) :
    ∃ v' s₁, m.pre v = some v' ∧ s.trained = true ∧ m.dimOf v = s.dim ∧
      s₁ = (if id ∈ s.deleted then flushLocked s else s) ∧
      nearest m inf v' s₁.centroids < s₁.lists.length ∧
      s' = { s₁ with lists := appendAt (id, v') s₁.lists (nearest m inf v' s₁.centroids) } := by
  cases ht : s.trained with
  | false => simp [step, ht] at h
  | true =>
    by_cases hd : m.dimOf v = s.dim
    · cases hp : m.pre v with
      | none => simp [step, ht, hd, hp] at h
      | some v' =>
        simp only [step, ht, hd, hp, Bool.not_true, Bool.false_eq_true, ne_eq, not_true_eq_false,
          if_false] at h
        generalize (if id ∈ s.deleted then flushLocked s else s) = s₁ at h ⊢
        split at h
        · next hlt => exact ⟨v', s₁, rfl, rfl, hd, rfl, hlt, (Prod.mk.inj h).1.symm⟩
        · cases h
    · simp [step, ht, hd] at h

/-- After training and ANY Add / Remove / Flush
    history there are exactly `nlist` lists and list `i` holds exactly the entries the
    flat index stores after the same history whose nearest centroid is `i`, in
    insertion order — so every stored vector sits in the list of its nearest centroid
    and in no other. -/
theorem ivf_assign (m : Metric V S) (inf : S) (dim nlist n : Nat) (cs : List V)
    (hpos : 0 < nlist) (hn : nlist ≤ n) (hcs : cs.length = nlist) (ops : List (Flat.Op V)) :
    (trainedRun m inf dim nlist n cs ops).lists.length = nlist ∧
    ∀ i, i < nlist →
      (trainedRun m inf dim nlist n cs ops).lists[i]? =
        some ((Flat.run m (Flat.init dim) ops).vecs.filter fun e => nearest m inf e.2 cs == i) := by
  have h := sim_trainedRun m inf dim nlist n cs hpos hn hcs ops
  rw [h.lists]
  exact ⟨by rw [bucketsOf_length, hcs], fun i hi => bucketsOf_getElem? _ _ _ i (hcs ▸ hi)⟩

/-- … in membership form: an entry is in list `i` iff it is stored and `i` is its
    nearest centroid (every history). -/
theorem ivf_assign_mem (m : Metric V S) (inf : S) (dim nlist n : Nat) (cs : List V)
    (hpos : 0 < nlist) (hn : nlist ≤ n) (hcs : cs.length = nlist) (ops : List (Flat.Op V))
    (i : Nat) (l : List (Id × V))
    (hl : (trainedRun m inf dim nlist n cs ops).lists[i]? = some l) (e : Id × V) :
    e ∈ l ↔ e ∈ (Flat.run m (Flat.init dim) ops).vecs ∧ nearest m inf e.2 cs = i := by
  obtain ⟨hlen, hall⟩ := ivf_assign m inf dim nlist n cs hpos hn hcs ops
  have hi : i < nlist := hlen ▸ (List.getElem?_eq_some_iff.1 hl).1
  cases (hall i hi).symm.trans hl
  simp [List.mem_filter]

/-- With distinct add ids every stored id occurs exactly once across all lists
    ("stored in exactly one cluster"). -/
theorem ivf_stored_in_exactly_one (m : Metric V S) (inf : S) (dim nlist n : Nat) (cs : List V)
    (hpos : 0 < nlist) (hn : nlist ≤ n) (hcs : cs.length = nlist) (ops : List (Flat.Op V))
    (hfresh : Flat.FreshAdds ops) :
    ((trainedRun m inf dim nlist n cs ops).lists.flatten.map (·.1)).Nodup := by
  have h := sim_trainedRun m inf dim nlist n cs hpos hn hcs ops
  have hne : cs ≠ [] := List.ne_nil_of_length_pos (hcs ▸ hpos)
  have hp := (h.flatten_perm hne).map (·.1)
  exact hp.nodup_iff.2 (Flat.ids_run_nodup m _ ops .nil hfresh fun _ h => nomatch h)

/-- After training and any history, the IVF index holds, as a multiset over all its lists,
    exactly what the flat index (C01's model `Flat.run`) holds after the same history, with
    the same soft-delete set and dimension. -/
theorem ivf_refines_flat (m : Metric V S) (inf : S) (dim nlist n : Nat) (cs : List V)
    (hpos : 0 < nlist) (hn : nlist ≤ n) (hcs : cs.length = nlist) (ops : List (Flat.Op V)) :
    (trainedRun m inf dim nlist n cs ops).lists.flatten.Perm (Flat.run m (Flat.init dim) ops).vecs ∧
    (trainedRun m inf dim nlist n cs ops).deleted = (Flat.run m (Flat.init dim) ops).deleted ∧
    (trainedRun m inf dim nlist n cs ops).dim = dim ∧
    (trainedRun m inf dim nlist n cs ops).trained = true ∧
    (trainedRun m inf dim nlist n cs ops).centroids = cs := by
  have h := sim_trainedRun m inf dim nlist n cs hpos hn hcs ops
  have hne : cs ≠ [] := List.ne_nil_of_length_pos (hcs ▸ hpos)
  exact ⟨h.flatten_perm hne, h.deleted, h.dim.trans (Flat.run_dim m _ ops), h.trained, h.cent⟩

/-- … and every further Add / Remove / Flush has the flat index's outcome (same
    error or success; in particular it never panics). -/
theorem ivf_outcomes_eq_flat (m : Metric V S) (inf : S) (dim nlist n : Nat) (cs : List V)
    (hpos : 0 < nlist) (hn : nlist ≤ n) (hcs : cs.length = nlist) (ops : List (Flat.Op V))
    (op : Flat.Op V) :
    (step m inf (trainedRun m inf dim nlist n cs ops) (ofFlat op)).2 =
      (Flat.step m (Flat.run m (Flat.init dim) ops) op).2.map Fail.err := by
  have h := sim_trainedRun m inf dim nlist n cs hpos hn hcs ops
  have hne : cs ≠ [] := List.ne_nil_of_length_pos (hcs ▸ hpos)
  exact (sim_step m inf cs hne _ _ h op).2

/-- For every history and every number of probes `p ∈ ℤ` the search with a valid query
    (`hq`, `hpre`) succeeds and returns an exact top-k of the live, eligible, within-threshold vectors
    stored in the clusters `P = probe …`, where `P` consists of `clampProbes p nlist`
    distinct clusters none of which is strictly farther from the (preprocessed) query
    than a cluster outside `P`. -/
theorem ivf_partial_exact (m : Metric V S) (ord : m.sc.Ordered) (inf : S)
    (dim nlist n : Nat) (cs : List V)
    (hpos : 0 < nlist) (hn : nlist ≤ n) (hcs : cs.length = nlist)
    (ops : List (Flat.Op V))
    (q q' : V) (k : Int) (thr : S) (F : List Id) (p : Int)
    (hq : m.dimOf q = dim) (hpre : m.pre q = some q') :
    ∃ res, searchSingle m (trainedRun m inf dim nlist n cs ops) q k thr F p = .ok res ∧
      IsProbeSet m q' cs (clampProbes p nlist) (probe m q' cs (clampProbes p nlist)) ∧
      IsTopK m.sc.le k
        (probeCands m inf cs (probe m q' cs (clampProbes p nlist)) (Flat.live m dim ops) q' thr F)
        res := by
  have h := sim_trainedRun m inf dim nlist n cs hpos hn hcs ops
  have hps : IsProbeSet m q' cs (clampProbes p nlist) (probe m q' cs (clampProbes p nlist)) :=
    probe_isProbeSet m ord q' cs _ (hcs ▸ clampProbes_le p nlist)
  refine ⟨_, searchSingle_eq m inf cs _ _ h q q' k thr F p
    (hq.trans (h.dim.trans (Flat.run_dim m _ ops)).symm) hpre, hps, ?_⟩
  rw [hcs, ← Flat.eff_run_init m dim ops]
  exact (selectK_isTopK m.sc.le ord.total ord.trans k _).of_perm
    (scan_probe_perm m inf cs _ _ q' thr F _ hps.nodup)

/-- Every score is a true distance: each hit is a live stored vector of a probed
    cluster, eligible, within the threshold, and its score is the metric distance
    between the preprocessed query and that stored vector. -/
theorem ivf_score_is_distance (m : Metric V S) (ord : m.sc.Ordered) (inf : S)
    (dim nlist n : Nat) (cs : List V)
    (hpos : 0 < nlist) (hn : nlist ≤ n) (hcs : cs.length = nlist)
    (ops : List (Flat.Op V))
    (q q' : V) (k : Int) (thr : S) (F : List Id) (p : Int)
    (hq : m.dimOf q = dim) (hpre : m.pre q = some q') (res : List (Hit S))
    (hres : searchSingle m (trainedRun m inf dim nlist n cs ops) q k thr F p = .ok res) :
    ∀ r ∈ res, ∃ v, (r.id, v) ∈ Flat.live m dim ops ∧ r.score = m.dist q' v ∧
      nearest m inf v cs ∈ probe m q' cs (clampProbes p nlist) ∧
      Flat.eligible F r.id = true ∧ Flat.thrSkip m.sc thr r.score = false := by
  obtain ⟨res', h1, _, h3⟩ :=
    ivf_partial_exact m ord inf dim nlist n cs hpos hn hcs ops q q' k thr F p hq hpre
  cases hres.symm.trans h1
  intro r hr
  obtain ⟨rest, hperm, _⟩ := h3.split
  obtain ⟨e, he, hel, hth, rfl⟩ := Flat.mem_cands.1 (hperm.subset (List.mem_append_left _ hr))
  obtain ⟨he, hin⟩ := List.mem_filter.1 he
  exact ⟨e.2, he, rfl, List.contains_iff_mem.1 hin, hel, hth⟩

/-- Full probe, every history: with `p ≤ 0` or `p ≥ nlist` the search returns
    an exact top-k of `Flat.cands … (Flat.live …)` — the very specification that C01's
    `flat_search_exact` proves of the flat index, for the same data, metric, `k`,
    threshold and id restriction. -/
theorem ivf_fullprobe_exact (m : Metric V S) (ord : m.sc.Ordered) (inf : S)
    (dim nlist n : Nat) (cs : List V)
    (hpos : 0 < nlist) (hn : nlist ≤ n) (hcs : cs.length = nlist)
    (ops : List (Flat.Op V))
    (q q' : V) (k : Int) (thr : S) (F : List Id) (p : Int)
    (hp : p ≤ 0 ∨ (nlist : Int) ≤ p)
    (hq : m.dimOf q = dim) (hpre : m.pre q = some q') :
    ∃ res, searchSingle m (trainedRun m inf dim nlist n cs ops) q k thr F p = .ok res ∧
      IsTopK m.sc.le k (Flat.cands m (Flat.live m dim ops) q' thr F) res := by
  obtain ⟨res, h1, _, h3⟩ :=
    ivf_partial_exact m ord inf dim nlist n cs hpos hn hcs ops q q' k thr F p hq hpre
  refine ⟨res, h1, ?_⟩
  have hne : cs ≠ [] := List.ne_nil_of_length_pos (hcs ▸ hpos)
  have hall : inClusters m inf cs (probe m q' cs (clampProbes p nlist)) (Flat.live m dim ops) =
      Flat.live m dim ops := by
    refine List.filter_eq_self.2 fun e _ => List.contains_iff_mem.2 ?_
    rw [clampProbes_full hp, ← hcs]
    exact mem_probe_full m q' cs _ (nearest_lt m inf e.2 cs hne)
  rwa [probeCands, hall] at h3

/-- … hence the IVF index at full probe and the flat index return the same list of
    scores (the property's notion of "returns exactly what exact search returns"),
    when the score order is antisymmetric. -/
theorem ivf_fullprobe_same_scores_as_flat (m : Metric V S) (ord : m.sc.Ordered) (inf : S)
    (antisymm : ∀ a b : S, m.sc.le a b → m.sc.le b a → a = b)
    (dim nlist n : Nat) (cs : List V)
    (hpos : 0 < nlist) (hn : nlist ≤ n) (hcs : cs.length = nlist)
    (ops : List (Flat.Op V))
    (q q' : V) (k : Int) (thr : S) (F : List Id) (p : Int)
    (hp : p ≤ 0 ∨ (nlist : Int) ≤ p)
    (hq : m.dimOf q = dim) (hpre : m.pre q = some q') :
    ∃ ri rf, searchSingle m (trainedRun m inf dim nlist n cs ops) q k thr F p = .ok ri ∧
      Flat.searchSingle m (Flat.run m (Flat.init dim) ops) q k thr F = .ok rf ∧
      ri.map (·.score) = rf.map (·.score) := by
  obtain ⟨ri, h1, h2⟩ :=
    ivf_fullprobe_exact m ord inf dim nlist n cs hpos hn hcs ops q q' k thr F p hp hq hpre
  exact ⟨ri, _, h1, Flat.searchSingle_run m dim ops q q' k thr F hq hpre,
    isTopK_scores_eq m.sc.le ord.total ord.trans antisymm k _ _ _ h2
      (selectK_isTopK m.sc.le ord.total ord.trans k _)⟩

/-- Order-generic core: an exact top-k of a super-multiset is at least as long as,
    and rank by rank at least as good as, an exact top-k of the sub-multiset
    (the i-th smallest of a super-multiset is `≤` the i-th smallest of the sub-multiset). -/
theorem ivf_topK_mono (le : S → S → Bool)
    (tot : ∀ a b : S, le a b || le b a)
    (tr : ∀ a b c : S, le a b → le b c → le a c)
    (k : Int) (c extra c' r r' : List (Hit S))
    (hc : c'.Perm (c ++ extra))
    (h : IsTopK le k c r) (h' : IsTopK le k c' r') :
    r.length ≤ r'.length ∧
      ∀ (i : Nat) (a a' : Hit S), r[i]? = some a → r'[i]? = some a' →
        le a'.score a.score = true :=
  topK_mono le tot tr k c extra c' r r' hc h h'

/-- The clusters probed with fewer probes are a prefix of those probed with more. -/
theorem ivf_probe_monotone (m : Metric V S) (q' : V) (cs : List V) (np np' : Nat) (h : np ≤ np') :
    ∃ extra, probe m q' cs np' = probe m q' cs np ++ extra :=
  ⟨(((rank m q' cs).take np').drop np).map (·.1), by
    have : (rank m q' cs).take np = ((rank m q' cs).take np').take np := by
      rw [List.take_take, Nat.min_eq_left h]
    rw [probe, probe, this, ← List.map_append, List.take_append_drop]⟩

/-- If `p'` means at least as many probes as `p`
    (after the clamp), the answer for `p'` is at least as long and, rank by rank, its
    scores are never worse. -/
theorem ivf_scores_monotone (m : Metric V S) (ord : m.sc.Ordered) (inf : S)
    (dim nlist n : Nat) (cs : List V)
    (hpos : 0 < nlist) (hn : nlist ≤ n) (hcs : cs.length = nlist)
    (ops : List (Flat.Op V))
    (q q' : V) (k : Int) (thr : S) (F : List Id) (p p' : Int)
    (hpp : clampProbes p nlist ≤ clampProbes p' nlist)
    (hq : m.dimOf q = dim) (hpre : m.pre q = some q') :
    ∃ r r', searchSingle m (trainedRun m inf dim nlist n cs ops) q k thr F p = .ok r ∧
      searchSingle m (trainedRun m inf dim nlist n cs ops) q k thr F p' = .ok r' ∧
      r.length ≤ r'.length ∧
      ∀ (i : Nat) (a a' : Hit S), r[i]? = some a → r'[i]? = some a' →
        m.sc.le a'.score a.score = true := by
  have h := sim_trainedRun m inf dim nlist n cs hpos hn hcs ops
  have hd := hq.trans (h.dim.trans (Flat.run_dim m _ ops)).symm
  refine ⟨_, _, searchSingle_eq m inf cs _ _ h q q' k thr F p hd hpre,
    searchSingle_eq m inf cs _ _ h q q' k thr F p' hd hpre, ?_⟩
  rw [hcs]
  obtain ⟨extra, hex⟩ := ivf_probe_monotone m q' cs _ _ hpp
  rw [hex]
  -- scanning `P ++ extra` is scanning `P`, then `extra`
  refine topK_mono m.sc.le ord.total ord.trans k _
    (Flat.scan m ⟨(trainedRun m inf dim nlist n cs ops).dim,
      extra.flatMap (fun i => (Flat.run m (Flat.init dim) ops).vecs.filter
        fun e => keyOf m inf cs e == i), (Flat.run m (Flat.init dim) ops).deleted⟩ q' thr F)
    _ _ _ (.of_eq ?_)
    (selectK_isTopK m.sc.le ord.total ord.trans k _)
    (selectK_isTopK m.sc.le ord.total ord.trans k _)
  simp only [Flat.scan, List.flatMap_append, List.filterMap_append]

/-- The property's wording: `p + 1` probes are never worse than `p` probes
    (`1 ≤ p < nlist`, where the clamp is the identity). -/
theorem ivf_one_more_probe_never_worse (m : Metric V S) (ord : m.sc.Ordered) (inf : S)
    (dim nlist n : Nat) (cs : List V)
    (hpos : 0 < nlist) (hn : nlist ≤ n) (hcs : cs.length = nlist)
    (ops : List (Flat.Op V))
    (q q' : V) (k : Int) (thr : S) (F : List Id) (p : Int)
    (hp0 : 0 < p) (hp1 : p < nlist)
    (hq : m.dimOf q = dim) (hpre : m.pre q = some q') :
    ∃ r r', searchSingle m (trainedRun m inf dim nlist n cs ops) q k thr F p = .ok r ∧
      searchSingle m (trainedRun m inf dim nlist n cs ops) q k thr F (p + 1) = .ok r' ∧
      r.length ≤ r'.length ∧
      ∀ (i : Nat) (a a' : Hit S), r[i]? = some a → r'[i]? = some a' →
        m.sc.le a'.score a.score = true := by
  apply ivf_scores_monotone m ord inf dim nlist n cs hpos hn hcs ops q q' k thr F p (p + 1) ?_ hq hpre
  rw [clampProbes_of_pos_le hp0 (Int.le_of_lt hp1),
    clampProbes_of_pos_le (Int.lt_add_one_of_le (Int.le_of_lt hp0)) (Int.add_one_le_of_lt hp1)]
  exact Int.toNat_le_toNat (Int.le_add_one (Int.le_refl p))

/-- Adding before training is an error and changes nothing. -/
theorem ivf_untrained_add_err (m : Metric V S) (inf : S) (s : State V) (id : Id) (v : V)
    (h : s.trained = false) : step m inf s (.add id v) = (s, some (.err .untrained)) := by
  simp [step, h]

/-- Searching before training is an error. -/
theorem ivf_untrained_search_err (m : Metric V S) (s : State V) (q : V) (k : Int) (thr : S)
    (F : List Id) (p : Int) (h : s.trained = false) :
    searchSingle m s q k thr F p = .error (.err .untrained) := by
  simp [searchSingle, h]

/-- … also through `Execute` with a query vector. -/
theorem ivf_untrained_execute_err (m : Metric V S) (s : State V) (q : V) (k : Int) (thr : S)
    (F : List Id) (agg : AggKind) (p : Int) (h : s.trained = false) :
    execute m s [q] [] k thr F agg p = .error (.err .untrained) := by
  simp [execute, searchSingle, h, bind, Except.bind, pure, Except.pure]

/-- `Train` with fewer than `nlist` vectors is an error and leaves the index untrained. -/
theorem ivf_train_too_few_err (m : Metric V S) (inf : S) (s : State V) (n : Nat) (cs : List V)
    (h : n < s.nlist) : step m inf s (.train n cs) = (s, some (.err .other)) := by
  simp [step, h]

/-- A fresh index is untrained and stays exactly as it is under every Add / Remove /
    Flush history and every failed `Train`. -/
theorem ivf_untrained_history (m : Metric V S) (inf : S) (dim nlist : Nat)
    (ops : List (Op V))
    (hops : ∀ op ∈ ops, ∀ n cs, op = .train n cs → n < nlist) :
    run m inf (init dim nlist) ops = init dim nlist := by
  induction ops with
  | nil => rfl
  | cons op t ih =>
    simp only [run, List.foldl_cons]
    have hstep : (step m inf (init dim nlist) op).1 = init dim nlist := by
      cases op with
      | train n cs =>
        have := hops (.train n cs) (by simp) n cs rfl
        simp [step, init, this]
      | add id v => simp [step, init]
      | remove id => simp [step, init]
      | flush => simp [step, init, flushLocked]
    rw [hstep]
    exact ih (fun op hop => hops op (by simp [hop]))

/-- `NewIVFIndex` rejects non-positive dimensions and list counts. -/
theorem ivf_new_rejects_nonpositive (dim nlist : Int) (h : dim ≤ 0 ∨ nlist ≤ 0) :
    (new? dim nlist : Option (State V)) = none := by
  unfold new?
  rcases h with h | h
  · simp [h]
  · by_cases hd : dim ≤ 0 <;> simp [hd, h]

/-- Wrong query dimension is rejected. -/
theorem ivf_query_wrong_dim (m : Metric V S) (s : State V) (q : V) (k : Int) (thr : S)
    (F : List Id) (p : Int) (ht : s.trained = true) (h : m.dimOf q ≠ s.dim) :
    searchSingle m s q k thr F p = .error (.err .dim) := by
  simp [searchSingle, ht, h]

/-! ## non-vacuity: a concrete instance with identical centroids, an empty cluster,
    a vector equidistant from two centroids, a removal, a tie at the probe boundary -/

section Example

/-- scores `ℕ ∪ {∞}` (`none` = `+Inf`) -/
def toyLe : Option Nat → Option Nat → Bool
  | _, none => true
  | none, some _ => false
  | some a, some b => decide (a ≤ b)

def toy : Metric Nat (Option Nat) where
  dimOf _ := 1
  pre v := some v
  dist a b := some (if a ≤ b then b - a else a - b)
  sc := { zero := some 0, add := fun a b => do pure ((← a) + (← b)),
          divNat := fun a n => a.map (· / n),
          le := toyLe, lt := fun a b => !toyLe b a }

theorem toy_ordered : toy.sc.Ordered where
  total
    | a, none => by cases a <;> rfl
    | none, some _ => rfl
    | some a, some b => by
      rcases Nat.le_total a b with h | h
      · exact Bool.or_eq_true_iff.2 (.inl (decide_eq_true h))
      · exact Bool.or_eq_true_iff.2 (.inr (decide_eq_true h))
  trans
    | a, _, none => fun _ _ => by cases a <;> rfl
    | some _, some _, some _ => fun h1 h2 =>
      decide_eq_true (Nat.le_trans (of_decide_eq_true h1) (of_decide_eq_true h2))
    | none, some _, some _ => fun h1 _ => nomatch h1
    | _, none, some _ => fun _ h2 => nomatch h2
  lt_iff a b := rfl

theorem toy_top : ∀ x, toy.sc.le x none = true := by
  intro x; cases x <;> rfl

def toyCs : List Nat := [10, 30, 30, 50]

def toyOps : List (Flat.Op Nat) :=
  [.add 1 12, .add 2 29, .add 3 31, .add 4 20, .remove 2, .add 5 49, .flush, .add 6 33, .remove 6]

example : Flat.FreshAdds toyOps := by unfold Flat.FreshAdds; decide +kernel

-- 20 is equidistant from the centroids 10 and 30: the least index wins; the second
-- of the two identical centroids never receives a vector (an empty cluster)
example : nearest toy none 20 toyCs = 0 := by decide +kernel
example : nearest toy none 31 toyCs = 1 := by decide +kernel
example : (trainedRun toy none 1 4 7 toyCs toyOps).lists =
    [[(1, 12), (4, 20)], [(3, 31), (6, 33)], [], [(5, 49)]] := by decide +kernel
example : (trainedRun toy none 1 4 7 toyCs toyOps).deleted = [6] := by decide +kernel
example : Flat.live toy 1 toyOps = [(1, 12), (3, 31), (4, 20), (5, 49)] := by decide +kernel

-- the model ranks the centroids for the query 30 as 1, 2 (distance 0, a tie), 0, 3 (20, a tie)
example : probe toy 30 toyCs 4 = [1, 2, 0, 3] := by decide +kernel
-- with one probe the model scans cluster 1; scanning the (empty) cluster 2 instead is
-- an equally legitimate reading of "the nearest cluster"; cluster 0 is not
example : IsProbeSet toy 30 toyCs 1 [1] :=
  probe_isProbeSet toy toy_ordered 30 toyCs 1 (by decide)
example : IsProbeSet toy 30 toyCs 1 [2] :=
  ⟨by decide, rfl, by decide, by
    -- centroid 2 is at distance 0 from the query, and 0 ≤ every distance
    intro i hi j _ ci cj hci _
    cases List.mem_singleton.1 hi
    cases (Option.some.inj hci : 30 = ci)
    exact decide_eq_true (Nat.zero_le (if 30 ≤ cj then cj - 30 else 30 - cj))⟩
example : ¬ IsProbeSet toy 30 toyCs 1 [0] := fun h => by
  have := h.nearestFirst 0 (by simp) 1 (by simp) 10 30 rfl rfl
  revert this; decide

-- the specification's candidates for one, three and all probes (query 30, no threshold)
example : probeCands toy none toyCs [1] (Flat.live toy 1 toyOps) 30 (some 0) [] =
    [⟨3, some 1⟩] := by decide +kernel
example : probeCands toy none toyCs [1, 2, 0] (Flat.live toy 1 toyOps) 30 (some 0) [] =
    [⟨1, some 18⟩, ⟨3, some 1⟩, ⟨4, some 10⟩] := by decide +kernel
example : Flat.cands toy (Flat.live toy 1 toyOps) 30 (some 0) [] =
    [⟨1, some 18⟩, ⟨3, some 1⟩, ⟨4, some 10⟩, ⟨5, some 19⟩] := by decide +kernel

-- the hypotheses of `ivf_partial_exact` and `ivf_fullprobe_exact` are met by this instance
example : ∃ res, searchSingle toy (trainedRun toy none 1 4 7 toyCs toyOps) 30 2 (some 0) [] 3 = .ok res ∧
    IsProbeSet toy 30 toyCs (clampProbes 3 4) (probe toy 30 toyCs (clampProbes 3 4)) ∧
    IsTopK toy.sc.le 2
      (probeCands toy none toyCs (probe toy 30 toyCs (clampProbes 3 4)) (Flat.live toy 1 toyOps)
        30 (some 0) []) res :=
  ivf_partial_exact toy toy_ordered none 1 4 7 toyCs (by decide) (by decide) rfl toyOps
    30 30 2 (some 0) [] 3 rfl rfl
example : ∃ res, searchSingle toy (trainedRun toy none 1 4 7 toyCs toyOps) 30 2 (some 0) [] 0 = .ok res ∧
    IsTopK toy.sc.le 2 (Flat.cands toy (Flat.live toy 1 toyOps) 30 (some 0) []) res :=
  ivf_fullprobe_exact toy toy_ordered none 1 4 7 toyCs (by decide) (by decide) rfl toyOps
    30 30 2 (some 0) [] 0 (by decide) rfl rfl
-- what the specification accepts / rejects at three probes, k = 2: the removed ids 2
-- and 6 never appear, id 5 (cluster 3, not probed) is not a legitimate hit although it
-- is live; at full probe the answer [3, 4] is exact as well
example : IsTopK toy.sc.le 2
    (probeCands toy none toyCs [1, 2, 0] (Flat.live toy 1 toyOps) 30 (some 0) [])
    [⟨3, some 1⟩, ⟨4, some 10⟩] := checkTopK_sound _ _ _ _ (by decide +kernel)
example : ¬ IsTopK toy.sc.le 2
    (probeCands toy none toyCs [1, 2, 0] (Flat.live toy 1 toyOps) 30 (some 0) [])
    [⟨3, some 1⟩, ⟨5, some 19⟩] := fun h => absurd (checkTopK_complete _ _ _ _ h) (by decide +kernel)
example : IsTopK toy.sc.le 2 (Flat.cands toy (Flat.live toy 1 toyOps) 30 (some 0) [])
    [⟨3, some 1⟩, ⟨4, some 10⟩] := checkTopK_sound _ _ _ _ (by decide +kernel)
-- a history that re-adds a soft-deleted id (2) while another id (1) is soft-deleted as
-- well: `Add` purges both tombstoned entries, then stores the new vector; the theorems
-- above cover it (no freshness hypothesis)
example : ¬ Flat.FreshAdds
    ([.add 1 12, .add 2 29, .add 3 31, .remove 1, .remove 2, .add 2 48] : List (Flat.Op Nat)) := by
  unfold Flat.FreshAdds; decide +kernel
example : (trainedRun toy none 1 4 7 toyCs
    [.add 1 12, .add 2 29, .add 3 31, .remove 1, .remove 2, .add 2 48]).lists =
    [[], [(3, 31)], [], [(2, 48)]] := by decide +kernel
example : (trainedRun toy none 1 4 7 toyCs
    [.add 1 12, .add 2 29, .add 3 31, .remove 1, .remove 2, .add 2 48]).deleted = [] := by decide +kernel
example : Flat.live toy 1 [.add 1 12, .add 2 29, .add 3 31, .remove 1, .remove 2, .add 2 48] =
    [(3, 31), (2, 48)] := by decide +kernel
example : ∃ res, searchSingle toy (trainedRun toy none 1 4 7 toyCs
      [.add 1 12, .add 2 29, .add 3 31, .remove 1, .remove 2, .add 2 48]) 30 1 (some 0) [] (-1) = .ok res ∧
    IsTopK toy.sc.le 1 (Flat.cands toy (Flat.live toy 1
      [.add 1 12, .add 2 29, .add 3 31, .remove 1, .remove 2, .add 2 48]) 30 (some 0) []) res :=
  ivf_fullprobe_exact toy toy_ordered none 1 4 7 toyCs (by decide) (by decide) rfl _
    30 30 1 (some 0) [] (-1) (by decide) rfl rfl
-- the hypothesis `hpp` of `ivf_scores_monotone` for one and three probes
example : clampProbes 1 4 ≤ clampProbes 3 4 := by decide +kernel
-- untrained: the fresh index rejects adds and searches
example : step toy none (init 1 4) (.add 1 12) = (init 1 4, some (.err .untrained)) :=
  ivf_untrained_add_err toy none (init 1 4) 1 12 rfl
example : searchSingle toy (init 1 4 : State Nat) 30 2 (some 0) [] 0 = .error (.err .untrained) :=
  ivf_untrained_search_err toy (init 1 4) 30 2 (some 0) [] 0 rfl
example : step toy none (init 1 4) (.train 3 toyCs) = (init 1 4, some (.err .other)) :=
  ivf_train_too_few_err toy none (init 1 4) 3 toyCs (by decide)
-- … and a fresh index is unchanged by any such history
example : run toy none (init 1 4) [.add 1 12, .train 3 toyCs, .remove 1, .flush] = init 1 4 :=
  ivf_untrained_history toy none 1 4 _ (by
    intro op hop n cs he
    simp only [List.mem_cons, List.not_mem_nil, or_false] at hop
    rcases hop with rfl | rfl | rfl | rfl
    · cases he
    · injection he with h1 _; omega
    · cases he
    · cases he)

end Example

end Comet.IVF
