/-
  C19 — result post-processing obeys its laws.   Part 2: fusion.go, storage_merge.go.

  Property theorems and non-vacuity examples; the lemmas are in CometProofs/Fusion.lean.

  A Go `map[uint32]float64` is a list of (id, score) pairs with
  duplicate-free keys (`NodupKeys`); the order of the list is the order in which Go
  happens to iterate the map.  The fusion statements are through `List.lookup` and are
  quantified over ALL such lists, i.e. they hold for every iteration order; the rank
  maps that reciprocal-rank fusion ranges over again are re-ordered by arbitrary
  permutations (`rv'`, `rt'`).  The operations `o : DOps S` (float64 `+ × ÷ <`) are
  arbitrary: the union / intersection / formula laws hold whatever they return (so
  also for ±Inf and NaN); only "best-first ranking" and "is the maximum" need an order
  (`StrictWeak`, for the merge `Scalar.Ordered`: true of floats without NaN).  Where a modality's scores contain a NaN
  "best-first" is not defined; there only a bijective 0-based ranking is claimed
  (`scoreMapToRanks_bijection`, `fusion_rrf_any_scores`) — and only that is demanded of
  the implementation by the correspondence run.  Purity ("none of them mutates its
  inputs") is trivial for the functional model; for the Go code it is checked by the
  correspondence run (inputs compared before/after every call).
-/
import CometProofs.Fusion
namespace Comet

variable {S : Type}

/-- **Weighted-sum fusion** = `v·w_v + t·w_t` over the union of the ids, a missing side
    omitted; for every iteration order of both maps and any float operations. -/
theorem fusion_weighted_sum (o : DOps S) (wv wt : S) (v t : List (Id × S))
    (hv : NodupKeys v) (ht : NodupKeys t) (id : Id) :
    (wsumFusion o wv wt v t).lookup id =
      match v.lookup id, t.lookup id with
      | some a, some b => some (o.add (o.mul a wv) (o.mul b wt))
      | some a, none => some (o.mul a wv)
      | none, some b => some (o.mul b wt)
      | none, none => none := by
  unfold wsumFusion
  rw [lookup_union_fold (fun a => o.mul a wv) (fun old b => match old with
    | some e => o.add e (o.mul b wt) | none => o.mul b wt) _ (fun c p k => ?_) v t hv ht id]
  · cases v.lookup id <;> cases t.lookup id <;> rfl
  · cases h : c.lookup p.1 <;> exact lookup_aset k p.1 _ c

/-- **Max fusion**: over the union of the ids; with both sides present the text score
    wins iff it is strictly greater. -/
theorem fusion_max (o : DOps S) (v t : List (Id × S))
    (hv : NodupKeys v) (ht : NodupKeys t) (id : Id) :
    (maxFusion o v t).lookup id =
      match v.lookup id, t.lookup id with
      | some a, some b => some (if o.lt a b then b else a)
      | some a, none => some a
      | none, some b => some b
      | none, none => none := by
  unfold maxFusion
  rw [lookup_union_fold (fun a => a) (fun old b => match old with
    | some e => if o.lt e b then b else e | none => b) _ (fun c p k => ?_) v t hv ht id]
  · cases v.lookup id <;> cases t.lookup id <;> rfl
  · exact lookup_mergeStep o.lt c ⟨p.1, p.2⟩ k

/-- **Min fusion**: over the intersection of the ids only; the vector score wins iff
    it is strictly smaller. -/
theorem fusion_min (o : DOps S) (v t : List (Id × S)) (hv : NodupKeys v) (id : Id) :
    (minFusion o v t).lookup id =
      match v.lookup id, t.lookup id with
      | some a, some b => some (if o.lt a b then a else b)
      | _, _ => none := by
  unfold minFusion
  rw [lookup_foldl_range _ (fun p old => match t.lookup p.1 with
        | some ts => some (if o.lt p.2 ts then p.2 else ts) | none => old) ?_ v [] hv id]
  · dsimp only
    cases v.lookup id <;> cases t.lookup id <;> rfl
  · intro c p k
    cases h : t.lookup p.1 with
    | none =>
      dsimp only
      split
      next hk => rw [hk]
      · rfl
    | some ts => dsimp only; split <;> exact lookup_aset k p.1 _ c

/-- the value chosen by max fusion is one of the two scores; for an ordered scalar the
    max (min) choice is not below (above) either -/
theorem fusion_max_min_choice (o : DOps S) (sw : o.StrictWeak) (a b : S) :
    ((if o.lt a b then b else a) = a ∨ (if o.lt a b then b else a) = b) ∧
    o.lt (if o.lt a b then b else a) a = false ∧ o.lt (if o.lt a b then b else a) b = false ∧
    o.lt a (if o.lt a b then a else b) = false ∧ o.lt b (if o.lt a b then a else b) = false := by
  have irrefl : ∀ x, o.lt x x = false := fun x =>
    Bool.eq_false_iff.2 fun h => nomatch h.symm.trans (sw.asymm x x h)
  by_cases h : o.lt a b = true
  · simp [h, irrefl, sw.asymm a b h]
  · have h' : o.lt a b = false := Bool.eq_false_iff.2 h
    simp [h', irrefl]

/-- results are maps again: every id at most once -/
theorem fusion_keys_nodup (o : DOps S) (wv wt K : S) (v t : List (Id × S))
    (rv rt : List (Id × Nat)) :
    NodupKeys (wsumFusion o wv wt v t) ∧ NodupKeys (maxFusion o v t) ∧
    NodupKeys (minFusion o v t) ∧ NodupKeys (rrfFrom o K rv rt) := by
  -- the first loop only assigns; every iteration of the second assigns or leaves the map alone
  unfold wsumFusion maxFusion minFusion rrfFrom
  refine ⟨nodupKeys_foldl _ (fun c p hc => ?_) _ _ (nodupKeys_foldl_aset _ v),
    nodupKeys_foldl _ (fun c p hc => ?_) _ _ (nodupKeys_foldl_aset _ v),
    nodupKeys_foldl _ (fun c p hc => ?_) _ _ nodupKeys_nil,
    nodupKeys_foldl _ (fun c p hc => ?_) _ _ (nodupKeys_foldl_aset _ rv)⟩
  · cases c.lookup p.1 <;> exact nodupKeys_aset _ _ _ hc
  · exact nodupKeys_mergeStep o.lt c ⟨p.1, p.2⟩ hc
  · cases t.lookup p.1 with
    | none => exact hc
    | some e => dsimp only; split <;> exact nodupKeys_aset _ _ _ hc
  · cases c.lookup p.1 <;> exact nodupKeys_aset _ _ _ hc

/-- The three score-based fusions do not depend on the iteration order of the maps. -/
theorem fusion_order_independent (o : DOps S) (wv wt : S) {v v' t t' : List (Id × S)}
    (hv : NodupKeys v) (ht : NodupKeys t) (pv : v.Perm v') (pt : t.Perm t') (id : Id) :
    (wsumFusion o wv wt v t).lookup id = (wsumFusion o wv wt v' t').lookup id ∧
    (maxFusion o v t).lookup id = (maxFusion o v' t').lookup id ∧
    (minFusion o v t).lookup id = (minFusion o v' t').lookup id := by
  have hv' : NodupKeys v' := (nodupKeys_perm pv).1 hv
  have ht' : NodupKeys t' := (nodupKeys_perm pt).1 ht
  rw [fusion_weighted_sum o wv wt v t hv ht, fusion_weighted_sum o wv wt v' t' hv' ht',
    fusion_max o v t hv ht, fusion_max o v' t' hv' ht', fusion_min o v t hv,
    fusion_min o v' t' hv', lookup_perm hv pv id, lookup_perm ht pt id]
  exact ⟨rfl, rfl, rfl⟩

/-- For ANY comparison — also one that is not an order (NaN among the scores) —
    `scoreMapToRanks` returns a bijection onto `0 … n−1`: the ranks are the positions in a
    list that contains every entry of the map exactly once.  (No duplicate
    rank, no missing id; nothing is claimed about where entries are placed.) -/
theorem scoreMapToRanks_bijection (o : DOps S) (m : List (Id × S)) (asc : Bool)
    (hm : NodupKeys m) :
    (rankOrder o m asc).Perm m ∧
    NodupKeys (scoreMapToRanks o m asc) ∧
    ∀ id, (scoreMapToRanks o m asc).lookup id = rankIn id (rankOrder o m asc) := by
  have hperm : (rankOrder o m asc).Perm m := exSort_perm _ _
  have hσ : NodupKeys (rankOrder o m asc) := (nodupKeys_perm hperm).2 hm
  refine ⟨hperm, ?_, ?_⟩
  · unfold scoreMapToRanks
    split
    · exact nodupKeys_nil
    · exact nodupKeys_foldl_aset _ _
  · intro id
    unfold scoreMapToRanks
    split
    · next h0 =>
      have : m = [] := List.eq_nil_of_length_eq_zero (beq_iff_eq.1 h0)
      subst this
      rfl
    · have hk : NodupKeys (rankPairs (rankOrder o m asc)) := by
        unfold NodupKeys; rw [keys_rankPairs]; exact hσ
      rw [lookup_foldl_range _ (fun p _ => some p.2) (fun c p k => lookup_aset k p.1 _ c) _ [] hk id,
        lookup_rankPairs]
      cases rankIn id (rankOrder o m asc) <;> rfl

/-- `scoreMapToRanks` ranks by position in a best-first ordering of the map that is
    consistent with the scores (ascending for distances, descending for relevance),
    whatever the iteration order; ranks are 0-based.  Needs the comparison to be a
    strict weak order (no NaN): otherwise "best-first" is not defined. -/
theorem scoreMapToRanks_spec (o : DOps S) (sw : o.StrictWeak) (m : List (Id × S))
    (asc : Bool) (hm : NodupKeys m) :
    IsRanking o asc m (rankOrder o m asc) ∧
    NodupKeys (scoreMapToRanks o m asc) ∧
    ∀ id, (scoreMapToRanks o m asc).lookup id = rankIn id (rankOrder o m asc) := by
  obtain ⟨hperm, h2, h3⟩ := scoreMapToRanks_bijection o m asc hm
  refine ⟨⟨hperm, exSort_sorted _ (fun a b => ?_) (fun a b c => ?_) m⟩, h2, h3⟩
  · cases h : shouldSwap o asc a b with
    | false => exact .inl rfl
    | true => exact .inr (by cases asc <;> exact sw.asymm _ _ h)
  · cases asc
    · exact fun h1 h2 => sw.negTrans _ _ _ h2 h1
    · exact fun h1 h2 => sw.negTrans _ _ _ h1 h2

/-- Reciprocal-rank fusion in its most general form: for every iteration order of the
    score maps and of the intermediate rank maps, and ANY comparison, the result is
    `Σ 1/(K + rank)` for rankings that list every entry of a modality exactly once
    (0-based); a modality's ranking is best-first whenever the model's exchange sort
    sorts it (`hV`, `hT` — discharged in `fusion_rrf` for every strict weak order). -/
theorem fusion_rrf_general (o : DOps S) (K : S) (v t : List (Id × S))
    (hv : NodupKeys v) (ht : NodupKeys t) (rv' rt' : List (Id × Nat))
    (pv : rv'.Perm (scoreMapToRanks o v true)) (pt : rt'.Perm (scoreMapToRanks o t false))
    (strictV strictT : Bool)
    (hV : strictV = true → BestFirst o true (rankOrder o v true))
    (hT : strictT = true → BestFirst o false (rankOrder o t false)) :
    RRFSpecW o K v t (rrfFrom o K rv' rt') strictV strictT := by
  obtain ⟨rkv, nkv, lkv⟩ := scoreMapToRanks_bijection o v true hv
  obtain ⟨rkt, nkt, lkt⟩ := scoreMapToRanks_bijection o t false ht
  have nv' : NodupKeys rv' := (nodupKeys_perm pv).2 nkv
  have nt' : NodupKeys rt' := (nodupKeys_perm pt).2 nkt
  refine ⟨rankOrder o v true, rankOrder o t false, ⟨rkv, hV⟩, ⟨rkt, hT⟩, ?_⟩
  intro id
  rw [rrfFrom_lookup o K rv' rt' nv' nt' id, lookup_perm nv' pv id, lookup_perm nt' pt id,
    lkv id, lkt id]
  rfl

/-- With unordered scores (NaN) in a modality nothing is promised about the placement:
    reciprocal-rank fusion still is `Σ 1/(K + rank)` for SOME bijective 0-based ranking of
    each modality — any comparison whatsoever, no order hypothesis. -/
theorem fusion_rrf_any_scores (o : DOps S) (K : S) (v t : List (Id × S))
    (hv : NodupKeys v) (ht : NodupKeys t) (rv' rt' : List (Id × Nat))
    (pv : rv'.Perm (scoreMapToRanks o v true)) (pt : rt'.Perm (scoreMapToRanks o t false)) :
    RRFSpecW o K v t (rrfFrom o K rv' rt') false false :=
  fusion_rrf_general o K v t hv ht rv' rt' pv pt false false
    (fun h => by cases h) (fun h => by cases h)

/-- **Reciprocal-rank fusion** assigns `Σ 1/(K + rank)` over the modalities in which the
    id occurs, with 0-based ranks taken best-first within each modality (vector
    ascending, text descending) in SOME ordering consistent with the scores — for every
    iteration order of the score maps (`v`, `t` arbitrary lists) and of the
    intermediate rank maps (`rv'`, `rt'` arbitrary permutations). -/
theorem fusion_rrf (o : DOps S) (sw : o.StrictWeak) (K : S) (v t : List (Id × S))
    (hv : NodupKeys v) (ht : NodupKeys t) (rv' rt' : List (Id × Nat))
    (pv : rv'.Perm (scoreMapToRanks o v true)) (pt : rt'.Perm (scoreMapToRanks o t false)) :
    RRFSpec o K v t (rrfFrom o K rv' rt') :=
  (rrfSpecW_true o K v t _).1 (fusion_rrf_general o K v t hv ht rv' rt' pv pt true true
    (fun _ => (scoreMapToRanks_spec o sw v true hv).1.2)
    (fun _ => (scoreMapToRanks_spec o sw t false ht).1.2))

/-- `fusion_rrf` for the model of `Combine` itself. -/
theorem fusion_rrf_combine (o : DOps S) (sw : o.StrictWeak) (K : S) (v t : List (Id × S))
    (hv : NodupKeys v) (ht : NodupKeys t) : RRFSpec o K v t (rrfFusion o K v t) :=
  fusion_rrf o sw K v t hv ht _ _ (List.Perm.refl _) (List.Perm.refl _)

/-- Ranks are consistent with the scores: in a ranking, an entry that is strictly
    better than another (`shouldSwap worse better = true`) never has a larger rank. -/
theorem ranking_strict (o : DOps S) (asc : Bool) (m σ : List (Id × S)) (h : IsRanking o asc m σ)
    (i j : Nat) (hi : i < σ.length) (hj : j < σ.length)
    (hbetter : shouldSwap o asc σ[j] σ[i] = true) : i ≤ j := by
  rcases Nat.lt_or_ge j i with hlt | hge
  · have := (List.pairwise_iff_getElem.1 h.2) j i hj hi hlt
    rw [this] at hbetter; cases hbetter
  · exact hge

/-- **Merge**: each id once, with the running maximum (`maxScores`, i.e. `if s > best`)
    of its scores in arrival order; ids without results do not appear.  Any scalar. -/
theorem merge_spec (sc : Scalar S) (xs : List (Hit S)) :
    NodupKeys (mergeMap sc.lt xs) ∧
    ∀ id, (mergeMap sc.lt xs).lookup id =
      if scoresOf id xs = [] then none else some (maxScores sc (scoresOf id xs)) := by
  refine ⟨nodupKeys_foldl _ (fun c r => nodupKeys_mergeStep sc.lt c r) _ _ nodupKeys_nil,
    fun id => ?_⟩
  have key : ∀ (xs : List (Hit S)) (m : List (Id × S)),
      (xs.foldl (mergeStep sc.lt) m).lookup id =
      match m.lookup id, scoresOf id xs with
      | some e, ss => some (ss.foldl (maxStep sc) e)
      | none, [] => none
      | none, s :: ss => some (ss.foldl (maxStep sc) s) := by
    intro xs
    induction xs with
    | nil => intro m; rw [List.foldl_nil]; cases m.lookup id <;> rfl
    | cons r xs ih =>
      intro m
      rw [List.foldl_cons, ih, lookup_mergeStep]
      by_cases hr : r.id = id
      · have hs : scoresOf id (r :: xs) = r.score :: scoresOf id xs := by
          simp [scoresOf, hr]
        subst hr
        rw [hs, if_pos rfl]
        cases m.lookup r.id <;> rfl
      · have hs : scoresOf id (r :: xs) = scoresOf id xs := by
          simp [scoresOf, hr]
        rw [hs, if_neg (Ne.symm hr)]
  rw [mergeMap, key xs []]
  cases scoresOf id xs <;> rfl

/-- For an ordered scalar the running maximum of `merge_spec` is the highest score of the id. -/
theorem merge_keeps_highest (sc : Scalar S) (ord : sc.Ordered) (xs : List (Hit S)) (id : Id)
    (s : S) (h : (mergeMap sc.lt xs).lookup id = some s) :
    s ∈ scoresOf id xs ∧ ∀ x ∈ scoresOf id xs, sc.le x s = true := by
  rw [(merge_spec sc xs).2 id] at h
  split at h
  · cases h
  next hne => exact Option.some.inj h ▸ maxScores_spec sc ord _ hne

/-- the returned slice lists each id of the input exactly once (empty input ↦ nil) -/
theorem merge_results_ids (sc : Scalar S) (xs : List (Hit S)) :
    ((mergeResults sc.lt xs).map (·.id)).Nodup ∧
    ∀ i, i ∈ (mergeResults sc.lt xs).map (·.id) ↔ i ∈ xs.map (·.id) := by
  obtain ⟨hn, hl⟩ := merge_spec sc xs
  unfold mergeResults
  split
  · next h0 =>
    have : xs = [] := List.eq_nil_of_length_eq_zero (beq_iff_eq.1 h0)
    subst this
    exact ⟨List.nodup_nil, fun _ => Iff.rfl⟩
  · simp only [List.map_map, Function.comp_def]
    refine ⟨hn, fun i => ?_⟩
    rw [← lookup_isSome_iff i (mergeMap sc.lt xs), hl i, ← scoresOf_ne_nil xs i]
    by_cases he : scoresOf i xs = []
    · rw [if_pos he]; exact ⟨nofun, fun h => absurd he h⟩
    · rw [if_neg he]; exact ⟨fun _ => he, fun _ => rfl⟩

/-- `sortResultsByScore` sorts descending and only permutes. -/
theorem sortResults_desc (sc : Scalar S) (ord : sc.Ordered) (xs : List (Hit S)) :
    (sortResultsByScore sc.le xs).Perm xs ∧
    (sortResultsByScore sc.le xs).Pairwise fun a b => sc.le b.score a.score = true :=
  ⟨List.mergeSort_perm _ _, pairwise_mergeSort_desc sc ord xs⟩

section Examples

def vEx : List (Id × Nat) := [(1, 30), (2, 10), (3, 20)]      -- distances: 2 best
def tEx : List (Id × Nat) := [(3, 5), (4, 9), (2, 5)]         -- relevance: 4 best, 3 and 2 tie

example : NodupKeys vEx ∧ NodupKeys tEx := by decide
-- weighted sum over the union {1,2,3,4}
example : wsumFusion natOps 2 3 vEx tEx = [(1, 60), (2, 35), (3, 55), (4, 27)] := by decide
-- max over the union, min over the intersection {2,3}
example : maxFusion natOps vEx tEx = [(1, 30), (2, 10), (3, 20), (4, 9)] := by decide
example : minFusion natOps vEx tEx = [(2, 5), (3, 5)] := by decide
-- ranks: vector ascending, text descending (tie between 3 and 2 broken by map order)
example : rankOrder natOps vEx true = [(2, 10), (3, 20), (1, 30)] := by decide
example : rankOrder natOps tEx false = [(4, 9), (3, 5), (2, 5)] := by decide
example : scoreMapToRanks natOps tEx false = [(4, 0), (3, 1), (2, 2)] := by decide
-- another iteration order of the same map ranks the tie the other way round
example : scoreMapToRanks natOps [(2, 5), (4, 9), (3, 5)] false = [(4, 0), (2, 1), (3, 2)] := by
  decide
-- RRF with K = 1: 60/(1+rank) summed over the modalities
example : rrfFusion natOps 1 vEx tEx = [(2, 80), (3, 60), (1, 20), (4, 60)] := by decide
-- the hypotheses of `fusion_rrf` are satisfiable by this instance, for a permuted rank map
example : RRFSpec natOps 1 vEx tEx (rrfFrom natOps 1 [(1, 2), (2, 0), (3, 1)] [(2, 2), (3, 1), (4, 0)]) :=
  fusion_rrf natOps natOps_strictWeak 1 vEx tEx (by decide) (by decide) _ _
    (by decide) (by decide)
-- the verified checkers accept a correct answer and reject wrong ones
example : checkRanks natOps false tEx [(2, 1), (3, 2), (4, 0)] = true := by decide
example : checkRanks natOps false tEx [(2, 1), (3, 0), (4, 2)] = false := by decide   -- worst first
example : checkRanks natOps false tEx [(2, 2), (3, 2), (4, 1)] = false := by decide   -- duplicate rank, no rank 0
-- the non-strict checker (a NaN in the modality): any bijection onto 0 … n−1 is accepted,
-- a duplicate / missing / 1-based rank is still rejected; the strict one is `checkRanks`
example : checkRanksW natOps false false tEx [(2, 1), (3, 0), (4, 2)] = true := by decide
example : checkRanksW natOps false false tEx [(2, 2), (3, 2), (4, 1)] = false := by decide
example : checkRanksW natOps false false tEx [(2, 1), (3, 2), (4, 3)] = false := by decide
example : checkRanksW natOps false false tEx [(2, 1), (3, 0)] = false := by decide
example : checkRanksW natOps false true tEx [(2, 1), (3, 0), (4, 2)] = false := by decide
-- merge: duplicates keep the highest score; nothing for an empty input
example : mergeResults (fun a b : Nat => decide (a < b)) [⟨5, 2⟩, ⟨6, 9⟩, ⟨5, 7⟩, ⟨5, 3⟩, ⟨6, 1⟩] = [⟨5, 7⟩, ⟨6, 9⟩] := by
  decide
example : mergeResults (fun a b : Nat => decide (a < b)) ([] : List (Hit Nat)) = [] := by decide

end Examples

end Comet
