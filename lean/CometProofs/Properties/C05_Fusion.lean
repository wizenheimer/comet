/-
  C05 ∘ C19: the hypothesis `KeysUnion` of C05's theorems (the fusion returns only ids of
  one of its inputs) is discharged for the concrete fusion models of fusion.go
  (Comet/Fusion.lean) from C19's union / intersection laws — weighted sum, max, min.
  (For reciprocal-rank fusion `KeysUnion` is not proved: C19 states its result through `RRFSpec`.)
-/
import CometProofs.Properties.C05
import CometProofs.Properties.C19_Fusion
namespace Comet.HybridSearch

variable {S : Type}

theorem mem_ids_iff_lookup (m : List (Id × S)) (i : Id) :
    i ∈ ids m ↔ (m.lookup i).isSome = true :=
  (lookup_isSome_iff i m).symm

theorem keysUnion_of_lookup {c : List (Id × S) → List (Id × S) → List (Id × S)}
    (h : ∀ v t, NodupKeys v → NodupKeys t → ∀ i, v.lookup i = none → t.lookup i = none →
      (c v t).lookup i = none) : KeysUnion c := by
  intro v t hv ht i hi
  rw [mem_ids_iff_lookup] at hi ⊢
  rw [mem_ids_iff_lookup]
  cases h1 : v.lookup i with
  | some => exact Or.inl rfl
  | none =>
    cases h2 : t.lookup i with
    | some => exact Or.inr rfl
    | none =>
      rw [h v t hv ht i h1 h2] at hi
      cases hi

theorem keysUnion_wsum (o : DOps S) (wv wt : S) : KeysUnion (wsumFusion o wv wt) :=
  keysUnion_of_lookup fun v t hv ht i h1 h2 => by
    rw [fusion_weighted_sum o wv wt v t hv ht i, h1, h2]

theorem keysUnion_max (o : DOps S) : KeysUnion (maxFusion o) :=
  keysUnion_of_lookup fun v t hv ht i h1 h2 => by
    rw [fusion_max o v t hv ht i, h1, h2]

/-- min fusion even stays inside the intersection -/
theorem keys_min_inter (o : DOps S) (v t : List (Id × S)) (hv : (ids v).Nodup) (i : Id)
    (hi : i ∈ ids (minFusion o v t)) : i ∈ ids v ∧ i ∈ ids t := by
  rw [mem_ids_iff_lookup, fusion_min o v t hv i] at hi
  rw [mem_ids_iff_lookup, mem_ids_iff_lookup]
  cases h1 : v.lookup i with
  | none =>
    rw [h1] at hi
    cases hi
  | some =>
    cases h2 : t.lookup i with
    | none =>
      rw [h1, h2] at hi
      cases hi
    | some => exact ⟨rfl, rfl⟩

theorem keysUnion_min (o : DOps S) : KeysUnion (minFusion o) :=
  fun v t hv _ i hi => Or.inl (keys_min_inter o v t hv i hi).1

end Comet.HybridSearch
