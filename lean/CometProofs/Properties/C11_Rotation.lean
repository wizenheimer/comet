/-
  C11 (D) — the store's rotation / flush protocol (model: Comet/Conc/Rotation.lean).
  `NoAddFailsOrIsLost locked` is the statement, for either shape of `add`.

  `add_never_fails_or_lost` — full, for the code as it is (22d1a03: memtableQueue.add writes
  while it still holds the queue lock).
  The shape before 22d1a03 (`locked = false`: queue lock released after the pick; model variant,
  defect D15 found by reading, demonstrated by this check with directed schedules):
  witnesses `add_on_frozen_fails`, `add_after_flush_lost`; `former_shape_statement_false` —
  negation; `rotation_partial` (no rotation concurrent with an add) — partial.
-/
import CometProofs.Conc.Rotation
namespace Comet.Conc.Rot

/-- the statement, for a shape of `add` -/
def NoAddFailsOrIsLost (locked : Bool) : Prop :=
  ∀ acts, (rrun locked acts).failed = [] ∧
    ∀ d ∈ (rrun locked acts).acked, visibleDoc (rrun locked acts) d = true

/-- **Partial** (explicit decidable hypothesis `noRotationDuringAdd`; either shape): if no
    rotation — by `Rotate()` or inside another add's pick region — runs while an add is between
    its pick and its write region, then (with any number of flushers at any point) no add fails
    and every acknowledged document is in a memtable of the queue or in a segment. -/
theorem rotation_partial (locked : Bool) (acts : List RAct)
    (h : noRotationDuringAdd locked {} acts = true) :
    (rrun locked acts).failed = [] ∧
      ∀ d ∈ (rrun locked acts).acked, visibleDoc (rrun locked acts) d = true :=
  run_ok (.inr h)

/-- **(D) headline, full strength for the code as it is**: with the queue-locked add, in EVERY
    interleaving of adds (with or without rotation inside), `Rotate()`s and the snapshot /
    segment-write / queue-removal regions of any number of flushers, no add fails and no
    acknowledged document is lost. -/
theorem add_never_fails_or_lost : NoAddFailsOrIsLost true := fun _ => run_ok (.inl rfl)

/-- non-vacuity: the schedule of `add_after_flush_lost` with a second flusher, run with the
    locked add (`pick` is the whole add, `check` / `write` do nothing): the document ends up
    in the segment; two flushers of the same memtable duplicate it, they do not lose it -/
example :
    let s := rrun true [.pick 1 7 false, .check 1, .rotate, .flushSnap 1, .flushSnap 2, .flushWrite 1,
      .flushDrop 1, .flushWrite 2, .flushDrop 2, .write 1]
    s.acked = [7] ∧ s.failed = [] ∧ s.segments = [7, 7] ∧ s.frozenQ = [] ∧ visibleDoc s 7 = true := by
  decide +kernel

/-- thread 1 picks the mutable memtable, thread 2 rotates, thread 1's frozen-check fails -/
theorem add_on_frozen_fails :
    (rrun false [.pick 1 7 false, .rotate, .check 1]).failed = [7] := by decide +kernel

/-- thread 1 picks and passes the frozen-check; thread 2 rotates, snapshots, writes the (empty)
    segment and drops the memtable; thread 1 then writes document 7 into the dropped memtable
    and returns nil: 7 is acknowledged and nowhere -/
theorem add_after_flush_lost :
    let s := rrun false [.pick 1 7 false, .check 1, .rotate, .flushSnap 2, .flushWrite 2, .flushDrop 2, .write 1]
    s.acked = [7] ∧ s.failed = [] ∧ visibleDoc s 7 = false := by decide +kernel

theorem former_shape_statement_false : ¬ NoAddFailsOrIsLost false := fun h =>
  List.cons_ne_nil 7 [] (add_on_frozen_fails.symm.trans (h _).1)

/-- the hypothesis of `rotation_partial` is satisfiable by a non-trivial history of the shape
    `locked = false`: two adds around a rotation and a complete flush -/
example : noRotationDuringAdd false {}
    [.pick 1 7 false, .check 1, .write 1, .pick 2 8 true, .check 2, .write 2, .flushSnap 1,
     .flushWrite 1, .flushDrop 1] = true ∧
    (rrun false [.pick 1 7 false, .check 1, .write 1, .pick 2 8 true, .check 2, .write 2, .flushSnap 1,
      .flushWrite 1, .flushDrop 1]).segments = [7] := by decide +kernel

end Comet.Conc.Rot
