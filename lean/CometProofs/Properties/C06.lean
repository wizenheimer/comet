/-
  C06 — Writes are all-or-nothing, removals are total, and remove+add updates a document.

  Property theorems, the preservation of the invariant `Inv` of CometProofs/Hybrid.lean that
  they rest on (`inv_init`, `inv_step`, `inv_run`), non-vacuity examples.
  Model: Comet/Hybrid.lean (the write path of hybrid_search_index.go over visibility models of
  the sub-indexes; the code with the comet commits "fix: re-adding a soft-deleted id …" and
  "fix: a rejected Add leaves no partial document behind …").  `observe s id` is what searches
  can reveal under `id` in the three modalities.
-/
import CometProofs.Hybrid
namespace Comet.Hybrid

variable {V T M : Type}

/-- A failed Add / AddWithID leaves the WHOLE state untouched (hence every later result). -/
theorem add_fail_unchanged (p : Params V M) (s : State V T M) (id : Id) (d : Doc V T M)
    (h : (addInternal p s id d).2.isSome) : (addInternal p s id d).1 = s := by
  rcases addInternal_cases p s id d with ⟨_, heq⟩ | ⟨_, _, heq⟩
  · exact heq
  · rw [heq] at h; cases h

/-- The same statement is FALSE of `addInternalOld`, addInternal without the up-front validation
    of the second commit: a bad metadata value after a good vector leaves the vector findable. -/
theorem add_old_not_atomic :
    ∃ (p : Params Nat Nat) (s : State Nat Nat Nat) (id : Id) (d : Doc Nat Nat Nat),
      (addInternalOld p s id d).2.isSome ∧ vecVisible (addInternalOld p s id d).1 id ≠ vecVisible s id :=
  ⟨⟨fun v => .ok v, fun m => m != 0⟩, init true true true 0, 7, ⟨some 5, some 1, some 0⟩, by decide⟩

theorem addInternal_info_self (p : Params V M) (s : State V T M) (id : Id) (d : Doc V T M)
    (h : (addInternal p s id d).2 = none) :
    (addInternal p s id d).1.info id =
      some ⟨(addVec p s id d).2.1, (addTxt s id d).2, (addMeta p s id d).2.1⟩ := by
  rcases addInternal_cases p s id d with ⟨he, _⟩ | ⟨_, _, heq⟩
  · rw [h] at he; cases he
  · rw [heq]; exact if_pos rfl

/-- A successful add makes the document findable through every modality it supplied:
    its (preprocessed) vector is the last one visible under the id, its text is THE text
    visible under the id, its metadata entry is the last one visible under the id. -/
theorem add_success_findable (p : Params V M) (s : State V T M) (id : Id) (d : Doc V T M)
    (h : (addInternal p s id d).2 = none) :
    (∀ x v, s.vec = some x → d.vec = some v →
        ∃ v', p.vpre v = .ok v' ∧ vecVisible (addInternal p s id d).1 id = vecVisible s id ++ [v']) ∧
    (∀ x t, s.txt = some x → d.txt = some t → txtVisible (addInternal p s id d).1 id = some t) ∧
    (∀ x m, s.mdx = some x → d.md = some m →
        metaVisible (addInternal p s id d).1 id = metaVisible s id ++ [m]) := by
  rcases addInternal_cases p s id d with ⟨he, _⟩ | ⟨h1, h3, heq⟩
  · rw [h] at he; cases he
  rw [heq]
  refine ⟨fun x v hx hv => ?_, fun x t hx ht => ?_, fun x m hx hm => ?_⟩
  · rw [addVec_eq, hx, hv] at h1
    obtain ⟨v', hv'⟩ := (VecIdx.add_ok_iff p.vpre x id v).1 h1
    refine ⟨v', hv', ?_⟩
    show vecVisible (addVec p s id d).1 id = _
    rw [addVec_eq, hx, hv, vecVisible_of_vec hx]
    exact (VecIdx.visible_add p.vpre x id v v' hv' id).trans (if_pos rfl)
  · show txtVisible (addTxt s id d).1 id = _
    rw [addTxt_eq, hx, ht]
    exact (TxtIdx.visible_add x id t id).trans (if_pos rfl)
  · rw [addMeta_eq, hx, hm] at h3
    show metaVisible (addMeta p s id d).1 id = _
    rw [addMeta_eq, hx, hm, metaVisible_of_mdx hx]
    exact (MetaIdx.visible_add p.mok x id m ((MetaIdx.add_ok_iff p.mok x id m).1 h3) id).trans
      (if_pos rfl)

theorem addInternal_counter (p : Params V M) (s : State V T M) (id : Id) (d : Doc V T M) :
    (addInternal p s id d).1.counter = s.counter := by
  rcases addInternal_cases p s id d with ⟨_, heq⟩ | ⟨_, _, heq⟩ <;> rw [heq]

/-- `Add` (successful or not) returns the counter value after the call, one more than before;
    no other operation changes the counter (`counter_monotone`), so the id was never returned
    before.  (Uniqueness across goroutines is C11's `ids_unique`.) -/
theorem auto_ids_fresh (p : Params V M) (s : State V T M) (d : Doc V T M) :
    (step p s (.add d)).2.id = some (s.counter + 1) ∧
    (step p s (.add d)).1.counter = s.counter + 1 :=
  ⟨rfl, addInternal_counter p _ _ d⟩

/-- Remove of an unknown (never added or already removed) id fails and changes nothing. -/
theorem remove_unknown_noeffect (s : State V T M) (id : Id) (h : s.info id = none) :
    remove s id = (s, some .notFound) := by
  unfold remove; rw [h]

/-- `remove` either fails and changes nothing, or the id was known, the vector sub-index did
    not refuse, and the result is the three sub-removals plus the cleared docInfo entry -/
theorem remove_cases (s : State V T M) (id : Id) :
    ((remove s id).2.isSome ∧ (remove s id).1 = s) ∨
    ∃ inf, s.info id = some inf ∧ (removeVec s id inf).2 = none ∧
      remove s id =
        ({ vec := (removeVec s id inf).1.vec, txt := (removeTxt s id inf).txt,
           mdx := (removeMeta s id inf).mdx, counter := s.counter,
           info := fun j => if j = id then none else s.info j }, none) := by
  cases hi : s.info id with
  | none => rw [remove_unknown_noeffect s id hi]; exact .inl ⟨rfl, rfl⟩
  | some inf =>
    unfold remove
    rw [hi]
    by_cases h1 : (removeVec s id inf).2.isSome = true
    · simp only [if_pos h1]
      exact .inl ⟨h1, removeVec_err s id inf h1⟩
    · refine .inr ⟨inf, rfl, Option.not_isSome_iff_eq_none.1 h1, ?_⟩
      -- no branch fails: through the `_eq` lemmas the nested sub-removals are the stated record
      simp only [removeVec_eq] at h1
      simp only [removeVec_eq, removeTxt_eq, removeMeta_eq, if_neg h1]

theorem remove_fail_unchanged (s : State V T M) (id : Id) (h : (remove s id).2.isSome) :
    (remove s id).1 = s := by
  rcases remove_cases s id with ⟨_, heq⟩ | ⟨_, _, _, heq⟩
  · exact heq
  · rw [heq] at h; cases h

/-- In a consistent state (`Inv`, see `inv_run`) a successful Remove makes the document
    unfindable in ALL modalities at once … -/
theorem remove_total (s : State V T M) (hinv : Inv s) (id : Id) (h : (remove s id).2 = none) :
    observe (remove s id).1 id = ([], none, []) := by
  rcases remove_cases s id with ⟨he, _⟩ | ⟨inf, hi, h1, heq⟩
  · rw [h] at he; cases he
  · have hI := hinv id
    rw [hi] at hI
    rw [heq]
    -- per modality: a sub-removal that runs hides the id itself; an unconfigured sub-index
    -- shows nothing at all; and where the flag is clear the invariant says nothing was findable
    refine Prod.ext ?_ (Prod.ext ?_ ?_)
    · show vecVisible (removeVec s id inf).1 id = []
      rw [removeVec_eq] at h1 ⊢
      exact subOp_reset (fun o => vecVisible { s with vec := o } id) [] (· = none) rfl
        (fun hn => hI.2.1 (flagArg_eq_none.1 hn))
        (fun x _ h => (VecIdx.visible_remove x id h id).trans (if_pos rfl)) h1
    · show txtVisible (removeTxt s id inf) id = none
      rw [removeTxt_eq]
      exact subOp_reset (fun o => txtVisible { s with txt := o } id) none (fun _ => True) rfl
        (fun hn => hI.2.2.1 (flagArg_eq_none.1 hn))
        (fun x _ _ => (TxtIdx.visible_remove x id id).trans (if_pos rfl)) trivial
    · show metaVisible (removeMeta s id inf) id = []
      rw [removeMeta_eq]
      exact subOp_reset (fun o => metaVisible { s with mdx := o } id) [] (fun _ => True) rfl
        (fun hn => hI.2.2.2 (flagArg_eq_none.1 hn))
        (fun x _ _ => (MetaIdx.visible_remove x id id).trans (if_pos rfl)) trivial

/-- … and Remove of a known id always succeeds (it is not refused by a sub-index). -/
theorem remove_known_succeeds (s : State V T M) (hinv : Inv s) (id : Id) (inf : Info)
    (hi : s.info id = some inf) : (remove s id).2 = none := by
  have hI := hinv id
  rw [hi] at hI
  have h1 : (removeVec s id inf).2 = none := by
    rw [removeVec_eq]
    show (subOp (fun x _ => x.remove id) s.vec (flagArg inf.hasVector)).2.2 = none
    rcases subOp_cases (fun x _ => x.remove id) s.vec (flagArg inf.hasVector)
      with ⟨x, _, hx, hf, h'⟩ | ⟨_, h'⟩
    · rw [h']
      apply VecIdx.remove_ok_of_visible
      rw [← vecVisible_of_vec hx]
      exact hI.1 (flagArg_eq_some.1 hf)
    · rw [h']
  unfold remove
  rw [hi]
  simp only [h1, Option.isSome_none, Bool.false_eq_true, if_false]

/-- After a successful Remove the id has no docInfo any more, so a second Remove fails
    without effect (`remove_unknown_noeffect`). -/
theorem remove_clears_info (s : State V T M) (id : Id) (h : (remove s id).2 = none) :
    (remove s id).1.info id = none := by
  rcases remove_cases s id with ⟨he, _⟩ | ⟨_, _, _, heq⟩
  · rw [h] at he; cases he
  · rw [heq]; exact if_pos rfl

theorem remove_counter (s : State V T M) (id : Id) : (remove s id).1.counter = s.counter := by
  rcases remove_cases s id with ⟨_, heq⟩ | ⟨_, _, _, heq⟩ <;> rw [heq]

theorem counter_monotone (p : Params V M) (s : State V T M) (op : Op V T M) :
    s.counter ≤ (step p s op).1.counter := by
  cases op with
  | add d => rw [(auto_ids_fresh p s d).2]; exact Nat.le_succ _
  | addWithID id d => exact Nat.le_of_eq (addInternal_counter p s id d).symm
  | remove id => exact Nat.le_of_eq (remove_counter s id).symm
  | flush => exact Nat.le_refl _

theorem flush_observe (s : State V T M) (j : Id) : observe (flush s) j = observe s j := by
  refine Prod.ext ?_ (Prod.ext ?_ rfl)
  · show vecVisible (flush s) j = vecVisible s j
    unfold flush vecVisible
    cases s.vec with
    | none => rfl
    | some x => exact VecIdx.visible_flush x j
  · show txtVisible (flush s) j = txtVisible s j
    unfold flush txtVisible
    cases s.txt with
    | none => rfl
    | some x => exact TxtIdx.visible_flush x j

theorem inv_init (hv ht hm : Bool) (c : Nat) : Inv (init hv ht hm c : State V T M) := by
  intro j
  refine ⟨?_, ?_, ?_⟩
  · cases hv <;> rfl
  · cases ht <;> rfl
  · cases hm <;> rfl

/-- observations of ids other than the target are untouched by Remove -/
theorem remove_other (s : State V T M) (id j : Id) (hj : j ≠ id) :
    observe (remove s id).1 j = observe s j ∧ (remove s id).1.info j = s.info j := by
  rcases remove_cases s id with ⟨_, heq⟩ | ⟨inf, _, _, heq⟩
  · rw [heq]; exact ⟨rfl, rfl⟩
  · rw [heq]
    refine ⟨?_, if_neg hj⟩
    show (vecVisible (removeVec s id inf).1 j, txtVisible (removeTxt s id inf) j,
      metaVisible (removeMeta s id inf) j) = _
    rw [removeVec_eq, removeTxt_eq, removeMeta_eq]
    exact Prod.ext
      (subOp_obs (fun o => vecVisible { s with vec := o } j)
        fun x _ => VecIdx.visible_remove_ne x id j hj)
      (Prod.ext
        (subOp_obs (fun o => txtVisible { s with txt := o } j)
          fun x _ => (TxtIdx.visible_remove x id j).trans (if_neg hj))
        (subOp_obs (fun o => metaVisible { s with mdx := o } j)
          fun x _ => (MetaIdx.visible_remove x id j).trans (if_neg hj)))

/-- the invariant at `j` only depends on what is observable under `j` and on `j`'s docInfo -/
theorem inv_congr {s s' : State V T M} (h : Inv s) (j : Id)
    (hj : observe s' j = observe s j ∧ s'.info j = s.info j) :
    match s'.info j with
    | none => vecVisible s' j = [] ∧ txtVisible s' j = none ∧ metaVisible s' j = []
    | some inf =>
        (inf.hasVector = true → vecVisible s' j ≠ []) ∧
        (inf.hasVector = false → vecVisible s' j = []) ∧
        (inf.hasText = false → txtVisible s' j = none) ∧
        (inf.hasMeta = false → metaVisible s' j = []) := by
  obtain ⟨ho, hi⟩ := hj
  simp only [observe, Prod.mk.injEq] at ho
  rw [hi, ho.1, ho.2.1, ho.2.2]
  exact h j

theorem inv_flush (s : State V T M) (h : Inv s) : Inv (flush s) := by
  intro j
  exact inv_congr h j ⟨flush_observe s j, rfl⟩

theorem inv_remove (s : State V T M) (h : Inv s) (id : Id) : Inv (remove s id).1 := by
  cases hok : (remove s id).2 with
  | some e => rw [remove_fail_unchanged s id (by rw [hok]; rfl)]; exact h
  | none =>
    intro j
    by_cases hj : j = id
    · subst hj
      rw [remove_clears_info s j hok]
      have := remove_total s h j hok
      simp only [observe, Prod.mk.injEq] at this
      exact this
    · exact inv_congr h j (remove_other s id j hj)

/-- observations of ids other than the target are untouched by Add / AddWithID -/
theorem add_other (p : Params V M) (s : State V T M) (id : Id) (d : Doc V T M) (j : Id)
    (hj : j ≠ id) :
    observe (addInternal p s id d).1 j = observe s j ∧
    (addInternal p s id d).1.info j = s.info j := by
  rcases addInternal_cases p s id d with ⟨_, heq⟩ | ⟨_, _, heq⟩
  · rw [heq]; exact ⟨rfl, rfl⟩
  · rw [heq]
    refine ⟨?_, if_neg hj⟩
    show (vecVisible (addVec p s id d).1 j, txtVisible (addTxt s id d).1 j,
      metaVisible (addMeta p s id d).1 j) = _
    rw [addVec_eq, addTxt_eq, addMeta_eq]
    exact Prod.ext
      (subOp_obs (fun o => vecVisible { s with vec := o } j)
        fun x v => VecIdx.visible_add_ne p.vpre x id v j hj)
      (Prod.ext
        (subOp_obs (fun o => txtVisible { s with txt := o } j)
          fun x t => (TxtIdx.visible_add x id t j).trans (if_neg hj))
        (subOp_obs (fun o => metaVisible { s with mdx := o } j)
          fun x m => MetaIdx.visible_add_ne p.mok x id m j hj))

theorem inv_add (p : Params V M) (s : State V T M) (hinv : Inv s) (id : Id) (d : Doc V T M)
    (hfree : s.info id = none) : Inv (addInternal p s id d).1 := by
  rcases addInternal_cases p s id d with ⟨_, heq⟩ | ⟨_, _, heq⟩
  · rw [heq]; exact hinv
  have hok : (addInternal p s id d).2 = none := by rw [heq]
  intro j
  by_cases hj : j = id
  · subst hj
    have hI := hinv j
    rw [hfree] at hI
    rw [addInternal_info_self p s j d hok]
    -- a set flag: `add_success_findable`; a clear flag: the sub-add did not run, and nothing
    -- was findable before
    refine ⟨fun hflag => ?_, fun hflag => ?_, fun hflag => ?_, fun hflag => ?_⟩
    · obtain ⟨x, v, hx, hv⟩ := (addVec_flag p s j d).1 hflag
      obtain ⟨v', -, hvis⟩ := (add_success_findable p s j d hok).1 x v hx hv
      rw [hvis]
      exact List.append_ne_nil_of_right_ne_nil _ (List.cons_ne_nil _ _)
    · rw [heq]
      show vecVisible (addVec p s j d).1 j = []
      rw [addVec_eq] at hflag ⊢
      rw [subOp_not_flag hflag]
      exact hI.1
    · rw [heq]
      show txtVisible (addTxt s j d).1 j = none
      rw [addTxt_eq] at hflag ⊢
      rw [subOp_not_flag hflag]
      exact hI.2.1
    · rw [heq]
      show metaVisible (addMeta p s j d).1 j = []
      rw [addMeta_eq] at hflag ⊢
      rw [subOp_not_flag hflag]
      exact hI.2.2
  · exact inv_congr hinv j (add_other p s id d j hj)

/-- Re-adding (or first adding) an id that has no docInfo: afterwards exactly the new
    content is findable under the id — the new vector alone, the new text, the new
    metadata entry alone; a modality that was not supplied (or is not configured) shows
    nothing.  With `flush_observe` this holds both before and after a flush, and with
    `remove_total`/`remove_clears_info` it is the "update = remove + add" clause. -/
theorem readd_visible (p : Params V M) (s : State V T M) (hinv : Inv s) (id : Id)
    (d : Doc V T M) (hfree : s.info id = none) (hok : (addInternal p s id d).2 = none) :
    (vecVisible (addInternal p s id d).1 id =
        match s.vec, d.vec with
        | some _, some v => (match p.vpre v with | .ok v' => [v'] | .error _ => [])
        | _, _ => []) ∧
    (txtVisible (addInternal p s id d).1 id =
        match s.txt, d.txt with
        | some _, some t => some t
        | _, _ => none) ∧
    (metaVisible (addInternal p s id d).1 id =
        match s.mdx, d.md with
        | some _, some m => [m]
        | _, _ => []) := by
  have hI := hinv id
  rw [hfree] at hI
  have hfind := add_success_findable p s id d hok
  -- a modality that was not supplied or is not configured has its flag clear, and the
  -- invariant of the new state says it shows nothing
  have hI' := inv_add p s hinv id d hfree id
  rw [addInternal_info_self p s id d hok] at hI'
  refine ⟨?_, ?_, ?_⟩
  · cases hx : s.vec with
    | none => exact hI'.2.1 (by rw [addVec_eq, subOp_none (.inl hx)])
    | some x =>
      cases hd : d.vec with
      | none => exact hI'.2.1 (by rw [addVec_eq, subOp_none (.inr hd)])
      | some v =>
        obtain ⟨v', hv', hvis⟩ := hfind.1 x v hx hd
        rw [hvis, hI.1]
        simp only [hv']
        rfl
  · cases hx : s.txt with
    | none => exact hI'.2.2.1 (by rw [addTxt_eq, subOp_none (.inl hx)])
    | some x =>
      cases hd : d.txt with
      | none => exact hI'.2.2.1 (by rw [addTxt_eq, subOp_none (.inr hd)])
      | some t => exact hfind.2.1 x t hx hd
  · cases hx : s.mdx with
    | none => exact hI'.2.2.2 (by rw [addMeta_eq, subOp_none (.inl hx)])
    | some x =>
      cases hd : d.md with
      | none => exact hI'.2.2.2 (by rw [addMeta_eq, subOp_none (.inr hd)])
      | some m => rw [hfind.2.2 x m hx hd, hI.2.2]; rfl

/-- the quantifier of C06: an id is (re)used for an add only while it has no docInfo,
    i.e. it was never added or has been removed since -/
def StepOK (s : State V T M) : Op V T M → Prop
  | .add _ => s.info (s.counter + 1) = none
  | .addWithID id _ => s.info id = none
  | _ => True

def RunOK (p : Params V M) : State V T M → List (Op V T M) → Prop
  | _, [] => True
  | s, op :: t => StepOK s op ∧ RunOK p (step p s op).1 t

theorem inv_step (p : Params V M) (s : State V T M) (hinv : Inv s) (op : Op V T M)
    (hok : StepOK s op) : Inv (step p s op).1 := by
  cases op with
  | add d => exact inv_add p { s with counter := s.counter + 1 } hinv (s.counter + 1) d hok
  | addWithID id d => exact inv_add p s hinv id d hok
  | remove id => exact inv_remove s hinv id
  | flush => exact inv_flush s hinv

/-- every state reachable by a history within C06's quantifier is consistent -/
theorem inv_run (p : Params V M) (s : State V T M) (hinv : Inv s) (ops : List (Op V T M))
    (hok : RunOK p s ops) : Inv (run p s ops) := by
  induction ops generalizing s with
  | nil => exact hinv
  | cons op t ih =>
    simp only [run, List.foldl_cons]
    exact ih (step p s op).1 (inv_step p s hinv op hok.1) hok.2

/-- which id an op (re)adds, if any -/
def addTarget (s : State V T M) : Op V T M → Option Id
  | .add _ => some (s.counter + 1)
  | .addWithID id _ => some id
  | _ => none

def NoAddOf (p : Params V M) (id : Id) : State V T M → List (Op V T M) → Prop
  | _, [] => True
  | s, op :: t => addTarget s op ≠ some id ∧ NoAddOf p id (step p s op).1 t

/-- an id without docInfo gets none from an operation that does not add it -/
theorem free_step (p : Params V M) (s : State V T M) (id : Id) (hfree : s.info id = none)
    (op : Op V T M) (hno : addTarget s op ≠ some id) : (step p s op).1.info id = none := by
  cases op with
  | add d =>
    exact (add_other p _ _ d id fun h => hno (h ▸ rfl)).2.trans hfree
  | addWithID i d =>
    exact (add_other p s i d id fun h => hno (h ▸ rfl)).2.trans hfree
  | remove i =>
    show (remove s i).1.info id = none
    by_cases hi : id = i
    · rw [← hi, remove_unknown_noeffect s id hfree]; exact hfree
    · exact (remove_other s i id hi).2.trans hfree
  | flush => exact hfree

/-- … nor from a history that does not add it (whatever else the history does) -/
theorem free_run (p : Params V M) (id : Id) (ops : List (Op V T M)) (s : State V T M)
    (hfree : s.info id = none) (hno : NoAddOf p id s ops) : (run p s ops).info id = none := by
  induction ops generalizing s with
  | nil => exact hfree
  | cons op t ih => exact ih (step p s op).1 (free_step p s id hfree op hno.1) hno.2

/-- "… immediately and for good": once an id has no docInfo (never added, or removed) it
    stays unfindable in every modality through any later history within the quantifier
    (`RunOK`) that does not add it again — flushes, other adds and other removals included. -/
theorem removed_stays_unfindable (p : Params V M) (s : State V T M) (hinv : Inv s) (id : Id)
    (hfree : s.info id = none) (ops : List (Op V T M)) (hok : RunOK p s ops)
    (hno : NoAddOf p id s ops) :
    observe (run p s ops) id = ([], none, []) ∧ (run p s ops).info id = none := by
  have hf := free_run p id ops s hfree hno
  have hI := inv_run p s hinv ops hok id
  rw [hf] at hI
  exact ⟨Prod.ext hI.1 (Prod.ext hI.2.1 hI.2.2), hf⟩

/-! ## each sub-index model on its own: remove + add replaces (vector, text: with or without a
    flush between and after) -/

theorem vec_readd_visible (vpre : V → Except Err V) (x : VecIdx V) (id : Id) (v v' : V)
    (hr : (x.remove id).2 = none) (hv : vpre v = .ok v') (flushBetween flushAfter : Bool) :
    let x1 := (x.remove id).1
    let x2 := if flushBetween then x1.flush else x1
    let x3 := (x2.add vpre id v).1
    let x4 := if flushAfter then x3.flush else x3
    (x2.add vpre id v).2 = none ∧ x4.visible id = [v'] := by
  intro x1 x2 x3 x4
  have h1 : x1.visible id = [] := (VecIdx.visible_remove x id hr id).trans (if_pos rfl)
  have h2 : x2.visible id = [] := by
    cases flushBetween
    · exact h1
    · exact (VecIdx.visible_flush x1 id).trans h1
  refine ⟨(VecIdx.add_ok_iff vpre x2 id v).2 ⟨v', hv⟩, ?_⟩
  have h3 : x3.visible id = [v'] := by
    rw [VecIdx.visible_add vpre x2 id v v' hv id, if_pos rfl, h2]; rfl
  cases flushAfter
  · exact h3
  · exact (VecIdx.visible_flush x3 id).trans h3

theorem txt_readd_visible (x : TxtIdx T) (id : Id) (t : T) (flushBetween flushAfter : Bool) :
    let x1 := x.remove id
    let x2 := if flushBetween then x1.flush else x1
    let x3 := x2.add id t
    let x4 := if flushAfter then x3.flush else x3
    x4.visible id = some t := by
  intro x1 x2 x3 x4
  have h3 : x3.visible id = some t := (TxtIdx.visible_add x2 id t id).trans (if_pos rfl)
  cases flushAfter
  · exact h3
  · exact (TxtIdx.visible_flush x3 id).trans h3

theorem meta_readd_visible (mok : M → Bool) (x : MetaIdx M) (id : Id) (m : M) (hm : mok m = true) :
    (((x.remove id).add mok id m).1).visible id = [m] ∧ ((x.remove id).add mok id m).2 = none := by
  refine ⟨?_, (MetaIdx.add_ok_iff mok _ id m).2 hm⟩
  rw [MetaIdx.visible_add mok (x.remove id) id m hm id, if_pos rfl, MetaIdx.visible_remove x id id,
    if_pos rfl]
  rfl

/-- metadata Add is atomic on its own: a rejected node changes nothing -/
theorem meta_add_fail_unchanged (mok : M → Bool) (x : MetaIdx M) (id : Id) (m : M)
    (h : (x.add mok id m).2.isSome) : (x.add mok id m).1 = x :=
  MetaIdx.add_err mok x id m h

/-! ## non-vacuity: a concrete history inside the quantifier (add, failing add, remove,
    re-add with a flush between) and what is observable afterwards -/
section Example
def exP : Params Nat Nat := ⟨fun v => if v = 0 then .error .zero else .ok (v * 10), fun m => m != 0⟩
def exOps : List (Op Nat String Nat) :=
  [.addWithID 7 ⟨some 1, some "a", some 5⟩,      -- ok
   .addWithID 8 ⟨some 0, some "b", some 5⟩,      -- vector rejected (1st sub-index)
   .addWithID 9 ⟨some 2, some "c", some 0⟩,      -- metadata rejected (up-front validation)
   .remove 7, .flush,
   .addWithID 7 ⟨some 3, none, some 6⟩,          -- update = remove + add, text dropped
   .add ⟨some 4, some "d", none⟩]                 -- auto id 1

instance (s : State V T M) (op : Op V T M) : Decidable (StepOK s op) := by
  cases op <;> simp only [StepOK] <;> infer_instance

instance decRunOK (p : Params V M) : (s : State V T M) → (ops : List (Op V T M)) →
    Decidable (RunOK p s ops)
  | _, [] => isTrue trivial
  | s, op :: t => by
    simp only [RunOK]
    exact @instDecidableAnd _ _ _ (decRunOK p _ t)

example : RunOK exP (init true true true 0) exOps := by decide
example : Inv (run exP (init true true true 0) exOps) :=
  inv_run exP _ (inv_init true true true 0) exOps (by decide)
example : observe (run exP (init true true true 0) exOps) 7 = ([30], none, [6]) := rfl
example : observe (run exP (init true true true 0) exOps) 8 = ([], none, []) := rfl
example : observe (run exP (init true true true 0) exOps) 9 = ([], none, []) := rfl
example : observe (run exP (init true true true 0) exOps) 1 = ([40], some "d", []) := rfl
end Example

end Comet.Hybrid
