/-
  C08 — an acknowledged write to the persistent store stays visible; no search returns
  an id that was never added.

  Property theorems, their witnesses and non-vacuity examples (model: Comet/Storage/*.lean,
  helpers: CometProofs/Storage/*.lean). `Reach cfg s` = every state producible by any sequence of
  client steps, worker steps (flush worker: wake / final round after Close / listFrozen /
  write+register / drop memtable; compaction worker: wake / exit after Close / list / load each
  source / write / swap+delete),
  close–reopen cycles and crashes; a search carries its own schedule of segment events
  (`load i` / `scan i` in any order), so "every interleaving" is "every step sequence
  and every schedule".

  Status.
  * `store_no_phantom`: FULL.
  * visibility: the full statement `StoreVisible` is FALSE for the code as it is (D13, D14);
    negations from concrete witnesses replayed on the real code on every run (corpus/C08):
    `store_lost_after_segment_load`, `store_compaction_loses`. Partial:
    `store_visible_partial` — for every history, interleaving and schedule in which no
    segment load replaced shared content that held a live document the loaded segment lacks
    (`Ghost.loadLost = false`, a decidable predicate of the trace).
  * third sentence (vector-only answers = id set of an in-memory index over the live
    documents): ⊇ is `store_visible_partial`; ⊆ splits into `store_no_phantom` (full) and
    "no removed document is returned", whose full statement `StoreNoRemovedReturned` is
    FALSE (`store_removed_revived`, D13); its partial form is checked by the correspondence
    run only (predicate `exact` of the driver), not proved.
-/
import CometProofs.Storage.Spec
import CometProofs.Storage.Phantom
namespace Comet.Storage

/-! ## no phantom ids (full) -/

/-- FULL. In every reachable state, under every schedule of the segment goroutines, every id
    a search returns was acknowledged by an earlier Add / AddWithID. -/
theorem store_no_phantom {cfg : Cfg} {s : Store} (h : Reach cfg s) (q : Q) (sched : List SegEv)
    (l : List Id) (hr : (exec s (.search q sched)).2 = .ids l) :
    ∀ i ∈ l, ∃ d ∈ s.gh.acked, d.id = i :=
  search_result_acked (phInv_reach h) hr

/-! ## visibility -/

/-- FULL statement: in every reachable state of an open store, under every schedule, every
    document acknowledged by this store instance and not removed since is returned by a probe
    of every modality it carries. -/
def StoreVisible : Prop :=
  ∀ (cfg : Cfg) (s : Store), Reach cfg s → running s = true →
    ∀ (q : Q) (sched : List SegEv), ∀ d ∈ s.gh.sess, Doc.matches s.cfg.tpl d q = true → found s q sched d

/-- PARTIAL. For every history, interleaving with the background workers, and schedule of the
    segment goroutines in which no segment load has replaced shared content holding a live
    document that the loaded segment lacks (`loadLost = false`): every document acknowledged by
    this store instance and not removed is returned by every probe it matches. -/
theorem store_visible_partial {cfg : Cfg} {s : Store} (h : Reach cfg s) (hr : running s = true)
    (hl : s.gh.loadLost = false) (q : Q) (sched : List SegEv) (d : Doc) (hd : d ∈ s.gh.sess)
    (hm : Doc.matches s.cfg.tpl d q = true) : found s q sched d := by
  have inv := visInv_reach h
  exact found_of_covered hr (inv.mtsNe (running_opened hr)) (inv.cov hl d hd) hm sched

def cfgTiny : Cfg := ⟨⟨true, true, true⟩, 1, 209715200, 2⟩
def cfgBig : Cfg := ⟨⟨true, true, true⟩, 104857600, 209715200, 2⟩
def docA : Doc := ⟨1, 3, 6, 2⟩
def docB : Doc := ⟨2, 3, 6, 2⟩
def docC : Doc := ⟨3, 3, 6, 2⟩

/-- a trace after which the store is open, `c` is a document of the session matching the vector probe,
    and a serialised vector search answers without it, refutes the full statement -/
theorem not_visible_of_run (cfg : Cfg) (steps : List Step) (order : List Nat) (l : List Id) (hl : docC.id ∉ l)
    (w : let s := run (Store.init cfg) steps
      running s = true ∧ docC ∈ s.gh.sess ∧ Doc.matches s.cfg.tpl docC .vec = true ∧
      (exec s (.search .vec (serialSched order))).2 = .ids l) : ¬ StoreVisible := fun h =>
  not_found w.2.2.2 hl (h cfg _ (reach_run _ _) w.1 .vec _ docC w.2.1 w.2.2.1)

/-- D13 witness (corpus/C08/store_d13_lost_after_segment_load.json): memtable limit 1; add a; add b;
    Flush; add c; search (loads segments 1 and 2 over the shared templates) -/
def traceLost : List Step :=
  [.add docA, .add docB, .flush, .add docC, .search .vec (serialSched [1, 2])]

/-- NEGATION (D13): the vector search of the trace returns {a,b,c}, the same search repeated returns
    {a,b}; `c`, acknowledged and never removed, is lost after the first one. -/
theorem store_lost_after_segment_load : ¬ StoreVisible :=
  not_visible_of_run cfgTiny traceLost [1, 2] [1, 2] (by decide) (by decide +kernel)

/-- the first search still sees `c` (memtables are searched before segments) -/
example : (exec (run (Store.init cfgTiny) [.add docA, .add docB, .flush, .add docC])
    (.search .vec (serialSched [1, 2]))).2 = .ids [1, 2, 3] := by decide +kernel

/-- D14 witness (corpus/C08/store_d14_compaction_loses.json): threshold 2; add a; rotate; Flush;
    add b; rotate; Flush; add c; TriggerCompaction; the worker wakes, lists, loads its two sources
    over the shared templates, writes what they hold now, swaps and deletes -/
def traceCompaction : List Step :=
  [.add docA, .rotate, .flush, .add docB, .rotate, .flush, .add docC, .trigger,
   .bg .cwake, .bg .clist, .bg .cload, .bg .cload, .bg .cwrite, .bg .cswap]

/-- NEGATION (D14): after the compaction `c` — acknowledged, never removed, no search ran before —
    is not returned; the merged segment 3 holds {a, b} and the sources are gone. -/
theorem store_compaction_loses : ¬ StoreVisible :=
  not_visible_of_run cfgBig traceCompaction [3] [1, 2] (by decide) (by decide +kernel)

example : (run (Store.init cfgBig) traceCompaction).segs = [⟨3, false⟩] ∧
    FS.segIds (run (Store.init cfgBig) traceCompaction).fs = [3, 3, 3, 3] ∧
    (run (Store.init cfgBig) traceCompaction).gh.compacted = true := by decide +kernel

/-! ## vector-only answers contain no removed document -/

/-- FULL statement (⊆-half of the third sentence, beyond `store_no_phantom`): a vector-only
    probe never returns a document whose Remove returned nil (ids are not re-added). -/
def StoreNoRemovedReturned : Prop :=
  ∀ (cfg : Cfg) (s : Store), Reach cfg s → s.gh.readded = false →
    ∀ (sched : List SegEv) (l : List Id), (exec s (.search .vec sched)).2 = .ids l →
      ∀ i ∈ l, i ∉ s.gh.removed

/-- D13 witness (corpus/C08/store_d13_removed_revived.json): rotate (an empty frozen memtable);
    add a; Flush — the empty memtable's segment holds the whole shared content, a included;
    Remove a = nil -/
def traceRevived : List Step := [.rotate, .add docA, .flush, .remove 1]

/-- NEGATION (D13): the next vector search loads that segment over the templates and returns `a`. -/
theorem store_removed_revived : ¬ StoreNoRemovedReturned := by
  intro h
  have w : let s := run (Store.init cfgBig) traceRevived
      s.gh.readded = false ∧ (exec s (.search .vec (serialSched [1]))).2 = .ids [1] ∧ 1 ∈ s.gh.removed := by
    decide +kernel
  exact h cfgBig _ (reach_run _ _) w.1 _ [1] w.2.1 1 (List.mem_singleton.mpr rfl) w.2.2

/-! ## non-vacuity of the partial theorem -/

/-- a history with a background flush taken step by step, a search while the memtable and its
    segment coexist, an eviction and a reload: `loadLost` stays false and everything is found -/
example :
    let cfg : Cfg := ⟨⟨true, true, true⟩, 300, 64, 5⟩
    let s := run (Store.init cfg)
      [.add docA, .bg .fwake, .add docB, .bg .flist, .bg .fwrite, .search .vec (serialSched [1]),
       .bg .fremove, .bg .fwake, .bg .flist, .evict, .search .txt (serialSched [1])]
    running s = true ∧ s.gh.loadLost = false ∧ s.gh.sess = [docB, docA] ∧ s.segs = [⟨1, true⟩] ∧
    (exec s (.search .md (serialSched [1]))).2 = .ids [1, 2] := by decide +kernel

end Comet.Storage
