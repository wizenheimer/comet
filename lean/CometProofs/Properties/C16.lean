/-
  C16 — truncated or mismatched serialised data is rejected, never half-accepted.

  Models: Comet/Codec/* (the decoders of C07); helper lemmas: CometProofs/Codec/*.

  `K.decodeC bm p inp` is `ReadFrom` of a fresh receiver of kind `K`
  constructed with parameters `p`, applied to the byte stream `inp` (everything the
  reader will ever deliver: a truncated file IS its prefix); `.error e` is "ReadFrom
  returned an error", `IsErr x` is "some error".  The decoders are total functions,
  structurally recursive on counts they have read (`CP.repeat`), and a Go panic is an
  explicit `Err.panic` outcome: totality is the model-level "never hangs, never
  panics".  `bm` (roaring's blob codec) is a parameter; no hypothesis about it is
  needed for rejection except where a round trip is quoted.

  Segment clause: a segment is loaded by `hybridSearchIndex.ReadFrom` over the
  concatenation of its four (gunzipped) component files; a truncated / empty / missing
  component ends that concatenation early, i.e. the reader delivers a strict prefix of
  the valid concatenation (`segment_component_truncated_rejected`).  That gzip delivers
  a prefix followed by an error, that `getIndex` then caches nothing, and what a search
  over the store returns afterwards are checked on the real code by the correspondence
  stream `trunc` (see the manifest text for the shared-template finding D13).
-/
import CometProofs.Codec.Mismatch
import CometProofs.Properties.C07
import CometProofs.Codec.Example
namespace Comet.Codec.C16
open Comet.Codec

variable (bm : BlobCodec) (dom : List Nat → Prop)

/-! ## combinator level -/

/-- `Good` gives `Stable` (appended bytes are ignored) and `Strict` (every strict prefix fails) -/
theorem good_stable_strict {α : Type} {p : Parser α} (h : Good p) : Stable p ∧ Strict p :=
  ⟨h.stable, h.strict⟩

/-- … holds for the primitives -/
theorem primitives_good (n : Nat) :
    Good (bytes n) ∧ Good u8 ∧ Good u32le ∧ Good i32le ∧ Good u64le ∧ Good f32bits ∧
    Good f64bits ∧ Good lenPrefixedBytes :=
  ⟨Good.bytes n, Good.u8, Good.u32le, Good.i32le, Good.u64le, Good.f32bits, Good.f64bits,
   Good.lenPrefixedBytes⟩

/-- … and is preserved by bind, repeat, guard / equality checks and if -/
theorem bind_good {α β : Type} {p : Parser α} {f : α → Parser β} (hp : Good p)
    (hf : ∀ a, Good (f a)) : Good (p.bind f) := Good.bind hp hf
theorem repeat_good {α : Type} (n : Nat) {p : Parser α} (hp : Good p) : Good («repeat» n p) :=
  Good.repeat n hp
theorem guard_good (c : Bool) (e : Err) : Good (guard c e) := Good.guard c e
theorem eqCheck_good {α : Type} [BEq α] (x want : α) (e : Err) : Good (eqCheck x want e) :=
  Good.eqCheck x want e
theorem ite_good {α : Type} {c : Prop} [Decidable c] {p q : Parser α} (hp : Good p) (hq : Good q) :
    Good (if c then p else q) := Good.ite hp hq

/-- every decoder of the eight kinds is `Good`, hence `Stable` and `Strict` -/
theorem decoders_good (r : Recv) : Good (r.decodeC bm) := by
  cases r <;> simp only [Recv.decodeC] <;> exact Sound.good

/-! ## every strict prefix of a valid stream is rejected -/

theorem strict_prefix_rejected_flat (hbm : bm.Lawful dom) (h0 : dom []) (s : Flat.State)
    (hwf : Flat.wf s = true) (n : Nat) (hn : n < (Flat.encode bm s).length) :
    IsErr (Flat.decode bm s.params ((Flat.encode bm s).take n)) :=
  strict_prefix_run (Flat.reads_encode bm dom hbm h0 s hwf) n hn

theorem strict_prefix_rejected_hnsw (hbm : bm.Lawful dom) (h0 : dom []) (s : HNSW.State)
    (hwf : HNSW.wf s = true) (n : Nat) (hn : n < (HNSW.encode bm s).length) :
    IsErr (HNSW.decode bm s.params ((HNSW.encode bm s).take n)) :=
  strict_prefix_run (HNSW.reads_encode bm dom hbm h0 s hwf) n hn

theorem strict_prefix_rejected_ivf (hbm : bm.Lawful dom) (h0 : dom []) (s : IVF.State)
    (hwf : IVF.wf s = true) (n : Nat) (hn : n < (IVF.encode bm s).length) :
    IsErr (IVF.decode bm s.params ((IVF.encode bm s).take n)) :=
  strict_prefix_run (IVF.reads_encode bm dom hbm h0 s hwf) n hn

theorem strict_prefix_rejected_pq (hbm : bm.Lawful dom) (h0 : dom []) (s : PQ.State)
    (hwf : PQ.wf s = true) (n : Nat) (hn : n < (PQ.encode bm s).length) :
    IsErr (PQ.decode bm s.params ((PQ.encode bm s).take n)) :=
  strict_prefix_run (PQ.reads_encode bm dom hbm h0 s hwf) n hn

theorem strict_prefix_rejected_ivfpq (hbm : bm.Lawful dom) (h0 : dom []) (s : IVFPQ.State)
    (hwf : IVFPQ.wf s = true) (n : Nat) (hn : n < (IVFPQ.encode bm s).length) :
    IsErr (IVFPQ.decode bm s.params ((IVFPQ.encode bm s).take n)) :=
  strict_prefix_run (IVFPQ.reads_encode bm dom hbm h0 s hwf) n hn

theorem strict_prefix_rejected_bm25 (avg : Nat → Nat → Nat)
    (havg : ∀ t n, avg t n < 18446744073709551616) (hbm : bm.Lawful dom) (s : BM25.State)
    (hwf : BM25.wf s = true) (hdom : ∀ b ∈ BM25.bitmaps (BM25.flush avg s), dom b)
    (n : Nat) (hn : n < (BM25.encode avg bm s).length) :
    IsErr (BM25.decode bm ((BM25.encode avg bm s).take n)) :=
  strict_prefix_run (BM25.reads_encode avg havg bm dom hbm s hwf hdom) n hn

theorem strict_prefix_rejected_meta (hbm : bm.Lawful dom) (hne : Meta.NonEmpty bm dom)
    (s : Meta.State) (hwf : Meta.wf s = true) (hdom : ∀ b ∈ Meta.bitmaps s, dom b)
    (n : Nat) (hn : n < (Meta.encode bm s).length) :
    IsErr (Meta.decode bm ((Meta.encode bm s).take n)) :=
  strict_prefix_run (Meta.reads_encode bm dom hbm hne s hwf hdom) n hn

/-- hybrid, in the form `ReadFrom` sees it: the concatenation of the four streams -/
theorem strict_prefix_rejected_hybrid (avg : Nat → Nat → Nat)
    (havg : ∀ t n, avg t n < 18446744073709551616) (hbm : bm.Lawful dom)
    (hne : Meta.NonEmpty bm dom) (s : Hybrid.State) (hwf : Hybrid.wf s = true)
    (hdom : ∀ b ∈ Hybrid.bitmaps (Hybrid.flush avg s), dom b)
    (n : Nat) (hn : n < (Hybrid.encode avg bm s).length) :
    IsErr (Hybrid.decode bm s.params ((Hybrid.encode avg bm s).take n)) :=
  strict_prefix_run (Hybrid.reads_encode avg havg bm dom hbm hne s hwf hdom) n hn

/-- Segment level (model part): the four component streams of a segment are read as one
    concatenation; when component number `i` (0 = hybrid, 1 = vector, 2 = text,
    3 = metadata) is cut to a strict prefix — `n = 0` is the empty / missing file — the
    reader delivers the earlier components and that prefix, and `ReadFrom` fails. -/
theorem segment_component_truncated_rejected (avg : Nat → Nat → Nat)
    (havg : ∀ t n, avg t n < 18446744073709551616) (hbm : bm.Lawful dom)
    (hne : Meta.NonEmpty bm dom) (s : Hybrid.State) (hwf : Hybrid.wf s = true)
    (hdom : ∀ b ∈ Hybrid.bitmaps (Hybrid.flush avg s), dom b) (n : Nat) :
    let w := (Hybrid.writeTo avg bm s).2
    (n < w.1.length → IsErr (Hybrid.decode bm s.params (w.1.take n))) ∧
    (n < w.2.1.length → IsErr (Hybrid.decode bm s.params (w.1 ++ w.2.1.take n))) ∧
    (n < w.2.2.1.length →
      IsErr (Hybrid.decode bm s.params (w.1 ++ w.2.1 ++ w.2.2.1.take n))) ∧
    (n < w.2.2.2.length →
      IsErr (Hybrid.decode bm s.params (w.1 ++ w.2.1 ++ w.2.2.1 ++ w.2.2.2.take n))) := by
  intro w
  -- wherever the stream is split as `a ++ (b ++ c)`, cutting inside `b` is a strict prefix
  have part : ∀ a b c : Bytes, Hybrid.encode avg bm s = a ++ (b ++ c) → n < b.length →
      IsErr (Hybrid.decode bm s.params (a ++ b.take n)) := fun a b c h hn => by
    have := strict_prefix_rejected_hybrid bm dom avg havg hbm hne s hwf hdom (a.length + n)
      (by simp only [h, List.length_append]; omega)
    rwa [h, List.take_length_add_append, List.take_append_of_le_length (by omega)] at this
  exact ⟨part [] w.1 _ rfl, part w.1 w.2.1 _ rfl,
    part (w.1 ++ w.2.1) w.2.2.1 w.2.2.2 (List.append_assoc ..).symm,
    part (w.1 ++ w.2.1 ++ w.2.2.1) w.2.2.2 [] (by simp [Hybrid.encode, Hybrid.encodeRaw, w, Hybrid.writeTo])⟩

/-! ## a stream of another kind is rejected -/

theorem magics_pairwise_distinct : ∀ k k' : Kind, k ≠ k' → k.magic ≠ k'.magic := by
  intro k k'
  cases k <;> cases k' <;> decide

/-- any input that does not start with the receiver's magic (too short included) -/
theorem wrong_magic_rejected (r : Recv) (inp : Bytes) (h : inp.take 4 ≠ r.kind.magic) :
    r.accepts bm inp = false :=
  accepts_false_of_isErr bm r inp ((Recv.checksPreamble bm r).1 inp h)

/-- full kind × kind matrix: a receiver rejects every stream written by an index of
    another kind, whatever its state and whatever follows -/
theorem wrong_kind_rejected (r : Recv) (s : AnyState) (h : r.kind ≠ s.kind) (rest : Bytes) :
    r.accepts bm (s.encodeRaw bm ++ rest) = false := by
  apply wrong_magic_rejected
  rw [AnyState.take4]
  exact magics_pairwise_distinct _ _ (fun e => h e.symm)


/-! ## a stream of another format version is rejected -/

/-- whatever follows the version field, for every receiver of every kind -/
theorem wrong_version_rejected (r : Recv) (v : Nat) (hv : v ≠ 1) (hlt : v < 4294967296)
    (rest : Bytes) : r.accepts bm (r.kind.magic ++ (encU32 v ++ rest)) = false :=
  accepts_false_of_isErr bm r _ ((Recv.checksPreamble bm r).2 v rest hv hlt)

/-! ## a stream written with other construction parameters is rejected
    One theorem per parameter the decoder compares, in the order it compares them: the
    parameters compared earlier agree, this one differs (the later ones are arbitrary —
    "exactly one parameter differs" is a special case); the error names the parameter. -/

section flat
variable {p : Flat.Params} {s : Flat.State} (hwf : Flat.wf s = true) (rest : Bytes)
include hwf

theorem param_mismatch_rejected_flat_dim (hne : p.dim ≠ s.dim) :
    Flat.decodeC bm p (Flat.encodeRaw bm s ++ rest) = .error (.param "dim") :=
  Flat.header_fails bm p hwf _ (by simp [Ne.symm hne]) rest
theorem param_mismatch_rejected_flat_metric (h1 : p.dim = s.dim) (hne : p.metric ≠ s.metric) :
    Flat.decodeC bm p (Flat.encodeRaw bm s ++ rest) = .error (.param "metric") :=
  Flat.header_fails bm p hwf _ (by simp [h1, Ne.symm hne]) rest
end flat

/-- any difference between the receiver's parameters and the writer's is rejected -/
theorem param_mismatch_rejected_flat (p : Flat.Params) (s : Flat.State) (hwf : Flat.wf s = true)
    (hne : p ≠ s.params) (rest : Bytes) :
    ∃ name, Flat.decodeC bm p (Flat.encodeRaw bm s ++ rest) = .error (.param name) :=
  if h1 : p.dim = s.dim then
    if h2 : p.metric = s.metric then
      absurd (by cases p; simp only at *; subst_vars; rfl) hne
    else ⟨_, param_mismatch_rejected_flat_metric bm hwf rest h1 h2⟩
  else ⟨_, param_mismatch_rejected_flat_dim bm hwf rest h1⟩

section hnsw
variable {p : HNSW.Params} {s : HNSW.State} (hwf : HNSW.wf s = true) (rest : Bytes)
include hwf

theorem param_mismatch_rejected_hnsw_dim (hne : p.dim ≠ s.dim) :
    HNSW.decodeC bm p (HNSW.encodeRaw bm s ++ rest) = .error (.param "dim") :=
  HNSW.header_fails bm p hwf _ (by simp [Ne.symm hne]) rest
theorem param_mismatch_rejected_hnsw_metric (h1 : p.dim = s.dim) (hne : p.metric ≠ s.metric) :
    HNSW.decodeC bm p (HNSW.encodeRaw bm s ++ rest) = .error (.param "metric") :=
  HNSW.header_fails bm p hwf _ (by simp [h1, Ne.symm hne]) rest
theorem param_mismatch_rejected_hnsw_m (h1 : p.dim = s.dim) (h2 : p.metric = s.metric)
    (hne : p.m ≠ s.m) :
    HNSW.decodeC bm p (HNSW.encodeRaw bm s ++ rest) = .error (.param "M") :=
  HNSW.header_fails bm p hwf _ (by simp [h1, h2, Ne.symm hne]) rest
theorem param_mismatch_rejected_hnsw_efC (h1 : p.dim = s.dim) (h2 : p.metric = s.metric)
    (h3 : p.m = s.m) (hne : p.efC ≠ s.efC) :
    HNSW.decodeC bm p (HNSW.encodeRaw bm s ++ rest) = .error (.param "efConstruction") :=
  HNSW.header_fails bm p hwf _ (by simp [h1, h2, h3, Ne.symm hne]) rest
theorem param_mismatch_rejected_hnsw_efS (h1 : p.dim = s.dim) (h2 : p.metric = s.metric)
    (h3 : p.m = s.m) (h4 : p.efC = s.efC) (hne : p.efS ≠ s.efS) :
    HNSW.decodeC bm p (HNSW.encodeRaw bm s ++ rest) = .error (.param "efSearch") :=
  HNSW.header_fails bm p hwf _ (by simp [h1, h2, h3, h4, Ne.symm hne]) rest
end hnsw

theorem param_mismatch_rejected_hnsw (p : HNSW.Params) (s : HNSW.State) (hwf : HNSW.wf s = true)
    (hne : p ≠ s.params) (rest : Bytes) :
    ∃ name, HNSW.decodeC bm p (HNSW.encodeRaw bm s ++ rest) = .error (.param name) :=
  if h1 : p.dim = s.dim then
    if h2 : p.metric = s.metric then
      if h3 : p.m = s.m then
        if h4 : p.efC = s.efC then
          if h5 : p.efS = s.efS then
            absurd (by cases p; simp only at *; subst_vars; rfl) hne
          else ⟨_, param_mismatch_rejected_hnsw_efS bm hwf rest h1 h2 h3 h4 h5⟩
        else ⟨_, param_mismatch_rejected_hnsw_efC bm hwf rest h1 h2 h3 h4⟩
      else ⟨_, param_mismatch_rejected_hnsw_m bm hwf rest h1 h2 h3⟩
    else ⟨_, param_mismatch_rejected_hnsw_metric bm hwf rest h1 h2⟩
  else ⟨_, param_mismatch_rejected_hnsw_dim bm hwf rest h1⟩

section ivf
variable {p : IVF.Params} {s : IVF.State} (hwf : IVF.wf s = true) (rest : Bytes)
include hwf

theorem param_mismatch_rejected_ivf_dim (hne : p.dim ≠ s.dim) :
    IVF.decodeC bm p (IVF.encodeRaw bm s ++ rest) = .error (.param "dim") :=
  IVF.header_fails bm p hwf _ (by simp [Ne.symm hne]) rest
theorem param_mismatch_rejected_ivf_metric (h1 : p.dim = s.dim) (hne : p.metric ≠ s.metric) :
    IVF.decodeC bm p (IVF.encodeRaw bm s ++ rest) = .error (.param "metric") :=
  IVF.header_fails bm p hwf _ (by simp [h1, Ne.symm hne]) rest
theorem param_mismatch_rejected_ivf_nlist (h1 : p.dim = s.dim) (h2 : p.metric = s.metric)
    (hne : p.nlist ≠ s.nlist) :
    IVF.decodeC bm p (IVF.encodeRaw bm s ++ rest) = .error (.param "nlist") :=
  IVF.header_fails bm p hwf _ (by simp [h1, h2, Ne.symm hne]) rest
end ivf

theorem param_mismatch_rejected_ivf (p : IVF.Params) (s : IVF.State) (hwf : IVF.wf s = true)
    (hne : p ≠ s.params) (rest : Bytes) :
    ∃ name, IVF.decodeC bm p (IVF.encodeRaw bm s ++ rest) = .error (.param name) :=
  if h1 : p.dim = s.dim then
    if h2 : p.metric = s.metric then
      if h3 : p.nlist = s.nlist then
        absurd (by cases p; simp only at *; subst_vars; rfl) hne
      else ⟨_, param_mismatch_rejected_ivf_nlist bm hwf rest h1 h2 h3⟩
    else ⟨_, param_mismatch_rejected_ivf_metric bm hwf rest h1 h2⟩
  else ⟨_, param_mismatch_rejected_ivf_dim bm hwf rest h1⟩

section pq
variable {p : PQ.Params} {s : PQ.State} (hwf : PQ.wf s = true) (rest : Bytes)
include hwf

theorem param_mismatch_rejected_pq_dim (hne : p.dim ≠ s.dim) :
    PQ.decodeC bm p (PQ.encodeRaw bm s ++ rest) = .error (.param "dim") :=
  PQ.header_fails bm p hwf _ (by simp [Ne.symm hne]) rest
theorem param_mismatch_rejected_pq_metric (h1 : p.dim = s.dim) (hne : p.metric ≠ s.metric) :
    PQ.decodeC bm p (PQ.encodeRaw bm s ++ rest) = .error (.param "metric") :=
  PQ.header_fails bm p hwf _ (by simp [h1, Ne.symm hne]) rest
theorem param_mismatch_rejected_pq_m (h1 : p.dim = s.dim) (h2 : p.metric = s.metric)
    (hne : p.m ≠ s.m) :
    PQ.decodeC bm p (PQ.encodeRaw bm s ++ rest) = .error (.param "M") :=
  PQ.header_fails bm p hwf _ (by simp [h1, h2, Ne.symm hne]) rest
theorem param_mismatch_rejected_pq_nbits (h1 : p.dim = s.dim) (h2 : p.metric = s.metric)
    (h3 : p.m = s.m) (hne : p.nbits ≠ s.nbits) :
    PQ.decodeC bm p (PQ.encodeRaw bm s ++ rest) = .error (.param "Nbits") :=
  PQ.header_fails bm p hwf _ (by simp [h1, h2, h3, Ne.symm hne]) rest
theorem param_mismatch_rejected_pq_ksub (h1 : p.dim = s.dim) (h2 : p.metric = s.metric)
    (h3 : p.m = s.m) (h4 : p.nbits = s.nbits) (hne : p.ksub ≠ s.ksub) :
    PQ.decodeC bm p (PQ.encodeRaw bm s ++ rest) = .error (.param "Ksub") :=
  PQ.header_fails bm p hwf _ (by simp [h1, h2, h3, h4, Ne.symm hne]) rest
theorem param_mismatch_rejected_pq_dsub (h1 : p.dim = s.dim) (h2 : p.metric = s.metric)
    (h3 : p.m = s.m) (h4 : p.nbits = s.nbits) (h5 : p.ksub = s.ksub) (hne : p.dsub ≠ s.dsub) :
    PQ.decodeC bm p (PQ.encodeRaw bm s ++ rest) = .error (.param "dsub") :=
  PQ.header_fails bm p hwf _ (by simp [h1, h2, h3, h4, h5, Ne.symm hne]) rest
end pq

theorem param_mismatch_rejected_pq (p : PQ.Params) (s : PQ.State) (hwf : PQ.wf s = true)
    (hne : p ≠ s.params) (rest : Bytes) :
    ∃ name, PQ.decodeC bm p (PQ.encodeRaw bm s ++ rest) = .error (.param name) :=
  if h1 : p.dim = s.dim then
    if h2 : p.metric = s.metric then
      if h3 : p.m = s.m then
        if h4 : p.nbits = s.nbits then
          if h5 : p.ksub = s.ksub then
            if h6 : p.dsub = s.dsub then
              absurd (by cases p; simp only at *; subst_vars; rfl) hne
            else ⟨_, param_mismatch_rejected_pq_dsub bm hwf rest h1 h2 h3 h4 h5 h6⟩
          else ⟨_, param_mismatch_rejected_pq_ksub bm hwf rest h1 h2 h3 h4 h5⟩
        else ⟨_, param_mismatch_rejected_pq_nbits bm hwf rest h1 h2 h3 h4⟩
      else ⟨_, param_mismatch_rejected_pq_m bm hwf rest h1 h2 h3⟩
    else ⟨_, param_mismatch_rejected_pq_metric bm hwf rest h1 h2⟩
  else ⟨_, param_mismatch_rejected_pq_dim bm hwf rest h1⟩

section ivfpq
variable {p : IVFPQ.Params} {s : IVFPQ.State} (hwf : IVFPQ.wf s = true) (rest : Bytes)
include hwf

theorem param_mismatch_rejected_ivfpq_dim (hne : p.dim ≠ s.dim) :
    IVFPQ.decodeC bm p [] (IVFPQ.encodeRaw bm s ++ rest) = .error (.param "dim") :=
  IVFPQ.header_fails bm p [] hwf _ (by simp [Ne.symm hne]) rest
theorem param_mismatch_rejected_ivfpq_metric (h1 : p.dim = s.dim) (hne : p.metric ≠ s.metric) :
    IVFPQ.decodeC bm p [] (IVFPQ.encodeRaw bm s ++ rest) = .error (.param "metric") :=
  IVFPQ.header_fails bm p [] hwf _ (by simp [h1, Ne.symm hne]) rest
theorem param_mismatch_rejected_ivfpq_nlist (h1 : p.dim = s.dim) (h2 : p.metric = s.metric)
    (hne : p.nlist ≠ s.nlist) :
    IVFPQ.decodeC bm p [] (IVFPQ.encodeRaw bm s ++ rest) = .error (.param "nlist") :=
  IVFPQ.header_fails bm p [] hwf _ (by simp [h1, h2, Ne.symm hne]) rest
theorem param_mismatch_rejected_ivfpq_m (h1 : p.dim = s.dim) (h2 : p.metric = s.metric)
    (h3 : p.nlist = s.nlist) (hne : p.m ≠ s.m) :
    IVFPQ.decodeC bm p [] (IVFPQ.encodeRaw bm s ++ rest) = .error (.param "M") :=
  IVFPQ.header_fails bm p [] hwf _ (by simp [h1, h2, h3, Ne.symm hne]) rest
theorem param_mismatch_rejected_ivfpq_nbits (h1 : p.dim = s.dim) (h2 : p.metric = s.metric)
    (h3 : p.nlist = s.nlist) (h4 : p.m = s.m) (hne : p.nbits ≠ s.nbits) :
    IVFPQ.decodeC bm p [] (IVFPQ.encodeRaw bm s ++ rest) = .error (.param "Nbits") :=
  IVFPQ.header_fails bm p [] hwf _ (by simp [h1, h2, h3, h4, Ne.symm hne]) rest
theorem param_mismatch_rejected_ivfpq_ksub (h1 : p.dim = s.dim) (h2 : p.metric = s.metric)
    (h3 : p.nlist = s.nlist) (h4 : p.m = s.m) (h5 : p.nbits = s.nbits) (hne : p.ksub ≠ s.ksub) :
    IVFPQ.decodeC bm p [] (IVFPQ.encodeRaw bm s ++ rest) = .error (.param "Ksub") :=
  IVFPQ.header_fails bm p [] hwf _ (by simp [h1, h2, h3, h4, h5, Ne.symm hne]) rest
theorem param_mismatch_rejected_ivfpq_dsub (h1 : p.dim = s.dim) (h2 : p.metric = s.metric)
    (h3 : p.nlist = s.nlist) (h4 : p.m = s.m) (h5 : p.nbits = s.nbits) (h6 : p.ksub = s.ksub)
    (hne : p.dsub ≠ s.dsub) :
    IVFPQ.decodeC bm p [] (IVFPQ.encodeRaw bm s ++ rest) = .error (.param "dsub") :=
  IVFPQ.header_fails bm p [] hwf _ (by simp [h1, h2, h3, h4, h5, h6, Ne.symm hne]) rest
end ivfpq

theorem param_mismatch_rejected_ivfpq (p : IVFPQ.Params) (s : IVFPQ.State) (hwf : IVFPQ.wf s = true)
    (hne : p ≠ s.params) (rest : Bytes) :
    ∃ name, IVFPQ.decodeC bm p [] (IVFPQ.encodeRaw bm s ++ rest) = .error (.param name) :=
  if h1 : p.dim = s.dim then
    if h2 : p.metric = s.metric then
      if h3 : p.nlist = s.nlist then
        if h4 : p.m = s.m then
          if h5 : p.nbits = s.nbits then
            if h6 : p.ksub = s.ksub then
              if h7 : p.dsub = s.dsub then
                absurd (by cases p; simp only at *; subst_vars; rfl) hne
              else ⟨_, param_mismatch_rejected_ivfpq_dsub bm hwf rest h1 h2 h3 h4 h5 h6 h7⟩
            else ⟨_, param_mismatch_rejected_ivfpq_ksub bm hwf rest h1 h2 h3 h4 h5 h6⟩
          else ⟨_, param_mismatch_rejected_ivfpq_nbits bm hwf rest h1 h2 h3 h4 h5⟩
        else ⟨_, param_mismatch_rejected_ivfpq_m bm hwf rest h1 h2 h3 h4⟩
      else ⟨_, param_mismatch_rejected_ivfpq_nlist bm hwf rest h1 h2 h3⟩
    else ⟨_, param_mismatch_rejected_ivfpq_metric bm hwf rest h1 h2⟩
  else ⟨_, param_mismatch_rejected_ivfpq_dim bm hwf rest h1⟩
/-! hybrid: presence of each sub-index (a sub-index constructed with other parameters
    is rejected by that sub-index's own `ReadFrom`, theorems above; the propagation of
    that error through the hybrid reader is checked by the correspondence stream) -/

theorem param_mismatch_rejected_hybrid_vector (p : Hybrid.Params) (s : Hybrid.State)
    (hne : p.vec.isSome ≠ s.vec.isSome) (rest : Bytes) :
    Hybrid.decodeC bm p (Hybrid.encodeRaw bm s ++ rest) = .error (.param "hasVector") :=
  Hybrid.header_fails bm p s _ (by simp [Hybrid.b2n_beq_one, Ne.symm hne]) rest

theorem param_mismatch_rejected_hybrid_text (p : Hybrid.Params) (s : Hybrid.State)
    (h1 : p.vec.isSome = s.vec.isSome) (hne : p.txt ≠ s.txt.isSome) (rest : Bytes) :
    Hybrid.decodeC bm p (Hybrid.encodeRaw bm s ++ rest) = .error (.param "hasText") :=
  Hybrid.header_fails bm p s _ (by simp [Hybrid.b2n_beq_one, h1, Ne.symm hne]) rest

theorem param_mismatch_rejected_hybrid_metadata (p : Hybrid.Params) (s : Hybrid.State)
    (h1 : p.vec.isSome = s.vec.isSome) (h2 : p.txt = s.txt.isSome) (hne : p.md ≠ s.md.isSome)
    (rest : Bytes) :
    Hybrid.decodeC bm p (Hybrid.encodeRaw bm s ++ rest) = .error (.param "hasMetadata") :=
  Hybrid.header_fails bm p s _ (by simp [Hybrid.b2n_beq_one, h1, h2, Ne.symm hne]) rest

/-! ## what the decoders do NOT compare (so the claim is exactly as wide as the code)
    Each `param_not_checked_*` exhibits a stream that is accepted although the named quantity
    disagrees with the receiver's construction parameters. -/

/-- flat compares each vector's stored dimension with dim as well: a vector of another
    length is rejected -/
theorem param_all_checked_flat (p : Flat.Params) (id : Nat) (v : List Nat) (rest : Bytes)
    (hid : id < 4294967296) (hv : v.length < 4294967296) (hp : p.dim < 4294967296)
    (hm : p.metric.length < 4294967296) (hne : v.length ≠ p.dim) :
    Flat.decodeC bm p (Flat.encodeRaw bm ⟨p.dim, p.metric, [(id, v)], []⟩ ++ rest) = .error .vecDim := by
  have hvec : Fails (Flat.decVec p.dim) (encU32 id ++ (encU32 v.length ++ [])) (some .vecDim) := by
    unfold Flat.decVec
    exact Fails.bind (Reads.rU32 _ hid) (Fails.bind (Reads.rU32 _ hv)
      (Fails.guard_false (beq_false_of_ne hne) _))
  unfold Flat.decodeC
  refine Fails.apply (rest := ?tail)
    (Fails.preamble rfl _
    (Fails.bind (Reads.rU32 _ hp)
    (Fails.guard_true (beq_self_eq_true _)
    (Fails.bind (Reads.rLenBytes _ hm)
    (Fails.guard_true (beq_self_eq_true _)
    (Fails.bind (Reads.rU32 _ (n := 1) (by decide))
    (Fails.left (Fails.left hvec)))))))) ?_
  rotate_left
  · simp [Flat.encodeRaw, Flat.items, Flat.vecItems]
    rfl

/-- HNSW: a node's vector length is not compared with dim (the witness also has an entry
    point that is no node and a maxLevel above every node's level) -/
theorem param_not_checked_hnsw (hbm : bm.Lawful dom) (h0 : dom []) :
    ∃ s : HNSW.State, HNSW.wf s = true ∧ (∃ n ∈ s.nodes, n.2.vec.length ≠ s.dim) ∧
      ∀ rest, HNSW.decode bm s.params (HNSW.encodeRaw bm s ++ rest) = .ok (s, rest) :=
  ⟨⟨2, [], 16, 200, 200, 0, 7, 99, [(5, ⟨0, [1], [[]]⟩)], []⟩, by decide, ⟨_, List.mem_cons_self, by decide⟩,
    run_of_reads (HNSW.reads_decodeC bm dom hbm _ (by decide) h0)⟩

/-- IVF: the number of inverted lists is not compared with nlist, a centroid's size not with dim -/
theorem param_not_checked_ivf (hbm : bm.Lawful dom) (h0 : dom []) :
    ∃ s : IVF.State, IVF.wf s = true ∧ s.lists.length ≠ s.nlist ∧
      (∃ c ∈ s.centroids, c.length ≠ s.dim) ∧
      ∀ rest, IVF.decode bm s.params (IVF.encodeRaw bm s ++ rest) = .ok (s, rest) :=
  ⟨⟨2, [], 1, true, [[7, 8, 9]], [], []⟩, by decide, by decide, ⟨_, List.mem_cons_self, by decide⟩,
    run_of_reads (IVF.reads_decodeC bm dom hbm _ (by decide) h0)⟩

/-- PQ: a codebook's size is not compared with Ksub·dsub, nor dim with M·dsub -/
theorem param_not_checked_pq (hbm : bm.Lawful dom) (h0 : dom []) :
    ∃ s : PQ.State, PQ.wf s = true ∧ (∃ c ∈ s.codebooks, c.length ≠ s.ksub * s.dsub) ∧
      s.dim ≠ s.m * s.dsub ∧
      ∀ rest, PQ.decode bm s.params (PQ.encodeRaw bm s ++ rest) = .ok (PQ.forget s, rest) :=
  ⟨⟨4, [], 1, 8, 256, 2, true, [[1, 2, 3]], [], []⟩, by decide, ⟨_, List.mem_cons_self, by decide⟩,
    by decide, run_of_reads (PQ.reads_decodeC bm dom hbm _ (by decide) h0)⟩

/-- IVFPQ: list count, centroid and codebook sizes are not compared -/
theorem param_not_checked_ivfpq (hbm : bm.Lawful dom) (h0 : dom []) :
    ∃ s : IVFPQ.State, IVFPQ.wf s = true ∧ s.lists.length ≠ s.nlist ∧
      (∃ c ∈ s.centroids, c.length ≠ s.dim) ∧ (∃ c ∈ s.codebooks, c.length ≠ s.ksub * s.dsub) ∧
      ∀ rest, IVFPQ.decode bm s.params (IVFPQ.encodeRaw bm s ++ rest) = .ok (IVFPQ.forget s, rest) :=
  ⟨⟨4, [], 1, 1, 8, 256, 4, true, [[1]], [[2, 3]], [], []⟩, by decide, by decide,
    ⟨_, List.mem_cons_self, by decide⟩, ⟨_, List.mem_cons_self, by decide⟩,
    run_of_reads (IVFPQ.reads_decodeC bm dom hbm _ (by decide) h0)⟩

/-- metadata: a BSI with zero slices makes `BSI.UnmarshalBinary` index `bitData[0]`: the Go
    code panics (outside this property's quantifier — no valid stream, prefix of one, or
    stream of another kind has this shape — recorded so that the model's "never panics"
    is not read more widely than it holds) -/
theorem meta_zero_slices_panics (hall : bm.dec (bm.enc []) = .ok [])
    (hs : (bm.enc []).length < 4294967296) (rest : Bytes) :
    Meta.decodeC bm (Meta.magic ++ (encU32 1 ++ (encU32 (bm.enc []).length ++ (bm.enc [] ++
      (encU32 0 ++ (encU32 1 ++ (encU32 0 ++ (encU32 0 ++ rest)))))))) =
      .error (.panic "BSI.UnmarshalBinary: bitData[0] with len(bitData) == 0") := by
  have hnum : Fails (Meta.decNum bm) (encU32 0 ++ encU32 0)
      (some (.panic "BSI.UnmarshalBinary: bitData[0] with len(bitData) == 0")) := by
    unfold Meta.decNum
    exact Fails.of_eq (Fails.bind (Reads.rLenBytes _ (b := []) (by decide))
      (Fails.bind (Reads.rU32 _ (by decide))
      (Fails.bind (Reads.repeat (fun _ => []) [] nofun)
      (Fails.left (Fails.fail _ []))))) (by simp)
  unfold Meta.decodeC
  refine Fails.apply (rest := rest) (Fails.preamble rfl _
    (Fails.bind (Reads.rLenBytes _ hs)
    (Fails.bind (Reads.ofExcept hall)
    (Fails.bind (Reads.rU32 _ (by decide))
    (Fails.bind (Reads.repeat (fun _ => []) [] nofun)
    (Fails.bind (Reads.rU32 _ (n := 1) (by decide))
    (Fails.left (Fails.left hnum)))))))) ?_
  simp

/-- Why the segment clause is only partial on the unchanged store (finding D13): `ReadFrom`
    loads the sub-indexes in place one after the other, so a stream that ends inside the
    text part is rejected AFTER the vector part was loaded (`loadProgress = 1`); the store
    hands the same index instances to its memtables, which is where that load shows. -/
theorem hybrid_partial_load_witness :
    (Recv.hybrid Example.hybrid1.params).accepts Example.listCodec
      ((Hybrid.encode (fun _ _ => 0) Example.listCodec Example.hybrid1).take 100) = false ∧
    Hybrid.loadProgress Example.listCodec Example.hybrid1.params
      ((Hybrid.encode (fun _ _ => 0) Example.listCodec Example.hybrid1).take 100) = 1 := by
  decide +kernel

/-! ## non-vacuity -/

/-- there are strict prefixes to reject (the stream of `flat1` has 62 bytes), and the
    hypotheses of the prefix theorems are those of C07's round trips (examples there) -/
example : (Flat.encode Example.listCodec Example.flat1).length = 62 := by decide
/-- a receiver that differs in exactly one parameter -/
example : (⟨3, Example.flat1.metric⟩ : Flat.Params) ≠ Example.flat1.params ∧
    (⟨3, Example.flat1.metric⟩ : Flat.Params).metric = Example.flat1.params.metric := by decide
/-- two different kinds -/
example : (Recv.ivf Example.ivf1.params).kind ≠ (AnyState.flat Example.flat1).kind := by decide

end Comet.Codec.C16
