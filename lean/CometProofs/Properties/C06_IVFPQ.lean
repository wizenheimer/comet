/-
  C06's vector-side visibility abstraction for the IVFPQ index, from the simulation behind
  C14 (`IVFPQ.run_rel`, CometProofs/IVFPQ.lean: the inverted lists of the model are the
  per-list projections of a ghost flat index over stored records, with the same tombstones)
  and the flat refinement
  (`absFlat_run`): after any history following a successful Train, what the IVFPQ model
  shows under each id is — as a multiset, the entries of one id may sit in different lists —
  what `Hybrid.VecIdx`, run on the same history, shows.
-/
import CometProofs.Properties.C06_Flat
import CometProofs.IVFPQ
namespace Comet.Hybrid
open Comet.PQ Comet.IVFPQ

variable {S : Type}

def absIVFPQ (s : IVFPQ.State S) : VecIdx (Stored S) :=
  ⟨fun j => (s.lists.flatten.filter (fun p => p.1 == j)).map (·.2), fun j => s.deleted.contains j⟩

theorem absIVFPQ_of_rel (s : IVFPQ.State S) (g : Flat.State (Stored S)) (h : IVFPQ.Rel s g) (j : Id) :
    ((absIVFPQ s).entries j).Perm ((absFlat g).entries j) ∧ (absIVFPQ s).deleted j = (absFlat g).deleted j := by
  constructor
  · simp only [absIVFPQ, absFlat, h.lists]
    exact ((IVF.flatten_bucketsOf_perm _ s.nlist g.vecs h.bound).filter _).map _
  · simp only [absIVFPQ, absFlat, h.deleted]

/-- **IVFPQ refines the visibility model, every history after Train**: what the model shows under
    an id is (as a multiset) what `Hybrid.VecIdx` shows after the same Add / Remove / Flush
    history, with `vpre` = validation + preprocessing + assignment + residual encoding -/
theorem absIVFPQ_refines_vecIdx (m : Metric (List S) S) (A : Arith S)
    (s0 : IVFPQ.State S) (dim : Nat) (hrel0 : IVFPQ.Rel s0 (Flat.init dim))
    (htr : s0.trained = true) (hc : s0.cents.length = s0.nlist) (hn : 0 < s0.nlist)
    (ops : List (Flat.Op (List S))) (j : Id) :
    ((absIVFPQ (IVFPQ.run m A s0 ops)).visible j).Perm
      (((ops.map PQ.liftOp).foldl (vecStep (flatVpre (IVFPQ.mm m A s0) dim)) VecIdx.empty).visible j) := by
  obtain ⟨hrel, _⟩ := IVFPQ.run_rel m A s0 (Flat.init dim) ops hrel0 htr hc hn
  obtain ⟨hp, hd⟩ := absIVFPQ_of_rel _ _ hrel j
  have hv := VecIdx.visible_perm hp hd
  rw [absFlat_run] at hv
  exact hv

/-- the state right after a successful Train satisfies the premises -/
theorem absIVFPQ_trained_premises (dim M nbits nlist n : Nat) (hnl : 0 < nlist) (cents : List (List S))
    (cbs : List (List (List S))) (s0 : IVFPQ.State S)
    (htrain : IVFPQ.train (IVFPQ.init dim M nbits nlist) n true cents cbs = (s0, .ok))
    (hcw : IVFPQ.centsWF nlist dim cents = true) :
    IVFPQ.Rel s0 (Flat.init dim) ∧ s0.trained = true ∧ s0.cents.length = s0.nlist ∧ 0 < s0.nlist :=
  IVFPQ.train_premises hnl htrain hcw

end Comet.Hybrid
