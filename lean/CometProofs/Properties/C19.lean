/-
  C19 — result post-processing obeys its laws.   Part 1: aggregation.go, limiter.go.
  (Part 2, fusion.go and storage_merge.go: CometProofs/Properties/C19_Fusion.lean.)

  Property theorems and non-vacuity examples; the lemmas are in
  CometProofs/{Agg,AggRat,Limiter,XR}.lean.

  `vecAggregate sc kind xs` / `textAggregate sc kind xs` model
  `VectorAggregation.Aggregate` / `TextAggregation.Aggregate` (Comet/Agg.lean):
  `scoresOf i xs` are the input scores of id `i` in arrival order, `reduceVec` the
  sum / running maximum / sum ÷ count over them exactly as the Go loops compute
  them.  `autocut o ys c : Except Panic Nat` models `Autocut` with CHECKED slice
  reads over arbitrary float operations `o` (Comet/Limiter.lean).

  Floating point.  The "each id once" and "score = reduction of its own scores in
  arrival order" theorems hold for ANY scalar operations (hence for float32
  including ±Inf and NaN).  "Best-first" needs a total preorder (`Scalar.Ordered`:
  true of floats without NaN; a NaN is unordered, so "best-first" and "maximum" have
  no meaning for it).  "Independent of input order" is exact for a commutative,
  associative addition (ℚ); float addition is commutative but not associative, so
  for float32 the sum/mean differ by rounding between orders — which is what the
  property's "up to float rounding" allows and what the correspondence run bounds by
  `(n+2)·2⁻²³·Σ|x|`.  "Autocut never panics" is proved for an IEEE-like scalar with
  ±0, ±∞, NaN and arbitrary rounding (`XR`), and for lengths ≠ 2 for arbitrary
  operations whatsoever.
-/
import CometProofs.Agg
import CometProofs.Limiter
import CometProofs.XR
import CometProofs.AggRat
namespace Comet

variable {S : Type}

/-- Each input id occurs exactly once in the result, and nothing else does (vector). -/
theorem vec_agg_each_id_once (sc : Scalar S) (kind : AggKind) (xs : List (Hit S)) :
    ((vecAggregate sc kind xs).map (·.id)).Nodup ∧
    ∀ i, i ∈ (vecAggregate sc kind xs).map (·.id) ↔ i ∈ xs.map (·.id) :=
  (agg_of_perm sc kind xs (vecAggregate_perm sc kind xs)).1

/-- Each input id occurs exactly once in the result, and nothing else does (text). -/
theorem text_agg_each_id_once (sc : Scalar S) (kind : AggKind) (xs : List (Hit S)) :
    ((textAggregate sc kind xs).map (·.id)).Nodup ∧
    ∀ i, i ∈ (textAggregate sc kind xs).map (·.id) ↔ i ∈ xs.map (·.id) :=
  (agg_of_perm sc kind xs (textAggregate_perm sc kind xs)).1

/-- The score of a result is the sum / max / mean (`reduceVec`) of the input scores of
    that id, taken in arrival order; the group is never empty.  Any scalar. -/
theorem vec_agg_score (sc : Scalar S) (kind : AggKind) (xs : List (Hit S)) :
    ∀ h ∈ vecAggregate sc kind xs,
      scoresOf h.id xs ≠ [] ∧ h.score = reduceVec sc kind (scoresOf h.id xs) :=
  (agg_of_perm sc kind xs (vecAggregate_perm sc kind xs)).2.1

theorem text_agg_score (sc : Scalar S) (kind : AggKind) (xs : List (Hit S)) :
    ∀ h ∈ textAggregate sc kind xs,
      scoresOf h.id xs ≠ [] ∧ h.score = reduceVec sc kind (scoresOf h.id xs) :=
  (agg_of_perm sc kind xs (textAggregate_perm sc kind xs)).2.1

/-- Conversely every (id, reduction) pair of an input id is in the result. -/
theorem vec_agg_complete (sc : Scalar S) (kind : AggKind) (xs : List (Hit S)) (i : Id)
    (hi : i ∈ xs.map (·.id)) :
    (⟨i, reduceVec sc kind (scoresOf i xs)⟩ : Hit S) ∈ vecAggregate sc kind xs :=
  (agg_of_perm sc kind xs (vecAggregate_perm sc kind xs)).2.2 i hi

theorem text_agg_complete (sc : Scalar S) (kind : AggKind) (xs : List (Hit S)) (i : Id)
    (hi : i ∈ xs.map (·.id)) :
    (⟨i, reduceVec sc kind (scoresOf i xs)⟩ : Hit S) ∈ textAggregate sc kind xs :=
  (agg_of_perm sc kind xs (textAggregate_perm sc kind xs)).2.2 i hi

/-- Vector results are ordered best-first = ascending (distances). -/
theorem vec_agg_best_first (sc : Scalar S) (ord : sc.Ordered) (kind : AggKind)
    (xs : List (Hit S)) :
    (vecAggregate sc kind xs).Pairwise fun a b => sc.le a.score b.score = true :=
  List.pairwise_mergeSort (le := hitLe sc.le)
    (fun a b c => ord.trans a.score b.score c.score) (fun a b => ord.total a.score b.score) _

/-- Text results are ordered best-first = descending (relevance). -/
theorem text_agg_best_first (sc : Scalar S) (ord : sc.Ordered) (kind : AggKind)
    (xs : List (Hit S)) :
    (textAggregate sc kind xs).Pairwise fun a b => sc.le b.score a.score = true :=
  pairwise_mergeSort_desc sc ord _

/-- The max reduction is the maximum: a member of the group, at least every member. -/
theorem agg_max_is_maximum (sc : Scalar S) (ord : sc.Ordered) (ss : List S) (hne : ss ≠ []) :
    reduceVec sc .max ss ∈ ss ∧ ∀ x ∈ ss, sc.le x (reduceVec sc .max ss) = true :=
  maxScores_spec sc ord ss hne

/-- **Aggregation specification over ℚ** (vector; the text one is the same with the
    order reversed): each id once, exactly the input ids, score = Σ / max / mean of
    that id's input scores, ascending. -/
theorem vec_agg_spec (kind : AggKind) (xs : List (Hit ℚ)) :
    ((vecAggregate qScalar kind xs).map (·.id)).Nodup ∧
    (∀ i, i ∈ (vecAggregate qScalar kind xs).map (·.id) ↔ i ∈ xs.map (·.id)) ∧
    (∀ h ∈ vecAggregate qScalar kind xs,
      match kind with
      | .sum => h.score = (scoresOf h.id xs).sum
      | .mean => h.score = (scoresOf h.id xs).sum / ((scoresOf h.id xs).length : ℚ)
      | .max => h.score ∈ scoresOf h.id xs ∧ ∀ x ∈ scoresOf h.id xs, x ≤ h.score) ∧
    (vecAggregate qScalar kind xs).Pairwise (fun a b => a.score ≤ b.score) := by
  obtain ⟨⟨h1, h2⟩, h3, -⟩ := agg_of_perm qScalar kind xs (vecAggregate_perm qScalar kind xs)
  exact ⟨h1, h2, fun h hh => reduceVec_rat kind _ (h3 h hh).1 _ (h3 h hh).2,
    (vec_agg_best_first qScalar qScalar_ordered kind xs).imp of_decide_eq_true⟩

theorem text_agg_spec (kind : AggKind) (xs : List (Hit ℚ)) :
    ((textAggregate qScalar kind xs).map (·.id)).Nodup ∧
    (∀ i, i ∈ (textAggregate qScalar kind xs).map (·.id) ↔ i ∈ xs.map (·.id)) ∧
    (∀ h ∈ textAggregate qScalar kind xs,
      match kind with
      | .sum => h.score = (scoresOf h.id xs).sum
      | .mean => h.score = (scoresOf h.id xs).sum / ((scoresOf h.id xs).length : ℚ)
      | .max => h.score ∈ scoresOf h.id xs ∧ ∀ x ∈ scoresOf h.id xs, x ≤ h.score) ∧
    (textAggregate qScalar kind xs).Pairwise (fun a b => b.score ≤ a.score) := by
  obtain ⟨⟨h1, h2⟩, h3, -⟩ := agg_of_perm qScalar kind xs (textAggregate_perm qScalar kind xs)
  exact ⟨h1, h2, fun h hh => reduceVec_rat kind _ (h3 h hh).1 _ (h3 h hh).2,
    (text_agg_best_first qScalar qScalar_ordered kind xs).imp of_decide_eq_true⟩

/-- **Permutation invariance** over any exact scalar (commutative, associative
    addition; antisymmetric total order): permuting the input permutes the output,
    i.e. the result *as a set of (id, score)* does not depend on the input order.
    (The order among equal scores may differ: ties.) -/
theorem agg_perm_invariant (sc : Scalar S) (ord : sc.Ordered)
    (antisymm : ∀ a b : S, sc.le a b → sc.le b a → a = b)
    (add_comm : ∀ a b : S, sc.add a b = sc.add b a)
    (add_assoc : ∀ a b c : S, sc.add (sc.add a b) c = sc.add a (sc.add b c))
    (kind : AggKind) {xs ys : List (Hit S)} (h : xs.Perm ys) :
    (vecAggregate sc kind xs).Perm (vecAggregate sc kind ys) ∧
    (textAggregate sc kind xs).Perm (textAggregate sc kind ys) := by
  have hl := aggList_perm sc ord antisymm add_comm add_assoc kind h
  exact ⟨((vecAggregate_perm sc kind xs).trans hl).trans (vecAggregate_perm sc kind ys).symm,
    ((textAggregate_perm sc kind xs).trans hl).trans (textAggregate_perm sc kind ys).symm⟩

/-- Over ℚ: the same (id, score) pairs whatever the input order. -/
theorem agg_perm_invariant_rat (kind : AggKind) {xs ys : List (Hit ℚ)} (h : xs.Perm ys) :
    (∀ r, r ∈ vecAggregate qScalar kind xs ↔ r ∈ vecAggregate qScalar kind ys) ∧
    (∀ r, r ∈ textAggregate qScalar kind xs ↔ r ∈ textAggregate qScalar kind ys) := by
  have := agg_perm_invariant qScalar qScalar_ordered qScalar_antisymm
    (fun a b => add_comm a b) (fun a b c => add_assoc a b c) kind h
  exact ⟨fun r => this.1.mem_iff, fun r => this.2.mem_iff⟩

/-- Why the order hypothesis is needed: an unordered score `n` (NaN: `n < x` and
    `x < n` both false) makes the running maximum depend on the arrival order —
    `[n, x] ↦ n` but `[x, n] ↦ x`.  Holds for any scalar; the real code shows the same
    (corpus/C19/post_len2_specials.json: max of `[NaN, 1]` is NaN, of `[1, NaN]` is 1;
    verdict `KNOWN D22-nan-max-order-dependent`).  "Maximum", "best-first" and "independent of
    input order" are therefore claimed for ordered scores only. -/
theorem agg_max_unordered_depends_on_order (sc : Scalar S) (n x : S)
    (h1 : sc.lt n x = false) (h2 : sc.lt x n = false) :
    reduceVec sc .max [n, x] = n ∧ reduceVec sc .max [x, n] = x := by
  simp [reduceVec, maxScores, h1, h2]

/-- `LimitResults` returns the first `sanitizeK k len` results; the slice bound is in
    range (no panic). -/
theorem limit_spec (k : Int) (xs : List α) :
    limitResults k xs = xs.take (sanitizeK k xs.length) ∧ sanitizeK k xs.length ≤ xs.length :=
  ⟨rfl, sanitizeK_le k xs.length⟩

/-- for `0 < k ≤ len` exactly the first `k` -/
theorem limit_first_k (k : Int) (xs : List α) (h0 : 0 < k) (h : k ≤ xs.length) :
    limitResults k xs = xs.take k.toNat ∧ (limitResults k xs).length = k.toNat := by
  unfold limitResults
  rw [sanitizeK_of_pos_le h0 h]
  exact ⟨rfl, List.length_take.trans (Nat.min_eq_left (Int.toNat_le.2 h))⟩

/-- everything when `k ≤ 0` or `k` exceeds the length -/
theorem limit_all_when (k : Int) (xs : List α) (h : k ≤ 0 ∨ (xs.length : Int) < k) :
    limitResults k xs = xs := by
  unfold limitResults sanitizeK
  simp [h]

/-- **Index safety, generic.**  For ANY float operations whose length-2 guard is false
    (`Len2Safe`), `Autocut` does not panic and returns an index `≤ len`. -/
theorem autocut_no_panic_of_len2Safe (o : FOps F) (h2 : Len2Safe o) (ys : List F) (c : Int) :
    ∃ n, autocut o ys c = .ok n ∧ n ≤ ys.length :=
  autocut_ok o ys c (.inr h2)

/-- For every length other than 2 index safety is pure control flow: it holds for
    arbitrary operations (whatever the float unit returns). -/
theorem autocut_no_panic_len_ne_two (o : FOps F) (ys : List F) (c : Int) (h : ys.length ≠ 2) :
    ∃ n, autocut o ys c = .ok n ∧ n ≤ ys.length :=
  autocut_ok o ys c (.inl h)

/-- For length 2 the hazard is real in the model: the `diff[-1]` read is reached —
    and panics — exactly when the guard `diff[1] > diff[0]` is true. -/
theorem autocut_len2_panics_iff_guard (o : FOps F) (y0 y1 : F) (c : Int) :
    autocut o [y0, y1] c = .error (.index (-1) 2) ↔
      o.gt (diffAt o 2 y0 y1 y1 1) (diffAt o 2 y0 y1 y0 0) = true := by
  by_cases hg : o.gt (diffAt o 2 y0 y1 y1 1) (diffAt o 2 y0 y1 y0 0) = true <;>
    simp [autocut, autocutDiff_two, autocutScan, idx, List.range, List.range.loop, bind,
      Except.bind, hg, pure, Except.pure]

/-- **Autocut never panics**, for all score lists over the IEEE-like scalar `XR`
    (finite, ±0, ±∞, NaN; arbitrary rounding incl. overflow), every cut-off in ℤ;
    the returned index is at most the length. -/
theorem autocut_no_panic (r : XR.Rounding) (ys : List XR) (c : Int) :
    ∃ n, autocut (XR.ops r) ys c = .ok n ∧ n ≤ ys.length :=
  autocut_no_panic_of_len2Safe (XR.ops r) (XR.len2Safe r) ys c

/-- Under `Len2Safe`, `AutocutResults` returns a prefix of its input (and its slice bound
    is in range). -/
theorem autocut_prefix (o : FOps F) (h2 : Len2Safe o) (score : α → F) (xs : List α) (c : Int) :
    ∃ n, n ≤ xs.length ∧ autocutResults o score xs c = .ok (xs.take n) := by
  unfold autocutResults
  by_cases h : (c == -1 || xs.length == 0) = true
  · exact ⟨xs.length, Nat.le_refl _, by simp [h]⟩
  · obtain ⟨n, hn, hle⟩ := autocut_no_panic_of_len2Safe o h2 (xs.map score) c
    rw [List.length_map] at hle
    refine ⟨n, hle, ?_⟩
    simp [h, hn, bind, Except.bind, sliceTo, hle]

/-- `AutocutResults` returns a prefix for all IEEE-like scores, including equal, infinite
    and NaN ones. -/
theorem autocut_results_no_panic (r : XR.Rounding) (score : α → XR) (xs : List α) (c : Int) :
    ∃ n, n ≤ xs.length ∧ autocutResults (XR.ops r) score xs c = .ok (xs.take n) :=
  autocut_prefix (XR.ops r) (XR.len2Safe r) score xs c

/-- cut-off −1 disables autocut: the whole input, for any operations -/
theorem autocut_disabled (o : FOps F) (score : α → F) (xs : List α) :
    autocutResults o score xs (-1) = .ok xs := by
  simp [autocutResults]

section Examples

/-- a toy scalar on ℕ for `decide`-able examples -/
def natScalar : Scalar Nat :=
  { zero := 0, add := (· + ·), divNat := fun a n => a / n,
    le := fun a b => decide (a ≤ b), lt := fun a b => decide (a < b) }

-- duplicates, ties, three kinds
example : (aggList natScalar .sum [⟨7, 3⟩, ⟨2, 5⟩, ⟨7, 4⟩, ⟨9, 5⟩, ⟨2, 1⟩]) =
    [⟨7, 7⟩, ⟨2, 6⟩, ⟨9, 5⟩] := by decide
example : (aggList natScalar .max [⟨7, 3⟩, ⟨2, 5⟩, ⟨7, 4⟩, ⟨9, 5⟩, ⟨2, 1⟩]) =
    [⟨7, 4⟩, ⟨2, 5⟩, ⟨9, 5⟩] := by decide
example : (aggList natScalar .mean [⟨7, 3⟩, ⟨2, 5⟩, ⟨7, 5⟩, ⟨9, 5⟩, ⟨2, 1⟩]) =
    [⟨7, 4⟩, ⟨2, 3⟩, ⟨9, 5⟩] := by decide
-- the hypotheses of `agg_perm_invariant` are satisfiable (ℚ), on a non-trivial permutation
example : (vecAggregate qScalar .mean [⟨2, 3⟩, ⟨1, 4⟩, ⟨1, 2⟩]).Perm
    (vecAggregate qScalar .mean [⟨2, 3⟩, ⟨1, 2⟩, ⟨1, 4⟩]) :=
  (agg_perm_invariant qScalar qScalar_ordered qScalar_antisymm
    (fun a b => add_comm a b) (fun a b c => add_assoc a b c) .mean
    ((List.Perm.swap _ _ _).cons _)).1

-- an unordered element exists in a concrete scalar (`none` plays NaN): the two arrival orders differ
example :
    let sc : Scalar (Option Nat) :=
      { zero := some 0, add := fun a _ => a, divNat := fun a _ => a,
        le := fun a b => match a, b with | some x, some y => decide (x ≤ y) | _, _ => false,
        lt := fun a b => match a, b with | some x, some y => decide (x < y) | _, _ => false }
    reduceVec sc .max [none, some 1] ≠ reduceVec sc .max [some 1, none] := by decide

example : limitResults 2 [10, 20, 30] = [10, 20] := by decide
example : limitResults 0 [10, 20, 30] = [10, 20, 30] := by decide
example : limitResults (-4) [10, 20, 30] = [10, 20, 30] := by decide
example : limitResults 7 [10, 20, 30] = [10, 20, 30] := by decide

/-- toy fixed-point operations on ℤ (unit 1/12, truncating): enough to run `Autocut` -/
def intOps : FOps Int :=
  { zero := 0, one := 12, ofNat := fun n => 12 * n, add := (· + ·), sub := (· - ·),
    mul := fun a b => a * b / 12, div := fun a b => a * 12 / b, gt := fun a b => decide (a > b) }

-- scores 0,1,4,4: the differences are [0, −1/12, 4/12, 0], a strict local maximum at index 2
example : autocutDiff intOps [0, 12, 48, 48] = .ok [0, -1, 4, 0] := by decide
example : autocut intOps [0, 12, 48, 48] 1 = .ok 2 := by decide
example : autocutResults intOps id [0, 12, 48, 48] 1 = .ok [0, 12] := by decide
example : autocutResults intOps id [0, 12, 48, 48] (-1) = .ok [0, 12, 48, 48] := by decide
-- a cut-off larger than the number of extrema keeps everything; cut-off ≤ 0 behaves like 1
example : autocut intOps [0, 12, 48, 48] 2 = .ok 4 := by decide
example : autocut intOps [0, 12, 48, 48] (-7) = .ok 2 := by decide
-- the last element can be the extremum (this is the branch that reads `diff[i-2]`)
example : autocutDiff intOps [0, 0, 0, 48] = .ok [0, -4, -8, 0] := by decide
example : autocut intOps [0, 0, 0, 48] 1 = .ok 3 := by decide
-- `Len2Safe` is a real hypothesis: operations violating it make the model panic …
example : autocut { intOps with gt := fun _ _ => true } [5, 5] 1 = .error (.index (-1) 2) := by
  decide
-- … and the XR operations satisfy it (`XR.len2Safe`), e.g. two equal scores, or NaN, +∞,
-- −∞ and −0: all are instances of `autocut_no_panic`.
example (r : XR.Rounding) : ∃ n, autocut (XR.ops r) [.fin 3, .fin 3] 1 = .ok n ∧ n ≤ 2 :=
  autocut_no_panic r _ _
example (r : XR.Rounding) : ∃ n, autocut (XR.ops r) [.nan, .pinf, .ninf, .nzero] 0 = .ok n ∧ n ≤ 4 :=
  autocut_no_panic r _ _
/-- a rounding exists (the identity on ℚ): the theorem is not vacuous -/
def exactRounding : XR.Rounding := ⟨XR.fin, rfl, rfl, rfl⟩

end Examples

end Comet
