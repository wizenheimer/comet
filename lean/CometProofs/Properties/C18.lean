/-
  C18 — distance functions obey the metric laws the indexes rely on.

  Property theorems and non-vacuity examples; the lemmas (and the links to Mathlib's
  `dist`, `‖·‖`, `inner`) are in CometProofs/Distance.lean.

  `R = Dist.realOps` is the ℝ instance of the scalar operations the
  model of distance.go (Comet/Distance.lean) is written over; `euclid R`, `l2sq R`,
  `cosine R`, `cosPre R`, `norm R`, `scale R`, `normalize R`, `calculate R k`,
  `preprocess R k`, `calculateBatch R k` are *the same definitions* the driver executes
  at `Float32` (bit for bit against the Go code on every run), read at exact real
  arithmetic: this is the meaning of the property "up to float32 accumulation error".
  Vectors are lists; "equal length" is an explicit hypothesis where it is needed.
  `vecN n a` is the point of `EuclideanSpace ℝ (Fin n)` a list of length `n` denotes.
-/
import CometProofs.Distance
namespace Comet.Dist
local notation "R" => realOps

theorem euclid_nonneg (a b : List ℝ) : 0 ≤ euclid R a b := Real.sqrt_nonneg _

theorem l2sq_nonneg (a b : List ℝ) : 0 ≤ l2sq R a b := sumSqDiff_nonneg a b

theorem l2sq_symm (a b : List ℝ) : l2sq R a b = l2sq R b a := by
  show sumSqDiff R a b = sumSqDiff R b a
  rw [sumSqDiff_eq, sumSqDiff_eq, List.zipWith_comm]
  simp only [sub_sq_comm]

theorem euclid_symm (a b : List ℝ) : euclid R a b = euclid R b a := by
  show Real.sqrt (l2sq R a b) = Real.sqrt (l2sq R b a)
  rw [l2sq_symm]

theorem l2sq_self (a : List ℝ) : l2sq R a a = 0 := by
  show sumSqDiff R a a = 0
  rw [sumSqDiff_eq, List.zipWith_self]
  simp

theorem euclid_self (a : List ℝ) : euclid R a a = 0 := by
  show Real.sqrt (l2sq R a a) = 0
  rw [l2sq_self, Real.sqrt_zero]

/-- squared-Euclidean is the square of Euclidean -/
theorem l2sq_eq_euclid_sq (a b : List ℝ) : l2sq R a b = euclid R a b ^ 2 :=
  (Real.sq_sqrt (sumSqDiff_nonneg a b)).symm

/-- the model's Euclidean distance *is* the metric of Euclidean space -/
theorem euclid_is_dist (n : ℕ) (a b : List ℝ) (ha : a.length = n) (hb : b.length = n) :
    euclid R a b = dist (vecN n a) (vecN n b) := euclid_eq_dist n a b ha hb

/-- the triangle inequality, for all vectors of equal length (from `euclid_is_dist`) -/
theorem euclid_triangle (a b c : List ℝ) (hab : a.length = b.length) (hbc : b.length = c.length) :
    euclid R a c ≤ euclid R a b + euclid R b c := by
  rw [euclid_eq_dist c.length a c (hab.trans hbc) rfl, euclid_eq_dist c.length a b (hab.trans hbc) hbc,
    euclid_eq_dist c.length b c hbc rfl]
  exact dist_triangle _ _ _

/-- separation (not demanded by the property text, but what makes it a metric) -/
theorem euclid_eq_zero_iff (a b : List ℝ) (h : a.length = b.length) :
    euclid R a b = 0 ↔ a = b := by
  constructor
  · intro h0
    rw [euclid_eq_dist b.length a b h rfl, dist_eq_zero] at h0
    apply List.ext_getElem h
    intro i h1 h2
    have := congrArg (fun v : EuclideanSpace ℝ (Fin b.length) => v ⟨i, h2⟩) h0
    simpa [vecN, List.getD_eq_getElem?_getD, h1, h2] using this
  · rintro rfl; exact euclid_self a

/-- range [0, 2] for ARBITRARY inputs (normalised or not, any lengths): by the clamp -/
theorem cosine_range (a b : List ℝ) : 0 ≤ cosine R a b ∧ cosine R a b ≤ 2 := by
  rw [cosine_eq]
  have h1 : max (-1) (min 1 (dot R a b)) ≤ 1 := max_le (by norm_num) (min_le_left _ _)
  have h2 : -1 ≤ max (-1) (min 1 (dot R a b)) := le_max_left _ _
  exact ⟨sub_nonneg.2 h1, by linarith⟩

theorem cosine_nonneg (a b : List ℝ) : 0 ≤ cosine R a b := (cosine_range a b).1

theorem cosine_symm (a b : List ℝ) : cosine R a b = cosine R b a := by
  rw [cosine_eq, cosine_eq, dot_comm]

/-- a zero vector is rejected by cosine preprocessing — and only a zero vector is -/
theorem pre_zero_rejected (a : List ℝ) : cosPre R a = none ↔ ∀ x ∈ a, x = 0 := by
  rw [cosPre_eq, ← norm_eq_zero_iff]
  by_cases h : norm R a = 0 <;> simp [h]

/-- cosine preprocessing yields a unit vector of the same length (in place or as a copy: the
    same function gives the new buffer content) -/
theorem pre_unit (a a' : List ℝ) (h : cosPre R a = some a') :
    norm R a' = 1 ∧ a'.length = a.length := by
  rw [cosPre_eq] at h
  split at h
  · cases h
  next hn =>
    obtain rfl := Option.some.inj h
    exact ⟨norm_unit a hn, List.length_map _⟩

/-- cosine distance after preprocessing = 1 − ⟪a,b⟫ / (‖a‖‖b‖), the clamp being inactive
    by Cauchy–Schwarz; stated with the model's own dot and norm -/
theorem cosine_eq_one_sub_cos (a b : List ℝ) (hlen : a.length = b.length)
    (ha : ∃ x ∈ a, x ≠ 0) (hb : ∃ x ∈ b, x ≠ 0) :
    ∃ a' b', cosPre R a = some a' ∧ cosPre R b = some b' ∧
      cosine R a' b' = 1 - dot R a b / (norm R a * norm R b) := by
  have hpa := norm_pos a ha
  have hpb := norm_pos b hb
  refine ⟨_, _, by rw [cosPre_eq, if_neg hpa.ne'], by rw [cosPre_eq, if_neg hpb.ne'], ?_⟩
  rw [cosine_eq, dot_map_mul, one_div_mul_one_div, one_div_mul_eq_div]
  -- the clamp is inactive: |⟪a,b⟫| ≤ ‖a‖‖b‖
  have hle : |dot R a b / (norm R a * norm R b)| ≤ 1 := by
    rw [abs_div, abs_of_pos (mul_pos hpa hpb)]
    exact div_le_one_of_le₀ (abs_dot_le a b hlen) (mul_pos hpa hpb).le
  obtain ⟨h1, h2⟩ := abs_le.1 hle
  rw [min_eq_right h2, max_eq_right h1]

/-- the same with Mathlib's angle: the distance equals 1 minus the cosine of the angle
    between the raw vectors -/
theorem cosine_eq_one_sub_cos_angle (n : ℕ) (a b : List ℝ) (hla : a.length = n) (hlb : b.length = n)
    (ha : ∃ x ∈ a, x ≠ 0) (hb : ∃ x ∈ b, x ≠ 0) :
    ∃ a' b', cosPre R a = some a' ∧ cosPre R b = some b' ∧
      cosine R a' b' = 1 - Real.cos (InnerProductGeometry.angle (vecN n a) (vecN n b)) := by
  obtain ⟨a', b', h1, h2, h3⟩ := cosine_eq_one_sub_cos a b (hla.trans hlb.symm) ha hb
  refine ⟨a', b', h1, h2, ?_⟩
  rw [h3, InnerProductGeometry.cos_angle, dot_eq_inner n a b hla hlb, norm_eq_norm n a hla,
    norm_eq_norm n b hlb]

/-- zero between a vector and itself after preprocessing -/
theorem cosine_self_zero (a a' : List ℝ) (h : cosPre R a = some a') : cosine R a' a' = 0 := by
  have hu := (pre_unit a a' h).1
  have : dot R a' a' = 1 := by
    rw [← sumSq_eq_dot, ← norm_sq, hu]; norm_num
  rw [cosine_eq, this]
  norm_num

/-- invariance under positive scaling of the raw vector: preprocessing maps `s·a` and
    `a` to the SAME vector -/
theorem pre_scale_invariant (a : List ℝ) (s : ℝ) (hs : 0 < s) :
    cosPre R (scale R a s) = cosPre R a := by
  have hsc : scale R a s = a.map (· * s) := rfl
  rw [hsc, cosPre_eq, cosPre_eq, norm_map_mul a s hs.le]
  by_cases hn : norm R a = 0
  · rw [hn, mul_zero, if_pos rfl, if_pos rfl]
  · rw [if_neg (mul_ne_zero hs.ne' hn), if_neg hn, List.map_map]
    refine congrArg some (List.map_congr_left fun x _ => ?_)
    show x * s * (1 / (s * norm R a)) = x * (1 / norm R a)
    rw [mul_assoc, one_div, one_div, mul_inv, ← mul_assoc s, mul_inv_cancel₀ hs.ne', one_mul]

/-- the distance is invariant under positive scaling of either argument -/
theorem cosine_scale_invariant (a b : List ℝ) (s t : ℝ) (hs : 0 < s) (ht : 0 < t) :
    (do let a' ← cosPre R (scale R a s); let b' ← cosPre R (scale R b t); pure (cosine R a' b')) =
    (do let a' ← cosPre R a; let b' ← cosPre R b; pure (cosine R a' b')) := by
  rw [pre_scale_invariant a s hs, pre_scale_invariant b t ht]

/-- every distance kind is non-negative (for cosine: on arbitrary inputs) -/
theorem calculate_nonneg (k : Kind) (a b : List ℝ) : 0 ≤ calculate R k a b := by
  cases k
  · exact euclid_nonneg a b
  · exact l2sq_nonneg a b
  · exact cosine_nonneg a b

/-- every distance kind is symmetric -/
theorem calculate_symm (k : Kind) (a b : List ℝ) : calculate R k a b = calculate R k b a := by
  cases k
  · exact euclid_symm a b
  · exact l2sq_symm a b
  · exact cosine_symm a b

/-- every distance kind is zero between a vector and itself after the kind's preprocessing -/
theorem calculate_self_zero (k : Kind) (a a' : List ℝ) (h : preprocess R k a = some a') :
    calculate R k a' a' = 0 := by
  cases k
  · exact euclid_self a'
  · exact l2sq_self a'
  · exact cosine_self_zero a a' h

/-- the L2 kinds' preprocessing is the identity (Go returns the argument slice itself) -/
theorem pre_l2_identity (a : List ℝ) : preprocess R .l2 a = some a ∧ preprocess R .l2sq a = some a :=
  ⟨rfl, rfl⟩

theorem norm_def (a : List ℝ) : norm R a = Real.sqrt ((a.map (· ^ 2)).sum) := by
  show Real.sqrt (sumSq R a) = _
  rw [sumSq_eq]

/-- the model's `Norm` is the Euclidean norm of Mathlib -/
theorem norm_is_norm (n : ℕ) (a : List ℝ) (ha : a.length = n) : norm R a = ‖vecN n a‖ :=
  norm_eq_norm n a ha

theorem scale_def (a : List ℝ) (s : ℝ) :
    (scale R a s).length = a.length ∧
    ∀ (i : ℕ) (h : i < a.length), (scale R a s)[i]? = some (a[i] * s) := by
  refine ⟨List.length_map _, fun i h => ?_⟩
  rw [scale, List.getElem?_map, List.getElem?_eq_getElem h]
  rfl

theorem normalize_def (a : List ℝ) (h : ∃ x ∈ a, x ≠ 0) :
    normalize R a = a.map (· / norm R a) ∧ norm R (normalize R a) = 1 := by
  have hn : norm R a ≠ 0 := (norm_pos a h).ne'
  rw [normalize_eq, if_neg hn]
  exact ⟨List.map_congr_left fun x _ => mul_one_div x _, norm_unit a hn⟩

/-- `Normalize` of a zero vector is that vector (no NaN) -/
theorem normalize_zero (a : List ℝ) (h : ∀ x ∈ a, x = 0) : normalize R a = a := by
  rw [normalize_eq, if_pos ((norm_eq_zero_iff a).2 h)]

/-- `Normalize` agrees with cosine preprocessing wherever the latter is defined -/
theorem normalize_eq_cosPre (a a' : List ℝ) (h : cosPre R a = some a') : normalize R a = a' := by
  rw [cosPre_eq] at h
  rw [normalize_eq]
  split at h
  · cases h
  next hn => rw [if_neg hn]; exact Option.some.inj h

/-! ### batch evaluation equals element-wise evaluation — for EVERY scalar instance,
    in particular literally for the `Float32` instance the driver executes -/

theorem batch_eq_map' {S : Type} (o : Ops S) (k : Kind) (qs : List (List S)) (t : List S) :
    calculateBatch o k qs t = qs.map fun q => calculate o k q t :=
  batch_eq_map o k qs t

section Examples
-- the hypotheses of `cosine_eq_one_sub_cos` are satisfiable: a = (3,4), b = (4,3)
example : ∃ a' b', cosPre R [3, 4] = some a' ∧ cosPre R [4, 3] = some b' ∧
    cosine R a' b' = 1 - dot R [3, 4] [4, 3] / (norm R [3, 4] * norm R [4, 3]) :=
  cosine_eq_one_sub_cos [3, 4] [4, 3] rfl ⟨3, by simp, by norm_num⟩ ⟨4, by simp, by norm_num⟩
example : l2sq R [0, 0] [3, 4] = 25 := by
  show sumSqDiff R [0, 0] [3, 4] = 25
  rw [sumSqDiff_eq]; norm_num
example : euclid R [0, 0] [3, 4] = 5 := by
  show Real.sqrt (sumSqDiff R [0, 0] [3, 4]) = 5
  rw [sumSqDiff_eq, Real.sqrt_eq_iff_mul_self_eq_of_pos (by norm_num)]; norm_num
-- the clamp is what gives the range on non-normalised input: dot = 25, distance = 0
example : cosine R [3, 4] [3, 4] = 0 := by
  rw [cosine_eq, dot_eq]; norm_num
example : cosine R [1, 0] [-1, 0] = 2 := by
  rw [cosine_eq, dot_eq]; norm_num
example : cosPre R [0, 0, 0] = none := (pre_zero_rejected _).2 (by simp)
end Examples

end Comet.Dist
