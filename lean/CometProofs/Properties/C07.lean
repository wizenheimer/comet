/-
  C07 — serialising and reloading any index preserves its content.

  The models are in Comet/Codec/*.lean (one `encode`/`decode` pair per index kind, written
  after the Go field order), the helper lemmas in CometProofs/Codec/*.lean.

    * `bm : BlobCodec` is the roaring library's `ToBytes` / `UnmarshalBinary`, a
      PARAMETER: `bm.Lawful dom` is the assumption `UnmarshalBinary (ToBytes b) = b` (and
      `|ToBytes b| < 2^32`) for the bitmaps in `dom`; `Meta.NonEmpty` says a blob is never
      empty.  The executable roaring model the driver uses is validated byte for byte
      against the real library on every run, not proved lawful.
    * `K.writeTo bm s = (s', bytes, n)`: the source index after `WriteTo` (it is flushed),
      the stream, and the byte count `WriteTo` REPORTS (computed like the Go closure does:
      by a type switch on the static type of each written value, or a manual `+=` after a
      raw `w.Write`).  `K.encode bm s` is the stream.  (BM25 and hybrid also take `avg`;
      hybrid returns its four streams and no count.)
    * `K.decodeC bm p inp = ok ((s', n), rest)`: `ReadFrom` of a receiver constructed with
      parameters `p`: new content, REPORTED read count, unread rest.  `K.decode` forgets `n`.
      (BM25 and metadata have no `p`; IVFPQ also takes the receiver's codebooks, `[]` here.)
    * `K.wf s` is the explicit decidable well-formedness of a state (sizes fit their
      fields, stored vectors have the index's dimension, a trained index has its
      centroids / codebooks, map keys are distinct): what every reachable state satisfies.
    * `roundtrip_K … (encode s ++ rest) = ok (forget (flush s), rest)` says at once "reads
      back the flushed content" and "consumes exactly its own bytes" (the arbitrary `rest`
      is left untouched) — for every order in which Go may iterate its maps (the model
      writes map entries in list order and the theorem holds for every list).
    * PQ / IVFPQ (and a hybrid index over one): `forget` drops the raw vectors, which the
      stream does not carry (the property excludes node-id queries for them).
  "Answers every query identically" and "accepts further adds and removals" follow from
  equality of content for any search / update function of the content; for the real
  code they are checked by the correspondence stream `codec` (the search models of the
  individual kinds are other properties' business).
-/
import CometProofs.Codec.Eval
import CometProofs.Codec.Hybrid
import CometProofs.Flat
import CometProofs.Codec.Example
namespace Comet.Codec.C07
open Comet.Codec

variable (bm : BlobCodec) (dom : List Nat → Prop)

theorem roundtrip_flat (hbm : bm.Lawful dom) (h0 : dom []) (s : Flat.State)
    (hwf : Flat.wf s = true) (rest : Bytes) :
    Flat.decode bm s.params (Flat.encode bm s ++ rest) = .ok (Flat.flush s, rest) :=
  run_of_reads (Flat.reads_encode bm dom hbm h0 s hwf) rest

/-- the count `ReadFrom` reports is the stream length (and the rest is left unread) -/
theorem count_read_flat (hbm : bm.Lawful dom) (h0 : dom []) (s : Flat.State)
    (hwf : Flat.wf s = true) (rest : Bytes) :
    Flat.decodeC bm s.params (Flat.encode bm s ++ rest) =
      .ok ((Flat.flush s, (Flat.encode bm s).length), rest) :=
  count_of_reads (Flat.reads_encode bm dom hbm h0 s hwf) rest

/-- the count `WriteTo` reports is the stream length -/
theorem count_write_flat (s : Flat.State) :
    (Flat.writeTo bm s).2.2 = (Flat.encode bm s).length := by
  simp only [Flat.writeTo, Flat.encode, Flat.encodeRaw]
  exact reported_of_all _ _ (by simp [Flat.items, Flat.vecItems, wLenBytes, List.all_flatMap, Flat.swW])

/-- `WriteTo` leaves the source index flushed, nothing else; doing it again changes nothing -/
theorem write_is_flush_flat (s : Flat.State) :
    (Flat.writeTo bm s).1 = Flat.flush s ∧
    Flat.writeTo bm (Flat.writeTo bm s).1 = Flat.writeTo bm s := by
  refine ⟨rfl, ?_⟩
  simp only [Flat.writeTo, Flat.flush_flush]

/-- … and the codec's flush is the search model's flush (C01's `Flat.step … .flush`) -/
theorem write_is_flush_flat_model {S : Type} (m : Metric (List Nat) S) (mk : Bytes)
    (st : Comet.Flat.State (List Nat)) :
    Flat.flush (Flat.ofModel mk st) = Flat.ofModel mk (Comet.Flat.step m st .flush).1 := by
  unfold Flat.flush Comet.Flat.step Flat.ofModel
  by_cases h : st.deleted.isEmpty
  · simp [h]
  · simp only [h, Bool.false_eq_true, if_false]
    congr 1
    apply List.filter_congr
    intro p _
    simp

/-- no soft-deleted id occurs in the stream's content -/
theorem removed_absent_from_stream_flat (hbm : bm.Lawful dom) (h0 : dom []) (s : Flat.State)
    (hwf : Flat.wf s = true) :
    ∃ s', Flat.decode bm s.params (Flat.encode bm s) = .ok (s', []) ∧ s'.deleted = [] ∧
      ∀ id ∈ s.deleted, id ∉ Flat.streamIds s' := by
  refine ⟨Flat.flush s, ?_, Flat.flush_deleted s, Flat.removed_absent s⟩
  simpa using roundtrip_flat bm dom hbm h0 s hwf []

theorem roundtrip_ivf (hbm : bm.Lawful dom) (h0 : dom []) (s : IVF.State)
    (hwf : IVF.wf s = true) (rest : Bytes) :
    IVF.decode bm s.params (IVF.encode bm s ++ rest) = .ok (IVF.flush s, rest) :=
  run_of_reads (IVF.reads_encode bm dom hbm h0 s hwf) rest

theorem count_read_ivf (hbm : bm.Lawful dom) (h0 : dom []) (s : IVF.State)
    (hwf : IVF.wf s = true) (rest : Bytes) :
    IVF.decodeC bm s.params (IVF.encode bm s ++ rest) =
      .ok ((IVF.flush s, (IVF.encode bm s).length), rest) :=
  count_of_reads (IVF.reads_encode bm dom hbm h0 s hwf) rest

theorem count_write_ivf (s : IVF.State) :
    (IVF.writeTo bm s).2.2 = (IVF.encode bm s).length := by
  simp only [IVF.writeTo, IVF.encode, IVF.encodeRaw]
  exact reported_of_all _ _ (by
    simp [IVF.items, IVF.centroidItems, IVF.listItems, IVF.entryItems, wLenBytes,
      List.all_flatMap, IVF.swW, all_ite])

theorem write_is_flush_ivf (s : IVF.State) :
    (IVF.writeTo bm s).1 = IVF.flush s ∧
    IVF.writeTo bm (IVF.writeTo bm s).1 = IVF.writeTo bm s := by
  refine ⟨rfl, ?_⟩
  simp only [IVF.writeTo, IVF.flush_flush]

theorem removed_absent_from_stream_ivf (hbm : bm.Lawful dom) (h0 : dom []) (s : IVF.State)
    (hwf : IVF.wf s = true) :
    ∃ s', IVF.decode bm s.params (IVF.encode bm s) = .ok (s', []) ∧ s'.deleted = [] ∧
      ∀ id ∈ s.deleted, id ∉ IVF.streamIds s' := by
  refine ⟨IVF.flush s, ?_, IVF.flush_deleted s, IVF.removed_absent s⟩
  simpa using roundtrip_ivf bm dom hbm h0 s hwf []

theorem roundtrip_pq (hbm : bm.Lawful dom) (h0 : dom []) (s : PQ.State)
    (hwf : PQ.wf s = true) (rest : Bytes) :
    PQ.decode bm s.params (PQ.encode bm s ++ rest) = .ok (PQ.forget (PQ.flush s), rest) :=
  run_of_reads (PQ.reads_encode bm dom hbm h0 s hwf) rest

/-- a reloaded PQ index holds no raw vectors (node-id queries are excluded by the property) -/
theorem reload_pq_no_vectors (hbm : bm.Lawful dom) (h0 : dom []) (s : PQ.State)
    (hwf : PQ.wf s = true) :
    ∃ s', PQ.decode bm s.params (PQ.encode bm s) = .ok (s', []) ∧ ∀ e ∈ s'.entries, e.vec = none := by
  refine ⟨PQ.forget (PQ.flush s), by simpa using roundtrip_pq bm dom hbm h0 s hwf [], ?_⟩
  intro e he
  simp only [PQ.forget, List.mem_map] at he
  obtain ⟨e', _, rfl⟩ := he
  rfl

theorem count_read_pq (hbm : bm.Lawful dom) (h0 : dom []) (s : PQ.State)
    (hwf : PQ.wf s = true) (rest : Bytes) :
    PQ.decodeC bm s.params (PQ.encode bm s ++ rest) =
      .ok ((PQ.forget (PQ.flush s), (PQ.encode bm s).length), rest) :=
  count_of_reads (PQ.reads_encode bm dom hbm h0 s hwf) rest

theorem count_write_pq (s : PQ.State) :
    (PQ.writeTo bm s).2.2 = (PQ.encode bm s).length := by
  simp only [PQ.writeTo, PQ.encode, PQ.encodeRaw]
  exact reported_of_all _ _ (by
    simp [PQ.items, PQ.codebookItems, PQ.entryItems, wLenBytes, List.all_flatMap, PQ.swW, all_ite])

theorem write_is_flush_pq (s : PQ.State) :
    (PQ.writeTo bm s).1 = PQ.flush s ∧
    PQ.writeTo bm (PQ.writeTo bm s).1 = PQ.writeTo bm s := by
  refine ⟨rfl, ?_⟩
  simp only [PQ.writeTo, PQ.flush_flush]

theorem removed_absent_from_stream_pq (hbm : bm.Lawful dom) (h0 : dom []) (s : PQ.State)
    (hwf : PQ.wf s = true) :
    ∃ s', PQ.decode bm s.params (PQ.encode bm s) = .ok (s', []) ∧ s'.deleted = [] ∧
      ∀ id ∈ s.deleted, id ∉ PQ.streamIds s' := by
  refine ⟨PQ.forget (PQ.flush s), by simpa using roundtrip_pq bm dom hbm h0 s hwf [],
    PQ.flush_deleted s, ?_⟩
  rw [PQ.streamIds_forget]
  exact PQ.removed_absent s

theorem roundtrip_ivfpq (hbm : bm.Lawful dom) (h0 : dom []) (s : IVFPQ.State)
    (hwf : IVFPQ.wf s = true) (rest : Bytes) :
    IVFPQ.decode bm s.params (IVFPQ.encode bm s ++ rest) =
      .ok (IVFPQ.forget (IVFPQ.flush s), rest) :=
  run_of_reads (IVFPQ.reads_encode bm dom hbm h0 s hwf) rest

theorem count_read_ivfpq (hbm : bm.Lawful dom) (h0 : dom []) (s : IVFPQ.State)
    (hwf : IVFPQ.wf s = true) (rest : Bytes) :
    IVFPQ.decodeC bm s.params [] (IVFPQ.encode bm s ++ rest) =
      .ok ((IVFPQ.forget (IVFPQ.flush s), (IVFPQ.encode bm s).length), rest) :=
  count_of_reads (IVFPQ.reads_encode bm dom hbm h0 s hwf) rest

theorem count_write_ivfpq (s : IVFPQ.State) :
    (IVFPQ.writeTo bm s).2.2 = (IVFPQ.encode bm s).length := by
  simp only [IVFPQ.writeTo, IVFPQ.encode, IVFPQ.encodeRaw]
  exact reported_of_all _ _ (by
    simp [IVFPQ.items, IVFPQ.f32ListItems, IVFPQ.listItems, IVFPQ.entryItems, wLenBytes,
      List.all_flatMap, IVFPQ.swW, all_ite])

theorem write_is_flush_ivfpq (s : IVFPQ.State) :
    (IVFPQ.writeTo bm s).1 = IVFPQ.flush s ∧
    IVFPQ.writeTo bm (IVFPQ.writeTo bm s).1 = IVFPQ.writeTo bm s := by
  refine ⟨rfl, ?_⟩
  simp only [IVFPQ.writeTo, IVFPQ.flush_flush]

theorem removed_absent_from_stream_ivfpq (hbm : bm.Lawful dom) (h0 : dom []) (s : IVFPQ.State)
    (hwf : IVFPQ.wf s = true) :
    ∃ s', IVFPQ.decode bm s.params (IVFPQ.encode bm s) = .ok (s', []) ∧ s'.deleted = [] ∧
      ∀ id ∈ s.deleted, id ∉ IVFPQ.streamIds s' := by
  refine ⟨IVFPQ.forget (IVFPQ.flush s), by simpa using roundtrip_ivfpq bm dom hbm h0 s hwf [],
    IVFPQ.flush_deleted s, ?_⟩
  rw [IVFPQ.streamIds_forget]
  exact IVFPQ.removed_absent s

theorem roundtrip_hnsw (hbm : bm.Lawful dom) (h0 : dom []) (s : HNSW.State)
    (hwf : HNSW.wf s = true) (rest : Bytes) :
    HNSW.decode bm s.params (HNSW.encode bm s ++ rest) = .ok (HNSW.flush s, rest) :=
  run_of_reads (HNSW.reads_encode bm dom hbm h0 s hwf) rest

theorem count_read_hnsw (hbm : bm.Lawful dom) (h0 : dom []) (s : HNSW.State)
    (hwf : HNSW.wf s = true) (rest : Bytes) :
    HNSW.decodeC bm s.params (HNSW.encode bm s ++ rest) =
      .ok ((HNSW.flush s, (HNSW.encode bm s).length), rest) :=
  count_of_reads (HNSW.reads_encode bm dom hbm h0 s hwf) rest

theorem count_write_hnsw (s : HNSW.State) :
    (HNSW.writeTo bm s).2.2 = (HNSW.encode bm s).length := by
  simp only [HNSW.writeTo, HNSW.encode, HNSW.encodeRaw]
  exact reported_of_all _ _ (by
    simp [HNSW.items, HNSW.nodeItems, HNSW.edgeItems, wLenBytes, List.all_flatMap, HNSW.swW])

theorem write_is_flush_hnsw (s : HNSW.State) :
    (HNSW.writeTo bm s).1 = HNSW.flush s ∧
    HNSW.writeTo bm (HNSW.writeTo bm s).1 = HNSW.writeTo bm s := by
  refine ⟨rfl, ?_⟩
  simp only [HNSW.writeTo, HNSW.flush_flush]

theorem removed_absent_from_stream_hnsw (hbm : bm.Lawful dom) (h0 : dom []) (s : HNSW.State)
    (hwf : HNSW.wf s = true) :
    ∃ s', HNSW.decode bm s.params (HNSW.encode bm s) = .ok (s', []) ∧ s'.deleted = [] ∧
      ∀ id ∈ s.deleted, id ∉ HNSW.streamIds s' := by
  refine ⟨HNSW.flush s, ?_, HNSW.flush_deleted s, HNSW.removed_absent s⟩
  simpa using roundtrip_hnsw bm dom hbm h0 s hwf []

/-! ## BM25
    `avg tot n` stands for `float64(tot) / float64(n)` (a bit pattern): the theorems hold
    for every such function. -/

theorem roundtrip_bm25 (avg : Nat → Nat → Nat) (havg : ∀ t n, avg t n < 18446744073709551616)
    (hbm : bm.Lawful dom) (s : BM25.State) (hwf : BM25.wf s = true)
    (hdom : ∀ b ∈ BM25.bitmaps (BM25.flush avg s), dom b) (rest : Bytes) :
    BM25.decode bm (BM25.encode avg bm s ++ rest) = .ok (BM25.flush avg s, rest) :=
  run_of_reads (BM25.reads_encode avg havg bm dom hbm s hwf hdom) rest

theorem count_read_bm25 (avg : Nat → Nat → Nat) (havg : ∀ t n, avg t n < 18446744073709551616)
    (hbm : bm.Lawful dom) (s : BM25.State) (hwf : BM25.wf s = true)
    (hdom : ∀ b ∈ BM25.bitmaps (BM25.flush avg s), dom b) (rest : Bytes) :
    BM25.decodeC bm (BM25.encode avg bm s ++ rest) =
      .ok ((BM25.flush avg s, (BM25.encode avg bm s).length), rest) :=
  count_of_reads (BM25.reads_encode avg havg bm dom hbm s hwf hdom) rest

theorem count_write_bm25 (avg : Nat → Nat → Nat) (s : BM25.State) :
    (BM25.writeTo avg bm s).2.2 = (BM25.encode avg bm s).length := by
  simp only [BM25.writeTo, BM25.encode, BM25.encodeRaw]
  exact reported_of_all _ _ (by
    simp [BM25.items, BM25.docLenItems, BM25.docTokItems, BM25.postingItems, BM25.tfItems,
      wLenBytes, List.all_flatMap, BM25.swW])

theorem write_is_flush_bm25 (avg : Nat → Nat → Nat) (s : BM25.State) :
    (BM25.writeTo avg bm s).1 = BM25.flush avg s ∧
    BM25.writeTo avg bm (BM25.writeTo avg bm s).1 = BM25.writeTo avg bm s := by
  refine ⟨rfl, ?_⟩
  simp only [BM25.writeTo, BM25.flush_flush]

/-! ## metadata (Flush is a no-op; Remove clears the id from every bitmap at once) -/

theorem roundtrip_meta (hbm : bm.Lawful dom) (hne : Meta.NonEmpty bm dom) (s : Meta.State)
    (hwf : Meta.wf s = true) (hdom : ∀ b ∈ Meta.bitmaps s, dom b) (rest : Bytes) :
    Meta.decode bm (Meta.encode bm s ++ rest) = .ok (s, rest) :=
  run_of_reads (Meta.reads_encode bm dom hbm hne s hwf hdom) rest

theorem count_read_meta (hbm : bm.Lawful dom) (hne : Meta.NonEmpty bm dom) (s : Meta.State)
    (hwf : Meta.wf s = true) (hdom : ∀ b ∈ Meta.bitmaps s, dom b) (rest : Bytes) :
    Meta.decodeC bm (Meta.encode bm s ++ rest) = .ok ((s, (Meta.encode bm s).length), rest) :=
  count_of_reads (Meta.reads_encode bm dom hbm hne s hwf hdom) rest

theorem count_write_meta (s : Meta.State) :
    (Meta.writeTo bm s).2.2 = (Meta.encode bm s).length := by
  simp only [Meta.writeTo, Meta.encode, Meta.encodeRaw]
  exact reported_of_all _ _ (by
    simp [Meta.items, Meta.catItems, Meta.numItems, Meta.flush, wLenBytes, List.all_flatMap,
      Meta.swW])

theorem write_is_flush_meta (s : Meta.State) : (Meta.writeTo bm s).1 = s := rfl

/-! ## hybrid: four streams written, one concatenation read -/

theorem roundtrip_hybrid (avg : Nat → Nat → Nat) (havg : ∀ t n, avg t n < 18446744073709551616)
    (hbm : bm.Lawful dom) (hne : Meta.NonEmpty bm dom) (s : Hybrid.State)
    (hwf : Hybrid.wf s = true) (hdom : ∀ b ∈ Hybrid.bitmaps (Hybrid.flush avg s), dom b)
    (rest : Bytes) :
    Hybrid.decode bm s.params (Hybrid.encode avg bm s ++ rest) =
      .ok (Hybrid.forget (Hybrid.flush avg s), rest) :=
  run_of_reads (Hybrid.reads_encode avg havg bm dom hbm hne s hwf hdom) rest

/-- the concatenation hybrid ++ vector ++ text ++ metadata of the four streams `WriteTo`
    produced decodes to the flushed content, and bytes that follow are left unread -/
theorem hybrid_concat_decodes (avg : Nat → Nat → Nat)
    (havg : ∀ t n, avg t n < 18446744073709551616)
    (hbm : bm.Lawful dom) (hne : Meta.NonEmpty bm dom) (s : Hybrid.State)
    (hwf : Hybrid.wf s = true) (hdom : ∀ b ∈ Hybrid.bitmaps (Hybrid.flush avg s), dom b)
    (junk : Bytes) :
    let w := (Hybrid.writeTo avg bm s).2
    Hybrid.decode bm s.params (w.1 ++ w.2.1 ++ w.2.2.1 ++ w.2.2.2 ++ junk) =
      .ok (Hybrid.forget (Hybrid.flush avg s), junk) := by
  have := roundtrip_hybrid bm dom avg havg hbm hne s hwf hdom junk
  simpa [Hybrid.encode, Hybrid.encodeRaw, Hybrid.writeTo, List.append_assoc] using this

theorem count_read_hybrid (avg : Nat → Nat → Nat) (havg : ∀ t n, avg t n < 18446744073709551616)
    (hbm : bm.Lawful dom) (hne : Meta.NonEmpty bm dom) (s : Hybrid.State)
    (hwf : Hybrid.wf s = true) (hdom : ∀ b ∈ Hybrid.bitmaps (Hybrid.flush avg s), dom b)
    (rest : Bytes) :
    Hybrid.decodeC bm s.params (Hybrid.encode avg bm s ++ rest) =
      .ok ((Hybrid.forget (Hybrid.flush avg s), (Hybrid.encode avg bm s).length), rest) :=
  count_of_reads (Hybrid.reads_encode avg havg bm dom hbm hne s hwf hdom) rest

theorem write_is_flush_hybrid (avg : Nat → Nat → Nat) (s : Hybrid.State) :
    (Hybrid.writeTo avg bm s).1 = Hybrid.flush avg s ∧
    Hybrid.writeTo avg bm (Hybrid.writeTo avg bm s).1 = Hybrid.writeTo avg bm s := by
  refine ⟨rfl, ?_⟩
  simp only [Hybrid.writeTo, Hybrid.flush_flush]

/-! ## non-vacuity: the hypotheses are satisfiable by the instances of Codec/Example.lean
    (a lawful blob codec on a real domain; states with soft-deleted entries, a trained
    index, a deleted HNSW entry point, maps in non-sorted order, all three sub-indexes) -/

example : Example.listCodec.Lawful Example.dom ∧ Meta.NonEmpty Example.listCodec Example.dom ∧
    Example.dom [] :=
  ⟨Example.listCodec_lawful, Example.listCodec_nonEmpty, Example.dom_nil⟩
example : Flat.wf Example.flat1 = true ∧ Example.flat1.deleted ≠ [] ∧
    (Flat.flush Example.flat1).vecs.length = 2 := by decide +kernel
example : IVF.wf Example.ivf1 = true ∧ Example.ivf1.trained = true ∧
    IVF.streamIds (IVF.flush Example.ivf1) = [1, 4] := by decide +kernel
example : PQ.wf Example.pq1 = true ∧ PQ.streamIds (PQ.flush Example.pq1) = [2] := by decide +kernel
example : IVFPQ.wf Example.ivfpq1 = true ∧
    IVFPQ.streamIds (IVFPQ.flush Example.ivfpq1) = [1] := by decide +kernel
example : HNSW.wf Example.hnsw1 = true ∧ (HNSW.flush Example.hnsw1).entry = 8 ∧
    (HNSW.flush Example.hnsw1).maxLevel = 0 ∧
    (HNSW.flush Example.hnsw1).nodes = [(8, ⟨0, [1065353216], [[]]⟩)] := by decide +kernel
example : BM25.wf Example.bm25_1 = true ∧
    (BM25.flush (fun _ _ => 0) Example.bm25_1).postings.length = 2 ∧
    (∀ b ∈ BM25.bitmaps (BM25.flush (fun _ _ => 0) Example.bm25_1), Example.dom b) := by decide +kernel
example : Meta.wf Example.meta1 = true ∧ (∀ b ∈ Meta.bitmaps Example.meta1, Example.dom b) := by
  decide +kernel
example : Hybrid.wf Example.hybrid1 = true ∧
    (∀ b ∈ Hybrid.bitmaps (Hybrid.flush (fun _ _ => 0) Example.hybrid1), Example.dom b) := by decide +kernel

end Comet.Codec.C07
