/-
  C17 — a storage directory is owned by at most one open store at a time.

  Model: Comet/Storage/Lock.lean (its header says which Go line is which atomic step);
  invariant, helper lemmas and the definitions that occur in statements (`lockedOpenSteps`,
  `lockedOpenResult`, `openFailSteps`, `openFailResult`, `closeSched`, `openSched`, `after`):
  CometProofs/Storage/Lock.lean.

  `Reachable present progs s log`: state `s` with trace `log`
  (newest event first) is reached from the initial state — directory absent/present,
  no LOCK, thread `t` about to run the calls `progs t` — by SOME sequence of atomic
  steps, each taken by an arbitrary enabled actor (a thread, or a background worker
  of a handle).  Nothing bounds the number of threads, calls or steps.  Failures of
  `open` are injected by the program (`Call.open (some pos)`), so every theorem about
  reachable states covers every failure position and every interleaving.

  Assumptions (Comet/Storage/Lock.lean): the O_CREATE|O_EXCL create is one atomic
  step (atomic test-and-set on one file system); the clean-up system calls (close,
  unlink of the just created LOCK) do not fail.
-/
import CometProofs.Storage.Lock
namespace Comet.Lock

variable {present : Bool} {progs : Nat → List Call} {s : State} {log : List Ev}

/-- **lock_mutex** (full): in every reachable state — every interleaving, every
    failure injection — the LOCK entry names `o` exactly when `o` is between its
    successful create and its remove; at most one attempt is in that window; every
    usable handle holds the LOCK; hence at most one open has succeeded and not been
    closed. -/
theorem lock_mutex (hr : Reachable present progs s log) :
    (∀ o, s.dir.lock = some o ↔ Between log o) ∧
    (∀ o o', Between log o → Between log o' → o = o') ∧
    (∀ o, Live s o → s.dir.lock = some o) ∧
    (∀ o o', Live s o → Live s o' → o = o') := by
  obtain ⟨I, L⟩ := reachable_inv hr
  have hlive : ∀ o, Live s o → s.dir.lock = some o := fun o ho => I.fd_lock o ((I.hok o).live ho.1 ho.2).1
  have uniq : ∀ {o o'}, s.dir.lock = some o → s.dir.lock = some o' → o = o' :=
    fun h h' => Option.some.inj (h.symm.trans h')
  exact ⟨L.lock_between, fun o o' h h' => uniq ((L.lock_between o).2 h) ((L.lock_between o').2 h'),
    hlive, fun o o' h h' => uniq (hlive o h) (hlive o' h')⟩

/-- The path-based `os.Remove(LOCK)` only ever removes the caller's own LOCK: whoever is
    about to execute it (clean-up of a failed open, or Close) is the holder. -/
theorem remove_only_own_lock (hr : Reachable present progs s log) (t : Nat) :
    (∀ r, (s.threads t).pc = .oCleanup r → s.dir.lock = some (t, (s.threads t).idx)) ∧
    (∀ h, (s.threads t).pc = .cRemove h → s.dir.lock = some h) := by
  obtain ⟨I, _⟩ := reachable_inv hr
  refine ⟨fun r hpc => ?_, fun h hpc => (I.pre_at hpc).2.2.2⟩
  exact I.fd_lock _ (I.pre_at hpc).1

/-- Background workers (flush worker incl. its final flush in Close, compaction worker)
    only ever run — and hence only write segment files — while their handle holds the
    LOCK: Close removes the LOCK after both have exited. -/
theorem worker_alive_under_lock (hr : Reachable present progs s log) (h : Owner)
    (hrun : (s.handles h).running ≠ 0) : s.dir.lock = some h := by
  obtain ⟨I, _⟩ := reachable_inv hr
  exact I.fd_lock h ((I.hok h).running_fd hrun).2

/-- `releaseLock`'s `p.lockFile == nil` early return is dead code on the Close path:
    Close reaches it only with the descriptor still held. -/
theorem close_release_never_skips (hr : Reachable present progs s log) (t : Nat) (h : Owner)
    (hpc : (s.threads t).pc = .cRelease h) : (s.handles h).lockFile = true :=
  ((reachable_inv hr).1.pre_at hpc).1.2.2

/-- **open_locked_fails_unchanged** (full, whole call): on a locked directory an `open`
    — whatever failure is or is not injected — reports an error (`locked` unless the
    injected failure strikes first) and leaves the directory state and every handle
    exactly as they were (the `MkdirAll` of the existing directory is a no-op). -/
theorem open_locked_fails_unchanged (hr : Reachable present progs s log) {o' : Owner}
    (hlock : s.dir.lock = some o') {t : Nat} {f : Option OStep} {rest : List Call}
    (hidle : (s.threads t).pc = .idle) (htodo : (s.threads t).todo = .open f :: rest) :
    ∃ s', run s log (List.replicate (lockedOpenSteps f) (.thread t)) =
        some (s', Ev.ret t (s.threads t).idx (t, (s.threads t).idx) (lockedOpenResult f) ::
                  Ev.inv t (s.threads t).idx (.open f) :: log) ∧
      s'.dir = s.dir ∧ s'.handles = s.handles ∧
      (s'.threads t).results = lockedOpenResult f :: (s.threads t).results ∧
      (∀ t', t' ≠ t → s'.threads t' = s.threads t') := by
  have hp : s.dir.present = true := (reachable_inv hr).1.lock_present o' hlock
  have hinv := Step.invOpen t f rest hidle htodo
  by_cases h1 : f = some .mkdir
  · subst h1
    refine ⟨?_, run_step hinv (run_step (.mkdirFail t _ (pc_upd ..) rfl) ?run), ?eff⟩
    -- the logged events carry the call index as looked up in the intermediate state
    case run => simp only [State.call, upd_same]; rfl
    case eff =>
      refine ⟨rfl, rfl, ?_⟩
      simp only [ret_threads, upd_same, upd_upd, lockedOpenResult, true_and]
      exact fun t' h => upd_other _ _ _ _ h
  · -- mkdir of the existing directory changes nothing; the create step ends the call either way
    obtain ⟨hn, hres⟩ := lockedOpen_of_ne h1
    rw [hn]
    have hcreate : ∀ S : State, (S.threads t).pc = .oCreate f → S.dir.lock = some o' →
        Step S (.thread t) (S.ret t (t, (S.threads t).idx) (lockedOpenResult f)).1
          [Ev.ret t (S.threads t).idx (t, (S.threads t).idx) (lockedOpenResult f)] := fun S hpc hl => by
      by_cases h2 : f = some .create
      · subst h2; exact .createFail t _ hpc rfl
      · rw [hres h2]; exact .createLocked t f o' hpc h2 hl
    refine ⟨?_, run_step hinv (run_step (.mkdirOk t f (pc_upd ..) h1)
      (run_step (hcreate _ (pc_upd ..) hlock) ?run)), ?eff⟩
    case run => simp only [goto_threads, upd_same]; rfl
    case eff =>
      refine ⟨dir_present_eq _ hp, rfl, ?_⟩
      simp only [ret_threads, goto_threads, upd_same, upd_upd, true_and]
      exact fun t' h => upd_other _ _ _ _ h

/-- … and under every interleaving: each atomic step an `open` takes while the LOCK is
    held by someone (its mkdir, its create) leaves directory and handles unchanged, and
    the create step ends the call with an error.  Racing losers therefore never modify
    the directory. -/
theorem open_steps_on_locked_dir_unchanged (hr : Reachable present progs s log) {o' : Owner}
    (hlock : s.dir.lock = some o') {t : Nat} {f : Option OStep}
    (hpc : (s.threads t).pc = .oMkdir f ∨ (s.threads t).pc = .oCreate f)
    {s' : State} {ev : List Ev} (hs : step s (.thread t) = some (s', ev)) :
    s'.dir = s.dir ∧ s'.handles = s.handles ∧
    ((s.threads t).pc = .oCreate f →
      (s'.threads t).pc = .idle ∧
      ((s'.threads t).results = .errLocked :: (s.threads t).results ∨
       (s'.threads t).results = .errCreate :: (s.threads t).results)) := by
  have hp : s.dir.present = true := (reachable_inv hr).1.lock_present o' hlock
  -- `step` is a function: name the step taken and read off its effect
  rcases hpc with hpc | hpc
  · by_cases h1 : f = some .mkdir
    · cases hs.symm.trans (Step.mkdirFail t f hpc h1).step
      exact ⟨rfl, rfl, fun h => nomatch hpc.symm.trans h⟩
    · cases hs.symm.trans (Step.mkdirOk t f hpc h1).step
      exact ⟨dir_present_eq _ hp, rfl, fun h => nomatch hpc.symm.trans h⟩
  · by_cases h2 : f = some .create
    · cases hs.symm.trans (Step.createFail t f hpc h2).step
      exact ⟨rfl, rfl, fun _ => ⟨pc_upd .., .inr (congrArg Thread.results (upd_same ..))⟩⟩
    · cases hs.symm.trans (Step.createLocked t f o' hpc h2 hlock).step
      exact ⟨rfl, rfl, fun _ => ⟨pc_upd .., .inl (congrArg Thread.results (upd_same ..))⟩⟩

/-- **failed_open_leaves_no_lock** (full, every interleaving, every failure position):
    once an `open` has returned anything but a handle, its attempt is not between create
    and remove — no LOCK of it is left behind. -/
theorem failed_open_leaves_no_lock (hr : Reachable present progs s log) {t i : Nat} {f : Option OStep}
    {o : Owner} {r : Res} (hinv : Ev.inv t i (.open f) ∈ log) (hret : Ev.ret t i o r ∈ log)
    (hfail : r ≠ .opened) :
    o = (t, i) ∧ ¬ Between log (t, i) ∧ s.dir.lock ≠ some (t, i) := by
  obtain ⟨_, L⟩ := reachable_inv hr
  have hk := L.ret_kind t i _ o r hinv hret
  simp only [Call.mayReturn] at hk
  obtain ⟨rfl, _⟩ := hk
  have hb := L.failed_no_lock t i r hret hfail
  exact ⟨rfl, hb, fun hl => hb ((L.lock_between _).1 hl)⟩

/-- … and per failure position, run on its own from an unlocked directory: the call
    reports the matching error, the directory has no LOCK afterwards, no segment file
    was touched, and every handle (its own included) is as before. -/
theorem failed_open_alone_leaves_no_lock (hr : Reachable present progs s log) {t : Nat} {p : OStep}
    {rest : List Call} (hlock : s.dir.lock = none)
    (hidle : (s.threads t).pc = .idle) (htodo : (s.threads t).todo = .open (some p) :: rest) :
    ∃ s' log', run s log (List.replicate (openFailSteps p) (.thread t)) = some (s', log') ∧
      s'.dir.lock = none ∧ s'.dir.writes = s.dir.writes ∧
      (s'.threads t).results = openFailResult p :: (s.threads t).results ∧
      s'.handles = s.handles := by
  have hfresh := fresh_at_idle (reachable_inv hr).1 hidle
  have hinv := Step.invOpen t _ rest hidle htodo
  -- past the create, the clean-up step undoes what the attempt did to its (fresh) handle
  cases p with
  | mkdir =>
    refine ⟨_, _, run_step hinv (run_step (.mkdirFail t _ (pc_upd ..) rfl) rfl), hlock, rfl, ?_, rfl⟩
    simp only [State.call, ret_threads, upd_same]; rfl
  | create =>
    refine ⟨_, _, run_step hinv (run_step (.mkdirOk t _ (pc_upd ..) nofun)
      (run_step (.createFail t _ (pc_upd ..) rfl) rfl)), hlock, rfl, ?_, rfl⟩
    simp only [State.call, ret_threads, goto_threads, upd_same]; rfl
  | writePid =>
    refine ⟨_, _, run_step hinv (run_step (.mkdirOk t _ (pc_upd ..) nofun)
      (run_step (.createOk t _ (pc_upd ..) nofun hlock)
      (run_step (.writePidFail t _ (pc_upd ..) rfl)
      (run_step (.cleanup t _ (pc_upd ..)) rfl)))), rfl, rfl, ?_⟩
    simp only [State.call, State.ret, State.goto, State.setHandle, upd_same, upd_upd, hfresh]
    exact ⟨rfl, upd_eq_self hfresh⟩
  | readDir1 =>
    refine ⟨_, _, run_step hinv (run_step (.mkdirOk t _ (pc_upd ..) nofun)
      (run_step (.createOk t _ (pc_upd ..) nofun hlock)
      (run_step (.writePidOk t _ (pc_upd ..) nofun)
      (run_step (.readDir1Fail t _ (pc_upd ..) rfl)
      (run_step (.cleanup t _ (pc_upd ..)) rfl))))), rfl, rfl, ?_⟩
    simp only [State.call, State.ret, State.goto, State.setHandle, upd_same, upd_upd, hfresh]
    exact ⟨rfl, upd_eq_self hfresh⟩
  | readDir2 =>
    refine ⟨_, _, run_step hinv (run_step (.mkdirOk t _ (pc_upd ..) nofun)
      (run_step (.createOk t _ (pc_upd ..) nofun hlock)
      (run_step (.writePidOk t _ (pc_upd ..) nofun)
      (run_step (.readDir1Ok t _ (pc_upd ..) nofun)
      (run_step (.readDir2Fail t _ (pc_upd ..) rfl)
      (run_step (.cleanup t _ (pc_upd ..)) rfl)))))), rfl, rfl, ?_⟩
    simp only [State.call, State.ret, State.goto, State.setHandle, upd_same, upd_upd, hfresh]
    exact ⟨rfl, upd_eq_self hfresh⟩

/-- **close_releases** (full, every interleaving): once a Close of `h` has returned
    successfully, the LOCK of `h` has been removed, `h` does not hold it and is no
    longer a usable handle. -/
theorem close_releases (hr : Reachable present progs s log) {t i : Nat} {h : Owner}
    (hret : Ev.ret t i h .closedOk ∈ log) :
    Ev.removeLock h ∈ log ∧ ¬ Between log h ∧ s.dir.lock ≠ some h ∧ ¬ Live s h := by
  obtain ⟨_, L⟩ := reachable_inv hr
  obtain ⟨hrm, hcl⟩ := L.closed_ok_released t i h hret
  have hb : ¬ Between log h := fun hb => hb.2 hrm
  exact ⟨hrm, hb, fun hl => hb ((L.lock_between _).1 hl), fun hl => by rw [hl.2] at hcl; cases hcl⟩

/-- an uncontended Close of a live handle runs to completion and leaves the directory
    without LOCK (nothing else changes: in `closeSched` the workers exit without writing) -/
theorem close_alone_releases (hr : Reachable present progs s log) {h : Owner} (hlive : Live s h)
    {t : Nat} {rest : List Call}
    (hidle : (s.threads t).pc = .idle) (htodo : (s.threads t).todo = .close h :: rest) :
    ∃ s' log', run s log (closeSched t h) = some (s', log') ∧
      s'.dir = { s.dir with lock := none } ∧
      (s'.threads t).results = .closedOk :: (s.threads t).results ∧
      (s'.threads t).pc = .idle ∧ (s'.threads t).todo = rest ∧ (s'.threads t).idx = (s.threads t).idx + 1 ∧
      (s'.handles h).closed = true ∧
      (∀ o, o ≠ h → s'.handles o = s.handles o) ∧ (∀ t', t' ≠ t → s'.threads t' = s.threads t') := by
  obtain ⟨I, _⟩ := reachable_inv hr
  obtain ⟨hpub, hcl⟩ := hlive
  obtain ⟨_, hlf, hrun, _⟩ := (I.hok h).live hpub hcl
  refine ⟨_, _,
    run_step (.invClose t h rest hidle htodo hpub) <|
    run_step (.closeWin t h (pc_upd ..) hcl) <|
    run_step (.closeSignal t h (pc_upd ..)) <|
    run_step (.workerExit h (by simp [hrun]) (by simp)) <|
    run_step (.workerExit h (by simp [hrun]) (by simp)) <|
    run_step (.closeWait t h (pc_upd ..) (by simp [hrun])) <|
    run_step (.closeFd t h (pc_upd ..) (by simp [hlf])) <|
    run_step (.closeRemove t h (pc_upd ..)) <|
    run_step (.closeClear t h (pc_upd ..)) rfl, rfl, ?_⟩
  simp only [State.ret, State.goto, State.setHandle, upd_same, upd_upd, true_and]
  exact ⟨fun o ho => upd_other _ _ _ _ ho, fun t' ht => upd_other _ _ _ _ ht⟩

theorem open_alone_succeeds (hr : Reachable present progs s log) (hlock : s.dir.lock = none)
    {t : Nat} {rest : List Call}
    (hidle : (s.threads t).pc = .idle) (htodo : (s.threads t).todo = .open none :: rest) :
    ∃ s' log', run s log (openSched t) = some (s', log') ∧
      s'.dir = { s.dir with present := true, lock := some (t, (s.threads t).idx) } ∧
      (s'.threads t).results = .opened :: (s.threads t).results ∧
      Live s' (t, (s.threads t).idx) ∧
      (∀ o, o ≠ (t, (s.threads t).idx) → s'.handles o = s.handles o) := by
  have hfresh := fresh_at_idle (reachable_inv hr).1 hidle
  refine ⟨_, _,
    run_step (.invOpen t none rest hidle htodo) <|
    run_step (.mkdirOk t none (pc_upd ..) nofun) <|
    run_step (.createOk t none (pc_upd ..) nofun hlock) <|
    run_step (.writePidOk t none (pc_upd ..) nofun) <|
    run_step (.readDir1Ok t none (pc_upd ..) nofun) <|
    run_step (.readDir2Ok t none (pc_upd ..) nofun) <|
    run_step (.spawn t (pc_upd ..)) rfl, ?_⟩
  simp only [State.call, State.ret, State.goto, State.setHandle, upd_same, upd_upd, Live, hfresh, true_and]
  exact fun o ho => upd_other _ _ _ _ ho

/-- … so that the next open succeeds: Close then open, uninterrupted, from any reachable
    state with a live handle. -/
theorem close_then_open_succeeds (hr : Reachable present progs s log) {h : Owner} (hlive : Live s h)
    {t : Nat} {rest : List Call}
    (hidle : (s.threads t).pc = .idle) (htodo : (s.threads t).todo = .close h :: .open none :: rest) :
    ∃ s' log', run s log (closeSched t h ++ openSched t) = some (s', log') ∧
      (s'.threads t).results = .opened :: .closedOk :: (s.threads t).results ∧
      s'.dir.lock = some (t, (s.threads t).idx + 1) ∧
      Live s' (t, (s.threads t).idx + 1) ∧ ¬ Live s' h := by
  obtain ⟨s1, log1, hrun1, hdir1, hres1, hpc1, htodo1, hidx1, hclosed1, hoth1, _⟩ :=
    close_alone_releases hr hlive hidle htodo
  have hr1 := hr.run hrun1
  have hlock1 : s1.dir.lock = none := by rw [hdir1]
  obtain ⟨s2, log2, hrun2, hdir2, hres2, hlive2, hoth2⟩ := open_alone_succeeds hr1 hlock1 hpc1 htodo1
  refine ⟨s2, log2, ?_, ?_, ?_, ?_, ?_⟩
  · rw [run_append, hrun1]; exact hrun2
  · rw [hres2, hres1]
  · rw [hdir2, hidx1]
  · rw [← hidx1]; exact hlive2
  · intro hl
    -- `h` was returned by an earlier call, so it is not the handle of the new open
    have hne : h ≠ (t, (s1.threads t).idx) := fun heq => by
      have := (reachable_inv hr).1.pub_lt h hlive.1
      rw [heq, hidx1] at this
      exact Nat.lt_irrefl _ (Nat.lt_of_succ_lt this)
    have hc := hl.2
    rw [hoth2 h hne, hclosed1] at hc
    cases hc

/-- step form: a Close whose test-and-set finds `closed` already set reports the error
    and changes neither the directory nor any handle. -/
theorem close_idempotent_effect_step {t : Nat} {h : Owner} (hpc : (s.threads t).pc = .cTest h)
    (hclosed : (s.handles h).closed = true) :
    ∃ s', step s (.thread t) = some (s', [Ev.testSet t (s.threads t).idx h false,
                                         Ev.ret t (s.threads t).idx h .errAlreadyClosed]) ∧
      s'.dir = s.dir ∧ s'.handles = s.handles ∧ (s'.threads t).pc = .idle ∧
      (s'.threads t).results = .errAlreadyClosed :: (s.threads t).results :=
  ⟨_, (Step.closeLose t h hpc hclosed).step, rfl, rfl, pc_upd .., congrArg Thread.results (upd_same ..)⟩

/-- whole call: after a Close of `h` has returned successfully, a further Close (by any
    thread) reports "already closed" and leaves directory and handles unchanged. -/
theorem close_idempotent_effect (hr : Reachable present progs s log) {t₀ i₀ : Nat} {h : Owner}
    (hdone : Ev.ret t₀ i₀ h .closedOk ∈ log) {t : Nat} {rest : List Call}
    (hidle : (s.threads t).pc = .idle) (htodo : (s.threads t).todo = .close h :: rest) :
    ∃ s', run s log [.thread t, .thread t] =
        some (s', Ev.ret t (s.threads t).idx h .errAlreadyClosed :: Ev.testSet t (s.threads t).idx h false ::
                  Ev.inv t (s.threads t).idx (.close h) :: log) ∧
      s'.dir = s.dir ∧ s'.handles = s.handles ∧
      (s'.threads t).results = .errAlreadyClosed :: (s.threads t).results := by
  obtain ⟨I, L⟩ := reachable_inv hr
  have hcl := (L.closed_ok_released t₀ i₀ h hdone).2
  refine ⟨?_, run_step (.invClose t h rest hidle htodo ((I.hok h).closed_pub hcl))
    (run_step (.closeLose t h (pc_upd ..) hcl) ?run), ?eff⟩
  case run => simp only [upd_same]; rfl
  case eff => exact ⟨rfl, rfl, by simp only [ret_threads, upd_same]⟩

/-- step form, for each public operation `k`: its `closed` test on a closed handle
    reports "storage is closed"; the body is never entered; nothing changes. -/
theorem use_after_close_fails_step (k : OpKind) {t : Nat} {h : Owner}
    (hpc : (s.threads t).pc = .pTest h k) (hclosed : (s.handles h).closed = true) :
    ∃ s', step s (.thread t) = some (s', [Ev.test t (s.threads t).idx h false,
                                         Ev.ret t (s.threads t).idx h .errClosed]) ∧
      s'.dir = s.dir ∧ s'.handles = s.handles ∧ (s'.threads t).pc = .idle ∧
      (s'.threads t).results = .errClosed :: (s.threads t).results :=
  ⟨_, (Step.opFail t h k hpc hclosed).step, rfl, rfl, pc_upd .., congrArg Thread.results (upd_same ..)⟩

/-- whole call, for each public operation `k`: after a successful Close of `h` has
    returned, the operation fails cleanly. -/
theorem use_after_close_fails (k : OpKind) (hr : Reachable present progs s log) {t₀ i₀ : Nat} {h : Owner}
    (hdone : Ev.ret t₀ i₀ h .closedOk ∈ log) {t : Nat} {rest : List Call}
    (hidle : (s.threads t).pc = .idle) (htodo : (s.threads t).todo = .op h k :: rest) :
    ∃ s', run s log [.thread t, .thread t] =
        some (s', Ev.ret t (s.threads t).idx h .errClosed :: Ev.test t (s.threads t).idx h false ::
                  Ev.inv t (s.threads t).idx (.op h k) :: log) ∧
      s'.dir = s.dir ∧ s'.handles = s.handles ∧
      (s'.threads t).results = .errClosed :: (s.threads t).results := by
  obtain ⟨I, L⟩ := reachable_inv hr
  have hcl := (L.closed_ok_released t₀ i₀ h hdone).2
  refine ⟨?_, run_step (.invOp t h k rest hidle htodo ((I.hok h).closed_pub hcl))
    (run_step (.opFail t h k (pc_upd ..) hcl) ?run), ?eff⟩
  case run => simp only [upd_same]; rfl
  case eff => exact ⟨rfl, rfl, by simp only [ret_threads, upd_same]⟩

/-- trace form, every interleaving: an operation on `h` that is INVOKED after a
    successful Close of `h` has RETURNED reports "storage is closed". -/
theorem use_after_close_fails_trace (hr : Reachable present progs s log) {l₂ l₁ : List Ev}
    {t i t₀ i₀ : Nat} {h o : Owner} {k : OpKind} {r : Res}
    (hsplit : log = l₂ ++ Ev.inv t i (.op h k) :: l₁)
    (hdone : Ev.ret t₀ i₀ h .closedOk ∈ l₁) (hret : Ev.ret t i o r ∈ log) :
    o = h ∧ r = .errClosed := by
  obtain ⟨_, L⟩ := reachable_inv hr
  subst hsplit
  obtain ⟨rfl, hr'⟩ := L.ret_kind t i _ o r (List.mem_append_right _ (.head _)) hret
  refine ⟨rfl, hr'.resolve_left fun hok => ?_⟩
  subst hok
  -- the return found a passed test earlier in the trace, which is not older than the invocation …
  rcases List.mem_append.1 (L.inside.retOk hret) with h2 | h2
  · -- … so it saw the winning test-and-set of the Close that returned before the invocation
    obtain ⟨n₂, n₁, rfl⟩ := List.append_of_mem h2
    have hlin := L.lin o
    rw [List.append_assoc] at hlin
    have hc : true = !absClosed o (n₁ ++ _ :: l₁) := hlin.suffix.1 rfl
    have hts : Ev.testSet t₀ i₀ o true ∈ l₁ := L.inside.suffix.1.retOk hdone
    rw [absClosed_iff.2 ⟨t₀, i₀, List.mem_append_right _ (.tail _ hts)⟩] at hc
    cases hc
  · exact L.inside.suffix.2.1 o true ((List.mem_cons.1 h2).resolve_left nofun)

/-- **race clause, part 1** (full): in every reachable trace the atomic `closed` tests on a
    handle, in execution order, answer exactly like a sequential closable object
    (`LinLegal`); every test lies inside its own call and every return reports what
    its test decided (`TestsInsideCalls`); at most one Close per handle ever wins.  (That the
    calls are therefore linearizable at their tests is not itself a Lean statement.) -/
theorem op_race_close_linearizable (hr : Reachable present progs s log) :
    (∀ h, LinLegal h log) ∧ TestsInsideCalls log ∧ (∀ h, wins h log ≤ 1) := by
  obtain ⟨_, L⟩ := reachable_inv hr
  exact ⟨L.lin, L.inside, fun h => wins_le_one (L.lin h)⟩

/-- **race clause, part 2** (full): a completed operation on `h`
    either failed with the closed error — and then a winning Close test-and-set preceded
    its own test — or it succeeded — and then its test preceded every winning Close
    test-and-set on `h`, i.e. it takes effect as if ordered before the Close.  (Its body
    may still run after that Close has returned: see `op_body_may_follow_close`.) -/
theorem op_race_close (hr : Reachable present progs s log) {t i : Nat} {h o : Owner} {k : OpKind} {r : Res}
    (hinv : Ev.inv t i (.op h k) ∈ log) (hret : Ev.ret t i o r ∈ log) :
    o = h ∧
    ((r = .errClosed ∧ ∃ t' i', Before log (Ev.testSet t' i' h true) (Ev.test t i h false)) ∨
     (r = .opOk ∧ Ev.test t i h true ∈ log ∧
        ∀ t' i', Ev.testSet t' i' h true ∈ log → Before log (Ev.test t i h true) (Ev.testSet t' i' h true))) := by
  obtain ⟨_, L⟩ := reachable_inv hr
  obtain ⟨rfl, rfl | rfl⟩ := L.ret_kind t i _ o r hinv hret
  · have htest : Ev.test t i o true ∈ log := L.inside.retOk hret
    exact ⟨rfl, .inr ⟨rfl, htest, fun t' i' hts => pass_before_close (L.lin o) htest hts⟩⟩
  · exact ⟨rfl, .inl ⟨rfl, fail_after_close (L.lin o) (L.inside.retOk hret)⟩⟩

/-! ## non-vacuity: concrete schedules, evaluated by the kernel (`decide`)

  `after present progs sched` is the state and trace reached when the scheduler offers
  the actors of `sched` in turn, skipping one that is not enabled.  `T t` = thread
  `t` takes its next atomic step; `W h a` = a background worker of `h` writes / exits. -/
section Examples

def T (t : Nat) : Actor := .thread t
def W (h : Owner) (a : WAct) : Actor := .worker h a

/-- goroutines (or processes) 0 and 1 race to open a fresh directory; later 0 closes
    (twice), 1 uses 0's handle and reopens -/
def progsA : Nat → List Call
  | 0 => [.open none, .close (0, 0), .close (0, 0)]
  | 1 => [.open none, .op (0, 0) .add, .op (0, 0) (.flush 1), .open none]
  | _ => []

/-- 1's mkdir runs first, 0 wins the O_EXCL create, 1 loses -/
def schedA1 : List Actor := [T 1, T 0, T 1, T 0, T 0, T 1, T 0, T 0, T 0, T 0]

/-- lock_mutex / open_steps_on_locked_dir_unchanged are not vacuous: a reachable state with
    a live holder and a loser that got the locked error. -/
example : let p := after false progsA schedA1
    p.1.dir.lock = some (0, 0) ∧ Live p.1 (0, 0) ∧ Between p.2 (0, 0) ∧
    (p.1.threads 0).results = [.opened] ∧ (p.1.threads 1).results = [.errLocked] := by decide

/-- … continuing: 1 adds through 0's handle (passes the test, finishes), 0 closes
    (workers exit, LOCK removed), 0 closes again, 1's flush fails, 1 reopens. -/
def schedA2 : List Actor :=
  schedA1 ++ [T 1, T 1, T 1] ++ closeSched 0 (0, 0) ++ [T 0, T 0] ++ [T 1, T 1] ++ openSched 1

/-- close_releases / close_idempotent_effect / use_after_close_fails are not vacuous. -/
example : let p := after false progsA schedA2
    p.1.dir.lock = some (1, 3) ∧ Live p.1 (1, 3) ∧ ¬ Live p.1 (0, 0) ∧
    (p.1.threads 0).results = [.errAlreadyClosed, .closedOk, .opened] ∧
    (p.1.threads 1).results = [.opened, .errClosed, .opOk, .errLocked] ∧
    p.1.dir.writes = 0 := by decide

def progsF (p : OStep) : Nat → List Call
  | 0 => [.open (some p)]
  | 1 => [.open none]
  | _ => []

/-- every failure position: the failing open returns its error and leaves no LOCK,
    and a second goroutine can open afterwards -/
example : ∀ p : OStep, let q := after false (progsF p) (List.replicate 7 (T 0) ++ openSched 1)
    q.1.dir.lock = some (1, 0) ∧ (q.1.threads 0).results = [openFailResult p] ∧
    ¬ Between q.2 (0, 0) := by
  intro p; cases p <;> decide

/-- a failing open holds the LOCK for a while: a racing open inside that window gets the
    locked error (open_locked_fails_unchanged is not vacuous), and afterwards the directory
    is free again (both failed, no LOCK) -/
example : let q := after true (progsF .readDir2) [T 0, T 0, T 0, T 0, T 0, T 1, T 1, T 1, T 0, T 0]
    q.1.dir.lock = none ∧ (q.1.threads 0).results = [.errReadDir2] ∧
    (q.1.threads 1).results = [.errLocked] := by decide

def progsC : Nat → List Call
  | 0 => [.open none, .close (0, 0)]
  | 1 => [.open none]
  | _ => []

def schedC : List Actor :=
  openSched 0 ++ [T 0, T 0, T 0, W (0, 0) .write, W (0, 0) .exit] ++ [T 1, T 1, T 1]

/-- an `open` that arrives while a Close is between its test-and-set and its remove
    (workers still running their final flush) is refused: ownership is released last -/
example : let q := after true progsC schedC
    q.1.dir.lock = some (0, 0) ∧ (q.1.handles (0, 0)).closed = true ∧ (q.1.handles (0, 0)).running = 1 ∧
    q.1.dir.writes = 1 ∧ (q.1.threads 1).results = [.errLocked] := by decide

def progsR : Nat → List Call
  | 0 => [.open none, .close (0, 0)]
  | 1 => [.op (0, 0) (.flush 1)]
  | _ => []

/-- The race clause is stated as it is for a reason (a quirk of the code, kept in the
    model): an operation that passed the `closed` test can finish — and a Flush can
    write segment files — AFTER a concurrent Close has returned and released the LOCK. -/
theorem op_body_may_follow_close :
    let q := after true progsR (openSched 0 ++ [T 1, T 1] ++ closeSched 0 (0, 0) ++ [T 1, T 1])
    (q.1.threads 0).results = [.closedOk, .opened] ∧ (q.1.threads 1).results = [.opOk] ∧
    q.1.dir.lock = none ∧ q.1.dir.writes = 1 ∧
    Before q.2 (Ev.ret 0 1 (0, 0) .closedOk) (Ev.ret 1 0 (0, 0) .opOk) ∧
    Before q.2 (Ev.test 1 0 (0, 0) true) (Ev.testSet 0 1 (0, 0) true) := by
  exact ⟨by decide, by decide, by decide, by decide,
    before_of_beforeB (by decide), before_of_beforeB (by decide)⟩

end Examples

end Comet.Lock
