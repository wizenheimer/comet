/-
  C05 — Hybrid search = metadata pre-filter, per-modality top-k, fusion, ranking.

  Model: Comet/HybridSearch.lean
  (`execute` = hybridSearch.Execute, stage by stage, over oracles for the three
  sub-searches).  What the sub-searches return is decided by C01–C04 / C12–C14 and what
  `combine` computes by C19; here: how Execute composes them.

  Hypotheses about the oracles are stated explicitly where a clause needs them:
    `Respects f`   — a restricted sub-search only returns ids of the restriction
                     (the document-ID restriction clause of C01/C02/C03);
    `KeysUnion c`  — the fusion, applied to maps (each id once), only returns ids of one of
                     its inputs (C19: union / intersection laws, see C05_Fusion.lean);
    `NodupOut f`   — a sub-search returns each id at most once (C02/C03).
-/
import Comet.HybridSearch
namespace Comet.HybridSearch

variable {F : Type}

def ids (m : ScoreMap F) : List Id := m.map (·.1)

def Respects (f : List Id → Except Err (ScoreMap F)) : Prop :=
  ∀ r m, r ≠ [] → f r = .ok m → ∀ i ∈ ids m, i ∈ r

def KeysUnion (c : ScoreMap F → ScoreMap F → ScoreMap F) : Prop :=
  ∀ v t, (ids v).Nodup → (ids t).Nodup → ∀ i ∈ ids (c v t), i ∈ ids v ∨ i ∈ ids t

def NodupOut (f : List Id → Except Err (ScoreMap F)) : Prop :=
  ∀ r m, f r = .ok m → (ids m).Nodup

theorem rank_eq_take (e : Env F) (k : Nat) (c : ScoreMap F) :
    rank e k c = ((toHits c).mergeSort (hitLe e.ge)).take k := by
  by_cases h : ((toHits c).mergeSort (hitLe e.ge)).length > k
  · exact if_pos h
  · exact (if_neg h).trans (List.take_of_length_le (Nat.le_of_not_gt h)).symm

/-- for k ≥ 1 the ranking stage is the model's `selectK` … -/
theorem rank_eq_selectK (e : Env F) (k : Nat) (hk : 1 ≤ k) (c : ScoreMap F) :
    rank e k c = selectK e.ge (k : Int) (toHits c) := by
  rw [rank_eq_take, selectK, List.take_eq_take_iff, List.length_mergeSort]
  by_cases h : k ≤ (toHits c).length
  · rw [sanitizeK_of_pos_le (Int.natCast_pos.2 hk) (Int.ofNat_le.2 h), Int.toNat_natCast]
  · have hs : sanitizeK k (toHits c).length = (toHits c).length :=
      if_pos (Or.inr (Int.ofNat_lt.2 (Nat.lt_of_not_le h)))
    rw [hs, Nat.min_self, Nat.min_eq_right (Nat.le_of_not_le h)]

/-- … hence an exact descending top-k of the combined scores (any tie-break). -/
theorem rank_isTopK (e : Env F)
    (tot : ∀ a b : F, e.ge a b || e.ge b a) (tr : ∀ a b c : F, e.ge a b → e.ge b c → e.ge a c)
    (k : Nat) (hk : 1 ≤ k) (c : ScoreMap F) :
    IsTopK e.ge (k : Int) (toHits c) (rank e k c) :=
  rank_eq_selectK e k hk c ▸ selectK_isTopK e.ge tot tr _ _

theorem rank_length_le (e : Env F) (k : Nat) (c : ScoreMap F) : (rank e k c).length ≤ k :=
  rank_eq_take e k c ▸ List.length_take_le k _

theorem rank_mem {e : Env F} {k : Nat} {c : ScoreMap F} {h : Hit F} (hh : h ∈ rank e k c) :
    (h.id, h.score) ∈ c := by
  rw [rank_eq_take] at hh
  obtain ⟨p, hp, rfl⟩ := List.mem_map.1 (List.mem_mergeSort.1 (List.mem_of_mem_take hh))
  exact hp

theorem rank_nodup (e : Env F) (k : Nat) (c : ScoreMap F) (h : (ids c).Nodup) :
    ((rank e k c).map (·.id)).Nodup := by
  have h0 : ((toHits c).map (·.id)).Nodup := by
    rw [toHits, List.map_map]
    exact h
  rw [rank_eq_take]
  exact (((List.mergeSort_perm _ _).map _).nodup_iff.2 h0).sublist ((List.take_sublist _ _).map _)

/-! ### which scores are ranked (the "Each result's score is …" clause) -/

/-- metadata-only query: every candidate, score 1 -/
theorem combine_meta_only (e : Env F) (q : Query F) (r : List Id) (v t : ScoreMap F)
    (hv : q.hasVector = false) (ht : q.hasText = false) (hr : r ≠ []) :
    combineStage e q r v t = r.map fun id => (id, e.one) := by
  rw [combineStage, hv, ht, List.isEmpty_eq_false_iff.2 hr]
  rfl

theorem combineStage_asked (e : Env F) (q : Query F) (r : List Id) (v t : ScoreMap F)
    (hq : q.hasVector = true ∨ q.hasText = true) :
    combineStage e q r v t =
      if !v.isEmpty && !t.isEmpty then e.combine v t else if !v.isEmpty then v
      else if !t.isEmpty then t else [] := by
  refine if_neg ?_
  rcases hq with hq | hq <;> simp only [hq, Bool.not_true, Bool.false_and, Bool.and_false,
    Bool.false_eq_true, not_false_eq_true]

/-- both modalities returned something: the configured fusion of the two maps -/
theorem combine_both (e : Env F) (q : Query F) (r : List Id) (v t : ScoreMap F)
    (hq : q.hasVector = true ∨ q.hasText = true) (hv : v ≠ []) (ht : t ≠ []) :
    combineStage e q r v t = e.combine v t := by
  rw [combineStage_asked e q r v t hq, List.isEmpty_eq_false_iff.2 hv,
    List.isEmpty_eq_false_iff.2 ht]
  rfl

/-- only the vector side returned something: the vector distances themselves -/
theorem combine_vec_only (e : Env F) (q : Query F) (r : List Id) (v : ScoreMap F)
    (hq : q.hasVector = true ∨ q.hasText = true) (hv : v ≠ []) :
    combineStage e q r v [] = v := by
  rw [combineStage_asked e q r v [] hq, List.isEmpty_eq_false_iff.2 hv]
  rfl

/-- only the text side returned something: the text scores themselves -/
theorem combine_txt_only (e : Env F) (q : Query F) (r : List Id) (t : ScoreMap F)
    (hq : q.hasVector = true ∨ q.hasText = true) (ht : t ≠ []) :
    combineStage e q r [] t = t := by
  rw [combineStage_asked e q r [] t hq, List.isEmpty_eq_false_iff.2 ht]
  rfl

/-- a vector or text query that matches nothing yields nothing — also inside a
    non-empty filtered set (the clause the unrepaired code violated) -/
theorem combine_nothing (e : Env F) (q : Query F) (r : List Id)
    (hq : q.hasVector = true ∨ q.hasText = true) :
    combineStage e q r [] [] = [] :=
  combineStage_asked e q r [] [] hq

/-- the unrepaired guard returned the whole filtered set in that case -/
theorem combine_old_fallback_misfire (e : Env F) (r : List Id) (hr : r ≠ []) :
    combineStageOld e r [] [] = r.map fun id => (id, e.one) := by
  rw [combineStageOld, List.isEmpty_eq_false_iff.2 hr]
  rfl

/-- every ranked id comes from a modality's result (or, metadata-only, from the filter) -/
theorem combine_ids {e : Env F} (hc : KeysUnion e.combine) (q : Query F) (r : List Id)
    {v t : ScoreMap F} (hnv : (ids v).Nodup) (hnt : (ids t).Nodup) :
    ∀ i ∈ ids (combineStage e q r v t),
      (q.hasVector = false ∧ q.hasText = false ∧ i ∈ r) ∨ i ∈ ids v ∨ i ∈ ids t := by
  intro i hi
  by_cases hg : (!q.hasVector && !q.hasText && !r.isEmpty) = true
  · rw [combineStage, if_pos hg, ids, List.map_map] at hi
    rw [Bool.and_eq_true, Bool.and_eq_true, Bool.not_eq_true', Bool.not_eq_true'] at hg
    exact Or.inl ⟨hg.1.1, hg.1.2, List.map_id r ▸ hi⟩
  · rw [combineStage, if_neg hg] at hi
    right
    -- on `[]` / `_ :: _` the emptiness tests evaluate, leaving the branch taken
    cases v <;> cases t
    · exact absurd hi List.not_mem_nil
    · exact Or.inr hi
    · exact Or.inl hi
    · exact hc _ _ hnv hnt i hi

theorem subSearch_nodup {asked : Bool} {f : Option (List Id → Except Err (ScoreMap F))}
    (hD : ∀ g, f = some g → NodupOut g) {r : List Id} {m : ScoreMap F}
    (hs : subSearch asked f r = .ok m) : (ids m).Nodup := by
  cases asked with
  | false =>
    cases hs
    exact List.nodup_nil
  | true =>
    cases f with
    | none => cases hs
    | some g => exact hD g rfl r m hs

theorem subSearch_respects {asked : Bool} {f : Option (List Id → Except Err (ScoreMap F))}
    (hR : ∀ g, f = some g → Respects g) {r : List Id} (hr : r ≠ []) {m : ScoreMap F}
    (hs : subSearch asked f r = .ok m) : ∀ i ∈ ids m, i ∈ r := by
  cases asked with
  | false =>
    cases hs
    exact fun i hi => absurd hi List.not_mem_nil
  | true =>
    cases f with
    | none => cases hs
    | some g => exact hR g rfl r m hr hs

/-- a successful `execute`: the filter matched nothing, or both sub-searches succeeded inside
    the filtered set and the result is the ranking of the combined scores -/
theorem execute_ok {e : Env F} {q : Query F} {res : List (Hit F)} (h : execute e q = .ok res) :
    res = [] ∨ ∃ cands vres tres, candsOf e q = .ok cands ∧ cands ≠ some [] ∧
      subSearch q.hasVector e.vecSearch (cands.getD []) = .ok vres ∧
      subSearch q.hasText e.txtSearch (cands.getD []) = .ok tres ∧
      res = rank e q.k (combineStage e q (cands.getD []) vres tres) := by
  unfold execute at h
  split at h
  · cases h
  · exact Or.inl (Except.ok.inj h).symm
  · next cands hne hcands =>
    dsimp only at h
    split at h
    · cases h
    · next vres hvres =>
      split at h
      · cases h
      · next tres htres =>
        exact Or.inr ⟨cands, vres, tres, hcands, hne, hvres, htres,
          (Except.ok.inj h).symm⟩

/-- at most k results -/
theorem hybrid_shape (e : Env F) (q : Query F) (res : List (Hit F))
    (h : execute e q = .ok res) : res.length ≤ q.k := by
  rcases execute_ok h with rfl | ⟨_, _, _, _, _, _, _, rfl⟩
  · exact Nat.zero_le _
  · exact rank_length_le e q.k _

/-- descending order and exact top-k, for k ≥ 1 (the witness is the combined score map of
    `execute_ok`, which the statement does not name) -/
theorem hybrid_ranked (e : Env F)
    (tot : ∀ a b : F, e.ge a b || e.ge b a) (tr : ∀ a b c : F, e.ge a b → e.ge b c → e.ge a c)
    (q : Query F) (hk : 1 ≤ q.k) (res : List (Hit F)) (h : execute e q = .ok res) :
    res = [] ∨ ∃ c : ScoreMap F, IsTopK e.ge (q.k : Int) (toHits c) res := by
  rcases execute_ok h with rfl | ⟨_, _, _, _, _, _, _, rfl⟩
  · exact Or.inl rfl
  · exact Or.inr ⟨_, rank_isTopK e tot tr q.k hk _⟩

/-- with a metadata filter, every result matches it (is one of the filter's ids) -/
theorem hybrid_filter_respected (e : Env F) (hc : KeysUnion e.combine) (q : Query F)
    (hf : q.hasFilters = true) (cand : List Id) (hm : e.metaSearch = some (.ok cand))
    (hv : ∀ f, e.vecSearch = some f → Respects f) (ht : ∀ f, e.txtSearch = some f → Respects f)
    (hdv : ∀ f, e.vecSearch = some f → NodupOut f) (hdt : ∀ f, e.txtSearch = some f → NodupOut f)
    (res : List (Hit F)) (h : execute e q = .ok res) :
    ∀ r ∈ res, r.id ∈ cand := by
  rcases execute_ok h with rfl | ⟨cands, vres, tres, hcands, hne, hvres, htres, rfl⟩
  · exact fun r hr => absurd hr List.not_mem_nil
  · rw [candsOf, if_pos hf, hm] at hcands
    cases hcands
    have hne' : cand ≠ [] := fun h0 => hne (h0 ▸ rfl)
    intro r hr
    rcases combine_ids hc q cand (subSearch_nodup hdv hvres) (subSearch_nodup hdt htres) r.id
      (List.mem_map.2 ⟨_, rank_mem hr, rfl⟩) with h1 | h1 | h1
    · exact h1.2.2
    · exact subSearch_respects hv hne' hvres r.id h1
    · exact subSearch_respects ht hne' htres r.id h1

/-- a filter that matches nothing yields an empty result -/
theorem hybrid_empty_filter_empty (e : Env F) (q : Query F) (hf : q.hasFilters = true)
    (hm : e.metaSearch = some (.ok [])) : execute e q = .ok [] := by
  simp only [execute, candsOf, hf, hm, if_true]

/-- a filter without a metadata index is an error -/
theorem hybrid_missing_metadata_err (e : Env F) (q : Query F) (hf : q.hasFilters = true)
    (hm : e.metaSearch = none) : execute e q = .error .other := by
  simp only [execute, candsOf, hf, hm, if_true]

/-- without a filter, a vector query without a vector index is an error (with a filter the
    check comes after it: a filter that matched nothing returns the empty result first) -/
theorem hybrid_missing_vector_err (e : Env F) (q : Query F) (hf : q.hasFilters = false)
    (hv : q.hasVector = true) (hn : e.vecSearch = none) : execute e q = .error .other := by
  rw [execute, candsOf, hf, hv, hn]
  rfl

/-- likewise a text query without a text index, when no vector is asked for -/
theorem hybrid_missing_text_err (e : Env F) (q : Query F) (hf : q.hasFilters = false)
    (hv : q.hasVector = false) (ht : q.hasText = true) (hn : e.txtSearch = none) :
    execute e q = .error .other := by
  rw [execute, candsOf, hf, hv, ht, hn]
  rfl

/-- every result comes from one of the per-modality answers, both computed under one
    restriction (the filtered set; the statement does not name it), or, for a metadata-only
    query, is one of the restriction's ids -/
theorem hybrid_from_modalities (e : Env F) (hc : KeysUnion e.combine) (q : Query F)
    (hdv : ∀ f, e.vecSearch = some f → NodupOut f) (hdt : ∀ f, e.txtSearch = some f → NodupOut f)
    (res : List (Hit F)) (h : execute e q = .ok res) :
    res = [] ∨ ∃ restrict vres tres,
      subSearch q.hasVector e.vecSearch restrict = .ok vres ∧
      subSearch q.hasText e.txtSearch restrict = .ok tres ∧
      ∀ r ∈ res, (q.hasVector = false ∧ q.hasText = false ∧ r.id ∈ restrict) ∨
        r.id ∈ ids vres ∨ r.id ∈ ids tres := by
  rcases execute_ok h with rfl | ⟨cands, vres, tres, _, _, hvres, htres, rfl⟩
  · exact Or.inl rfl
  · exact Or.inr ⟨_, vres, tres, hvres, htres, fun r hr =>
      combine_ids hc q _ (subSearch_nodup hdv hvres) (subSearch_nodup hdt htres) r.id
        (List.mem_map.2 ⟨_, rank_mem hr, rfl⟩)⟩

section Example
def exEnv : Env Nat :=
  { metaSearch := some (.ok [1, 2, 3]),
    vecSearch := some fun r => .ok ([(1, 5), (2, 9), (4, 1)].filter fun p => r.isEmpty || r.contains p.1),
    txtSearch := some fun r => .ok ([(2, 7), (3, 2)].filter fun p => r.isEmpty || r.contains p.1),
    combine := fun v t => v.map (fun p => (p.1, p.2 + ((t.lookup p.1).getD 0))) ++
                          t.filter (fun p => (v.lookup p.1).isNone),
    one := 1, ge := fun a b => decide (a ≥ b) }

def exQ : Query Nat := ⟨true, true, true, 2⟩
-- vector + text inside the filter {1,2,3}: id 4 is excluded by the filter, 2 has both scores
example : subSearch exQ.hasVector exEnv.vecSearch [1, 2, 3] = .ok [(1, 5), (2, 9)] := by rfl
example : subSearch exQ.hasText exEnv.txtSearch [1, 2, 3] = .ok [(2, 7), (3, 2)] := by rfl
example : combineStage exEnv exQ [1, 2, 3] [(1, 5), (2, 9)] [(2, 7), (3, 2)] =
    [(1, 5), (2, 16), (3, 2)] := rfl
example : IsTopK exEnv.ge 2 (toHits [(1, 5), (2, 16), (3, 2)]) [⟨2, 16⟩, ⟨1, 5⟩] :=
  checkTopK_sound _ _ _ _ (by decide)
-- the hypothesis `KeysUnion` of hybrid_filter_respected is met by this environment's fusion
example : KeysUnion exEnv.combine := by
  intro v t _ _ i hi
  simp only [exEnv, ids, List.map_append, List.mem_append, List.mem_map, List.map_map] at hi ⊢
  rcases hi with ⟨p, hp, rfl⟩ | ⟨p, hp, rfl⟩
  · exact Or.inl ⟨p, hp, rfl⟩
  · exact Or.inr ⟨p, (List.mem_filter.1 hp).1, rfl⟩
end Example

end Comet.HybridSearch
