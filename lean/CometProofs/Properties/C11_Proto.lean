/-
  C11 (C) index protocols and (E) id uniqueness.

  Full: `lin_visibility` (`VisibilityOK` is the predicate the driver checks on logged histories;
  a multi-query search takes the read lock once per query, so each query is one `search` region /
  one history entry), `checkVisibility_iff`, `no_spurious_error`, `never_panics` (one-region
  Remove, the code since fb7bd70), `ids_unique`.
  Two-region Remove (before fb7bd70): `flush_no_panic_partial` — partial;
  `remove_flush_window_panics` — negation: the defect D16, found by this check and repaired in
  /repo by fb7bd70.
-/
import CometProofs.Conc.RemoveProto
namespace Comet.Conc.Proto

/-- **(C) visibility-linearizability.**  For every configuration and every interleaving `acts`
    of Add / Remove-check / Remove-write / search / Flush regions, the resulting history is
    `VisibilityOK`: every search returns each id whose successful add completed before the
    search began and no successful removal of which began before the search ended (V1); never
    an id whose successful removal completed before the search began, unless an add of it
    responded after that removal began (V2); never an id no add of which began before the
    search ended (V3). -/
theorem lin_visibility (cfg : Cfg) (acts : List Act) : VisibilityOK (run cfg acts).hist :=
  (good_run cfg acts).vis

/-- the driver's checker decides the history predicate (soundness and completeness) -/
theorem checkVisibility_iff (h : List HOp) : checkVisibility h = true ↔ VisibilityOK h := by
  simp only [checkVisibility, VisibilityOK, List.all_eq_true, not_or_eq_true, Bool.and_eq_true,
    beq_iff_eq, checkV1_iff, checkV2_iff, checkV3_iff, and_assoc]

theorem checkVisibility_sound (h : List HOp) (hc : checkVisibility h = true) : VisibilityOK h :=
  (checkVisibility_iff h).1 hc

/-- non-vacuity: a history in which V1 and V2 both have work to do is accepted, and the same
    history with the removed id returned / the live id missing is rejected -/
example : checkVisibility
    [⟨.add, 1, 0, 1, true, []⟩, ⟨.add, 2, 2, 3, true, []⟩, ⟨.remove, 1, 4, 5, true, []⟩,
     ⟨.search, 0, 6, 7, true, [2]⟩] = true := by decide +kernel
example : checkVisibility
    [⟨.add, 1, 0, 1, true, []⟩, ⟨.add, 2, 2, 3, true, []⟩, ⟨.remove, 1, 4, 5, true, []⟩,
     ⟨.search, 0, 6, 7, true, [1, 2]⟩] = false := by decide +kernel
example : checkVisibility
    [⟨.add, 1, 0, 1, true, []⟩, ⟨.add, 2, 2, 3, true, []⟩, ⟨.remove, 1, 4, 5, true, []⟩,
     ⟨.search, 0, 6, 7, true, []⟩] = false := by decide +kernel
/-- a search overlapping the removal may go either way -/
example : checkVisibility [⟨.add, 1, 0, 1, true, []⟩, ⟨.remove, 1, 2, 5, true, []⟩,
    ⟨.search, 0, 3, 4, true, [1]⟩] = true ∧
  checkVisibility [⟨.add, 1, 0, 1, true, []⟩, ⟨.remove, 1, 2, 5, true, []⟩,
    ⟨.search, 0, 3, 4, true, []⟩] = true := by decide +kernel

/-- **(C) no spurious error.**  In every interleaving: (1) the only failing responses are a
    Remove that failed in its *check* region, or an Add / Flush that panicked (see
    `flush_no_panic_partial`); a Remove's write region, a search and a non-panicking Add /
    Flush never fail.  (2) A Remove fails in its check region exactly when — and with exactly
    the error that — the sequential specification's atomic Remove returns on the state the
    region read, and then neither changes the state: the failing Remove is linearised at its
    check region.  (With the two-region Remove two racing `Remove(id)` may both return nil —
    `racing_removes_both_ok` — which the property allows: neither *fails*.) -/
theorem no_spurious_error (cfg : Cfg) (acts : List Act) :
    FailKinds (run cfg acts) ∧
    ∀ id, let s := run cfg acts
      (∀ e, rmCheckResp s.stored s.deleted id = some e →
          e ≠ .ok ∧ seqRemove s.stored s.deleted id = (s.deleted, e) ∧
          ∃ o, (step cfg s (.rmCheck id)).hist = o :: s.hist ∧ o.kind = .remove ∧ o.id = id ∧ o.ok = false ∧
            (step cfg s (.rmCheck id)).stored = s.stored ∧ (step cfg s (.rmCheck id)).deleted = s.deleted) ∧
      (rmCheckResp s.stored s.deleted id = none →
          seqRemove s.stored s.deleted id = (id :: s.deleted, .ok) ∧
          (cfg.atomicRemove = false → (step cfg s (.rmCheck id)).hist = s.hist) ∧
          (cfg.atomicRemove = true →
            (step cfg s (.rmCheck id)).deleted = (seqRemove s.stored s.deleted id).1 ∧
            ∃ o, (step cfg s (.rmCheck id)).hist = o :: s.hist ∧ o.kind = .remove ∧ o.id = id ∧ o.ok = true)) := by
  refine ⟨failKinds_run cfg acts, fun id => ?_⟩
  have r := step_region cfg (run cfg acts) (.rmCheck id)
  dsimp only
  generalize run cfg acts = s at r ⊢
  have hseq := seqRemove_eq s.stored s.deleted id
  generalize step cfg s (.rmCheck id) = s' at r ⊢
  cases r with
  | rmFail _ h =>
    refine ⟨fun e he => ⟨fun h => rmCheckResp_ne_ok (h ▸ he), ?_, _, rfl, rfl, rfl, rfl, rfl, rfl⟩,
      fun hn => absurd hn h⟩
    rw [he] at hseq
    exact hseq
  | rmAtomic _ hn ha =>
    rw [hn] at hseq
    refine ⟨fun e he => (nomatch hn.symm.trans he), fun _ => ⟨hseq, fun h => (nomatch h.symm.trans ha),
      fun _ => ⟨?_, _, rfl, rfl, rfl, rfl⟩⟩⟩
    rw [hseq]
    exact if_neg fun hc => (rmCheckResp_eq_none.1 hn).2 (List.contains_iff_mem.1 hc)
  | rmPend _ hn ha =>
    rw [hn] at hseq
    exact ⟨fun e he => (nomatch hn.symm.trans he),
      fun _ => ⟨hseq, fun _ => rfl, fun h => nomatch h.symm.trans ha⟩⟩

/-- two-region Remove: two racing `Remove(5)` both pass the check and both return nil (allowed:
    neither fails) -/
theorem racing_removes_both_ok :
    ((run ⟨true, true, false⟩ [.add 5, .rmCheck 5, .rmCheck 5, .rmWrite 0, .rmWrite 0]).hist.filter
      fun o => o.kind == .remove && o.ok).length = 2 := by decide +kernel

/-- FULL statement (false for flat and PQ, `capPanic = true`, with the two-region Remove): no
    interleaving panics. -/
def NeverPanics (cfg : Cfg) : Prop := ∀ acts, (run cfg acts).panicked = false

/-- **Negation from a concrete witness** (two threads, seven regions): T1 passes Remove(5)'s
    check; T2 removes 5 and flushes (5 is physically gone, tombstones cleared); T1's write
    region then plants a stale tombstone for an id that is no longer stored; the next Flush
    computes `make(…, 0, len(stored) - |deleted|) = make(…, 0, -1)` and panics.  No sequential
    history can do this (`flush_no_panic_partial`): the panic is due to interleaving alone. -/
theorem remove_flush_window_panics : ¬ NeverPanics ⟨false, true, false⟩ :=
  fun h => absurd (h [.add 5, .rmCheck 5, .rmCheck 5, .rmWrite 1, .flush, .rmWrite 0, .flush])
    (by decide +kernel)

/-- with the tombstone-purging Add (e29df80) the stale tombstone makes a later `Add(5)` panic -/
theorem remove_flush_window_panics_in_add : ¬ NeverPanics ⟨true, true, false⟩ :=
  fun h => absurd (h [.add 5, .rmCheck 5, .rmCheck 5, .rmWrite 1, .flush, .rmWrite 0, .add 5])
    (by decide +kernel)

/-- **Partial** (explicit decidable hypothesis): if no flush — explicit, or by a purging Add —
    runs while some Remove is between its check and its write region, nothing panics: the
    invariant `deleted ⊆ stored`, `deleted` duplicate-free gives `|deleted| ≤ |stored|`. -/
theorem flush_no_panic_partial (cfg : Cfg) (acts : List Act)
    (h : noFlushInRemoveWindow cfg {} acts = true) : (run cfg acts).panicked = false :=
  tidy_steps cfg acts {} ⟨List.forall_mem_nil _, List.nodup_nil, List.forall_mem_nil _, rfl⟩ h

/-- the hypothesis is satisfiable by a non-trivial history (every Remove's write directly after
    its check) -/
example : noFlushInRemoveWindow ⟨true, true, false⟩ {}
    [.add 5, .rmCheck 5, .rmWrite 0, .rmCheck 5, .flush, .rmCheck 5, .flush, .add 5, .search] = true := by
  decide +kernel

/-- **(C) no panic — full strength for the code as it is** (`Remove` = one write-locked
    region, fb7bd70): for every purge / capacity configuration and every interleaving of Add,
    Remove, search and Flush regions, nothing panics. -/
theorem never_panics (cfg : Cfg) (ha : cfg.atomicRemove = true) : NeverPanics cfg := fun acts =>
  flush_no_panic_partial cfg acts (noWindow_of_atomic cfg ha acts {} rfl)

/-- the witness of `remove_flush_window_panics`, run with the atomic Remove: the second
    Remove(5) fails, both Flushes pass -/
example : (run ⟨false, true, true⟩ [.add 5, .rmCheck 5, .rmCheck 5, .rmWrite 1, .flush, .rmWrite 0, .flush]).panicked = false ∧
    ((run ⟨false, true, true⟩ [.add 5, .rmCheck 5, .rmCheck 5]).hist.map (·.ok)) = [false, true, true] := by decide +kernel

/-- **(E)** Ids drawn from the one global atomic counter — by any goroutines, for any index
    instances, in any interleaving (each draw is a single atomic region, so an interleaving
    is just the order `whos` of the draws) — are pairwise distinct as long as fewer than 2³²
    ids are drawn (wrap-around of the uint32 counter is the hypothesis). -/
theorem ids_unique (c : Nat) (whos : List (Nat × Nat)) (h : whos.length < W32) :
    ((issue c whos).map (·.2)).Nodup := by
  rw [issue_ids]
  refine List.pairwise_map.2 (List.Pairwise.imp_of_mem (fun hi hj hne he => hne ?_) List.nodup_range')
  have hW : 1 + whos.length ≤ W32 := Nat.add_comm .. ▸ h
  exact mod_inj (Nat.lt_of_lt_of_le (List.mem_range'_1.1 hi).2 hW)
    (Nat.lt_of_lt_of_le (List.mem_range'_1.1 hj).2 hW) he

/-- non-vacuity: two goroutines × two instances get four distinct ids -/
example : (issue 7 [(0, 0), (1, 0), (0, 1), (1, 1)]).map (·.2) = [8, 9, 10, 11] := by decide +kernel
/-- what the theorem excludes: a non-atomic read-modify-write counter hands out a duplicate -/
theorem nonatomic_counter_duplicates :
    rmwRun 0 [] [.read 1, .read 2, .write 1, .write 2] = [1, 1] := by decide +kernel

end Comet.Conc.Proto
