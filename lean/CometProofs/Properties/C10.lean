/-
  C10 — a crash at any point leaves a directory that reopens consistently.

  Property theorems, their witnesses and non-vacuity examples, and the bridge
  `recover_is_crash_then_reopen` (model: Comet/Storage/{FS,Store,Crash}.lean, helpers:
  CometProofs/Storage/*.lean).

  Crash model. Every step of the store touches the directory through a list of FS steps
  (`fsStepsOf`; `exec_fs_eq`: the step's effect on the directory IS `applySteps` of that
  list). The process may die after any prefix of the list (`k`), and — the code never
  fsyncs — every file CREATED by the unfinished step may hold any prefix of its final
  gzip stream (`cuts : Name → Cut`, arbitrary): `crashImage s.fs (fsStepsOf s st) k cuts`.
  `recover` = the operator erases LOCK, the directory is opened with fresh templates.
  `XStep.crash` makes crash-and-recover a step of the global system, so `Reach` covers
  any number of crashes, in any session, inside flushes, worker writes and compactions.

  Status.
  * `crash_reopen_ok` (for EVERY directory), `crash_search_ok` (for every running store): FULL.
  * `crash_no_phantom`, `crash_adds_nothing`: FULL.
  * `crash_ids_not_reused` (one recovery, EVERY directory), `crash_ids_never_reused` (whole
    histories): FULL.
  * all-or-nothing: full statement `CrashAllOrNothing` FALSE while templates are shared
    (`crash_partial_segment_leaks`, D13; witness replayed on the real code); partial
    `crash_segment_all_or_nothing_partial`: a segment with a missing / empty /
    header-less component, or whose FIRST-read component (hybrid) is truncated, is
    ignored as a whole; FULL `crash_load_requires_complete`: only a segment all of whose
    component files are complete (gzip trailer of the last one included, repair ae56580)
    is ever loaded and cached.
  * `crash_durable_kept` (partial): a segment complete before the crashed step began is
    found by the first search after recovery, unless the crashed step is the compaction's
    swap-and-delete (D14); `crash_durable_kept_every_search`: and by every search of every
    later state in which `loadLost` is still false and the document was not removed.
-/
import CometProofs.Storage.DurableAll
import CometProofs.Storage.Phantom
namespace Comet.Storage

/-! ## recovery and searches never fail (full) -/

/-- FULL. Whatever the directory looks like — any crash image, any garbage — recovery returns
    an open store. -/
theorem crash_reopen_ok (cfg : Cfg) (img : FS) (gh : Ghost) :
    (recover cfg img gh).2 = .ok ∧ running (recover cfg img gh).1 = true := by
  unfold recover openOn
  simp [has_erase_self, running]

/-- FULL. On every running store — the recovered one, and after any further steps as long as it is
    open — every search for a configured modality returns a result, not an error, under every
    schedule. -/
theorem crash_search_ok (s : Store) (hrun : running s = true) (q : Q) (hq : s.cfg.tpl.has q = true)
    (sched : List SegEv) : ∃ l, (exec s (.search q sched)).2 = .ids l :=
  ⟨_, search_ids hrun hq sched⟩

/-- the driver's `recover` is the model's "crash step, then reopen" -/
theorem recover_is_crash_then_reopen (s : Store) (ho : s.opened = true) (st : Step) (k : Nat) (cuts : Name → Cut) :
    exec (xexec s (.crash st k cuts)) .reopen =
      recover s.cfg (crashImage s.fs (fsStepsOf s st) k cuts)
        (crashTo s (crashImage s.fs (fsStepsOf s st) k cuts)).gh := by
  simp [xexec, ho, exec, crashTo, recover]

/-! ## no phantom after a crash (full) -/

/-- FULL. After a crash anywhere (any step, any prefix of its file operations, any cut of the
    files it created), recovery, and any further history `rest`, every id a search returns was
    acknowledged by an Add before. -/
theorem crash_no_phantom {cfg : Cfg} {s : Store} (h : Reach cfg s) (st : Step) (k : Nat) (cuts : Name → Cut)
    (rest : List Step) (q : Q) (sched : List SegEv) (l : List Id)
    (hr : (exec (run (exec (xexec s (.crash st k cuts)) .reopen).1 rest) (.search q sched)).2 = .ids l) :
    ∀ i ∈ l, ∃ d ∈ (run (exec (xexec s (.crash st k cuts)) .reopen).1 rest).gh.acked, d.id = i :=
  search_result_acked (phInv_reach (reach_run_from (reach_step (reach_xexec h _) _) rest)) hr

/-- the acknowledged set does not grow by crashing and recovering: a document that was never
    added does not appear -/
theorem crash_adds_nothing (s : Store) (st : Step) (k : Nat) (cuts : Name → Cut) :
    (exec (xexec s (.crash st k cuts)) .reopen).1.gh.acked = s.gh.acked := by
  simp only [xexec]
  split
  · simp only [exec, crashTo, Bool.false_eq_true, if_false]
    unfold openOn; split <;> rfl
  · simp only [exec]
    split
    · rfl
    · unfold openOn; split <;> rfl

/-! ## identifiers are not reused after a crash (full) -/

/-- FULL. The recovered store's counter is at least every id naming ANY file of the image,
    orphans of half-written or half-deleted segments included; so the next id is larger. -/
theorem crash_ids_not_reused (cfg : Cfg) (img : FS) (gh : Ghost) :
    ∀ i ∈ FS.segIds img, i < (recover cfg img gh).1.counter + 1 := by
  intro i hi
  have : (recover cfg img gh).1.counter = initCounter (FS.put (FS.erase img .lock) .lock ⟨.lock, .full⟩) := by
    unfold recover openOn; simp [has_erase_self]
  rw [this, initCounter_congr _ _ (segIds_put_lock _ _), initCounter_congr _ _ (segIds_erase_lock img)]
  exact Nat.lt_succ_of_le (le_initCounter _ _ hi)

/-- FULL, over whole histories: in every state reachable through any number of crashes, no
    nextSegmentID result was ≤ an id that had named a file, and no file was overwritten. -/
theorem crash_ids_never_reused {cfg : Cfg} {s : Store} (h : Reach cfg s) :
    s.gh.reused = false ∧ s.gh.overwrote = false :=
  ⟨(idInv_reach h).noReuse, (idInv_reach h).noOver⟩

/-! ## a damaged segment is ignored as a whole -/

/-- ids a search may legitimately return right after recovery: those of the segments that
    deserialise completely -/
def intactIds (tpl : Tpl) (fs : FS) (q : Q) : List Id :=
  ((listSegments fs).filter fun g => (loadSeg tpl fs g Shared.empty).1).flatMap fun g => segIdsOf fs g q

/-- FULL statement: after a crash and recovery, before anything is added, no sequence of searches
    returns an id outside the intact segments. -/
def CrashAllOrNothing : Prop :=
  ∀ (cfg : Cfg) (s : Store), Reach cfg s → s.opened = true →
    ∀ (st : Step) (k : Nat) (cuts : Name → Cut) (searches : List Step),
      (∀ x ∈ searches, ∃ q sched, x = .search q sched) →
      let s' := (exec (xexec s (.crash st k cuts)) .reopen).1
      ∀ (q : Q) (sched : List SegEv) (l : List Id),
        (exec (run s' searches) (.search q sched)).2 = .ids l →
        ∀ i ∈ l, i ∈ intactIds s'.cfg.tpl s'.fs q

def cfgTiny : Cfg := ⟨⟨true, true, true⟩, 1, 209715200, 5⟩
def docA : Doc := ⟨1, 3, 6, 2⟩
def docB : Doc := ⟨2, 3, 6, 2⟩

/-- the cuts of the D13 witness: the un-synced text_2 short, every other file whole -/
def cutText2 : Name → Cut := fun n => if n = .seg .text 2 then .data else .full

/-- NEGATION (D13). Witness (corpus/C10/crash_d13_partial_segment_leaks.json): memtable limit 1;
    add a; Flush (segment 1 = {a}); add b; the next Flush writes a's memtable as segment 2 (content
    {a,b}) and the process dies after all its 8 file operations with text_2 short (`cutText2`).
    After recovery the first vector search (segments 1, 2 in turn) returns {a}; loading segment 2
    has put its vector part into the shared templates before its text part failed; the second,
    identical search returns b — which is in no intact segment. -/
theorem crash_partial_segment_leaks : ¬ CrashAllOrNothing := by
  intro h
  have w : let s := run (Store.init cfgTiny) [.add docA, .flush, .add docB]
      let s' := (exec (xexec s (.crash .flush 8 cutText2)) .reopen).1
      s.opened = true ∧
      (exec (run s' [.search .vec (serialSched [1, 2])]) (.search .vec (serialSched [1, 2]))).2 = .ids [1, 2] ∧
      2 ∉ intactIds s'.cfg.tpl s'.fs .vec := by decide +kernel
  exact w.2.2 (h cfgTiny _ (reach_run _ _) w.1 .flush 8 cutText2 [.search .vec (serialSched [1, 2])]
    (fun x hx => ⟨_, _, List.mem_singleton.mp hx⟩) .vec _ [1, 2] w.2.1 2 (by decide))

/-- the first search after that recovery is still clean -/
example :
    let s' := (exec (xexec (run (Store.init cfgTiny) [.add docA, .flush, .add docB]) (.crash .flush 8 cutText2)) .reopen).1
    (exec s' (.search .vec (serialSched [1, 2]))).2 = .ids [1] ∧ intactIds s'.cfg.tpl s'.fs .vec = [1] := by
  decide +kernel

/-- PARTIAL. A segment with a missing, empty or header-truncated component file (for the
    configured templates), or whose hybrid component — the first one read — is truncated, is
    ignored as a whole: the load fails and the shared templates are untouched. -/
theorem crash_segment_all_or_nothing_partial (tpl : Tpl) (fs : FS) (id : Nat) (T : Shared)
    (h : openAll fs id (comps tpl) = none ∨
         ∃ f, FS.find fs (.seg .hybrid id) = some f ∧ f.cut = .data) :
    loadSeg tpl fs id T = (false, T) := by
  rcases h with h | ⟨f, hf, hc⟩
  · simp [loadSeg, h]
  · simp only [loadSeg, comps, List.cons_append, List.nil_append, openAll, openable, hf, hc]
    split
    · rfl
    · rename_i files hfiles
      -- the first file opened is `f`, and reading it fails
      split at hfiles
      · rename_i f' _ hf' _
        obtain rfl : f = f' := by simpa using hf'
        cases hfiles
        simp [readAll, readComp, hc]
      · cases hfiles

/-- FULL (since the repair ae56580, getIndex drains the MultiReader): a segment is loaded ONLY IF
    every component file the templates need is present and complete — header, data and trailer.
    A missing, empty or truncated component anywhere, the gzip trailer of the last file included,
    makes the load fail. (What a failing load may already have written into the shared templates
    is D13's subject, `crash_partial_segment_leaks`.) -/
theorem crash_load_requires_complete (tpl : Tpl) (fs : FS) (id : Nat) (T : Shared)
    (h : (loadSeg tpl fs id T).1 = true) : segComplete tpl fs id = true :=
  loadSeg_ok_complete h

/-- … and conversely a complete segment (with payloads of the right kind, as every segment the
    store writes has) loads: `loadSeg_of_holds` in CometProofs/Storage/DurableLoad.lean. -/
example :
    let s := run (Store.init cfgTiny) [.add docA, .flush]
    segComplete s.cfg.tpl s.fs 1 = true ∧ (loadSeg s.cfg.tpl s.fs 1 Shared.empty).1 = true ∧
    -- the last component (metadata) short of its trailer only: rejected, but only after the
    -- whole content has been published into the templates
    (let fs' := recut [.seg .metadata 1] (fun _ => .trailer) s.fs
     (loadSeg s.cfg.tpl fs' 1 Shared.empty).1 = false ∧
     (loadSeg s.cfg.tpl fs' 1 Shared.empty).2 = (loadSeg s.cfg.tpl s.fs 1 Shared.empty).2) := by decide +kernel

/-! ## what was durable before the crash is still found -/

/-- PARTIAL. Let segment `g` be complete and hold `d` before the crashed step began (in a
    reachable open state). If the crashed step is not the compaction's swap-and-delete, then
    after recovery `d` is found, through every modality it carries, by the first search under
    every serialised schedule. -/
theorem crash_durable_kept {cfg : Cfg} {s : Store} (hr : Reach cfg s) (ho : s.opened = true)
    (g : Nat) (d : Doc) (hh : SegHolds cfg.tpl s.fs g d)
    (st : Step) (hns : st ≠ .bg .cswap) (k : Nat) (cuts : Name → Cut)
    (q : Q) (hq : Doc.matches cfg.tpl d q = true) (sched : List SegEv)
    (hs : SerialFor (exec (xexec s (.crash st k cuts)) .reopen).1 sched) :
    found (exec (xexec s (.crash st k cuts)) .reopen).1 q sched d := by
  have hc := reach_cfg hr
  rw [recover_is_crash_then_reopen s ho] at hs ⊢
  rw [hc] at hs ⊢
  have h1 : SegHolds s.cfg.tpl (FS.erase (crashImage s.fs (fsStepsOf s st) k cuts) .lock) g d :=
    (KInv.crash hns k cuts ho (idInv_reach hr) (hc ▸ hh)).holds
  rw [hc] at h1
  unfold recover at hs ⊢
  exact found_after_open h1 hq (crash_reopen_ok cfg _ _).2 hs

/-- PARTIAL, every search. … and after recovery and ANY continuation `xs` without a compaction swap,
    in every state in which the store is open, no segment load has lost live content so far and `d`
    was not removed, EVERY serialised search finds `d`. -/
theorem crash_durable_kept_every_search {cfg : Cfg} {s : Store} (hr : Reach cfg s) (ho : s.opened = true)
    (g : Nat) (d : Doc) (hh : SegHolds cfg.tpl s.fs g d)
    (st : Step) (hns : st ≠ .bg .cswap) (k : Nat) (cuts : Name → Cut)
    (xs : List XStep) (hx : ∀ x ∈ xs, noSwap x = true)
    (hrun2 : running (xrun (xexec s (.crash st k cuts)) (.step .reopen :: xs)) = true)
    (hl2 : (xrun (xexec s (.crash st k cuts)) (.step .reopen :: xs)).gh.loadLost = false)
    (hrem : d.id ∉ (xrun (xexec s (.crash st k cuts)) (.step .reopen :: xs)).gh.removed)
    (q : Q) (hq : Doc.matches cfg.tpl d q = true) (sched : List SegEv)
    (hs : SerialFor (xrun (xexec s (.crash st k cuts)) (.step .reopen :: xs)) sched) :
    found (xrun (xexec s (.crash st k cuts)) (.step .reopen :: xs)) q sched d := by
  -- right after the crash nothing is open: the invariant is just "the files are intact"
  have h1 : KInv g d (xexec s (.crash st k cuts)) := by
    simp only [xexec, ho, if_true]
    exact KInv.crash hns k cuts ho (idInv_reach hr) (reach_cfg hr ▸ hh)
  exact found_every_search (reach_xexec hr _) h1 (.step .reopen :: xs)
    (fun x hxm => (List.mem_cons.mp hxm).elim (fun e => e ▸ rfl) (hx x)) hq hrun2 hl2 hrem hs

/-- the conclusion of `crash_durable_kept` on an instance (its hypothesis `SegHolds` is not evaluated):
    two completed flushes, then a crash 3 file operations into the third, every created file cut in
    its data: both earlier documents are found -/
example :
    let s := run (Store.init cfgTiny) [.add docA, .flush, .add docB, .flush, .add ⟨3, 3, 6, 2⟩]
    let s' := (exec (xexec s (.crash .flush 3 (fun _ => .data))) .reopen).1
    s.opened = true ∧ s'.segs.map (·.id) = [1, 2, 3] ∧
    (exec s' (.search .vec (serialSched [3, 1, 2]))).2 = .ids [1, 2] ∧
    (exec s' (.search .txt (serialSched [2, 3, 1]))).2 = .ids [1, 2] := by decide +kernel

/-- D14 in a crash: a compaction (threshold 2) dies in its swap after deleting its first source —
    the merged segment 3 holds what the templates held, here {a, b}; with one more add before
    the compaction it would not (`store_compaction_loses` in C08) -/
example :
    let cfg : Cfg := ⟨⟨true, true, true⟩, 104857600, 209715200, 2⟩
    let s := run (Store.init cfg) [.add docA, .rotate, .flush, .add docB, .rotate, .flush, .trigger,
      .bg .cwake, .bg .clist, .bg .cload, .bg .cload, .bg .cwrite]
    let s' := (exec (xexec s (.crash (.bg .cswap) 4 (fun _ => .full))) .reopen).1
    s'.segs.map (·.id) = [2, 3] ∧ FS.segIds s'.fs = [2, 2, 2, 2, 3, 3, 3, 3] := by decide +kernel

end Comet.Storage
