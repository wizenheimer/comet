/-
  C11 — race freedom and visibility-linearizability under concurrency.
  Helpers are in CometProofs/Conc/*.lean, models in Comet/Conc/*.lean.

  (A) `lockset_sound`: lock discipline ⇒ no data race in any reachable state of the abstract
      machine — full (model).
  (B) `acyclic_no_deadlock`: ranked lock order ⇒ not every thread is blocked — partial
      (lock-induced deadlock only; channels/WaitGroup not modelled).
  `checkRaw_sound`, `lockorder_acyclic`: what the Booleans evaluated on the regenerated facts by
  CometGen/Obligations_C11.lean say; neither is composed with (A) / (B) in Lean.
  (C)–(E) are in C11_Proto.lean / C11_Rotation.lean.
-/
import CometProofs.Conc.Lockset
namespace Comet.Conc

/-- **(A)** In every state reachable from threads that start in entry functions holding
    nothing, no two threads are about to perform conflicting accesses (same instance slot,
    same field, at least one write) to a plain-data field — whitelisted accesses excepted.
    `Discipline T` is decidable; the per-run obligation `discipline_facts` evaluates `checkRaw`
    (see `checkRaw_sound`) on the lock facts regenerated from /repo. -/
theorem lockset_sound (T : Table) (hd : Discipline T) (st : State) (hr : Reachable T st) :
    ¬ Race T st := by
  rintro ⟨pre, mid, post, t, u, b, f, m₁, s₁, m₂, s₂, rfl, hn₁, hn₂, hw, hna, hns, he₁, he₂⟩
  obtain ⟨hpw, hwc⟩ := inv_reachable hd hr
  have ht : t ∈ pre ++ t :: mid := List.mem_append_right _ (.head _)
  obtain ⟨c₁, w₁⟩ := hwc t (List.mem_append_left _ ht)
  obtain ⟨c₂, w₂⟩ := hwc u (List.mem_append_right _ (.head _))
  have h₁ := next_access_held w₁ hn₁ he₁ hna hns
  have h₂ := next_access_held w₂ hn₂ he₂ hna hns
  by_cases hg : T.classOf f = .guarded
  · exact ((List.pairwise_append.1 hpw).2.2 t ht u (.head _)).not_holds (h₁.1 hg) (h₂.1 hg) hw
  · exact hw.elim (fun h => Mode.noConfusion ((h₁.2 hg).symm.trans h))
      fun h => Mode.noConfusion ((h₂.2 hg).symm.trans h)

/-- raw facts on which `checkRaw` holds decode to a disciplined table -/
theorem checkRaw_sound (raw : List RawFn) (classes : List Nat) (wl : List (Nat × Nat))
    (h : checkRaw raw classes wl = true) :
    ∃ T, decodeTable raw classes wl = some T ∧ Discipline T := by
  unfold checkRaw at h
  split at h
  · next T hT => exact ⟨T, hT, h⟩
  · cases h

/-- a two-function table in the style of `FlatIndex`: Add writes field 0 under the W lock, search
    reads it through a helper that requires R, called under the R lock or (`false`) after it -/
def exT (searchLocked : Bool) : Table :=
  { fns := [
      { id := 0, entry := true, req := [], paths := [[.acq 0 .W, .acc 0 0 .W 0, .rel 0 .W]] },
      { id := 1, entry := true, req := [],
        paths := [if searchLocked then [.acq 0 .R, .call [2], .rel 0 .R]
                  else [.acq 0 .R, .rel 0 .R, .call [2]]] },
      { id := 2, entry := false, req := [(0, .R)], paths := [[.acc 0 0 .R 2]] }],
    classes := [.guarded], whitelist := [] }

/-- non-vacuity of (A): the first table is disciplined, the second is not -/
example : Discipline (exT true) := by decide +kernel
example : ¬ Discipline (exT false) := by decide +kernel

/-- the undisciplined variant really races: the reachable state in which thread 0 holds
    the W lock and is about to write while thread 1 (past its lock region) is about to read. -/
example : ∃ st, Reachable (exT false) st ∧ Race (exT false) st := by
  let T := exT false
  let t₀ : Thread := [⟨[], [.call [0]]⟩]
  have r0 : Reachable T ([t₀] ++ [⟨[], [.call [1]]⟩] :: []) := .init _ <|
    List.forall_mem_cons.2 ⟨⟨0, _, rfl, rfl, rfl⟩, List.forall_mem_singleton.2 ⟨1, _, rfl, rfl, rfl⟩⟩
  -- thread 1: call, acquire R, release R, call the helper outside the lock
  have r1 := r0.step _ _ (Step.mk [t₀] [] _ _ (.call [] [] [] [1] 1 _ _ (.head _) rfl (.head _)))
  have r2 := r1.step _ _ (Step.mk [t₀] [] _ _ (.acq [] _ _ 0 .R (free_of_idle (by decide) ..)))
  have r3 := r2.step _ _ (Step.mk [t₀] [] _ _ (.rel [(0, .R)] _ _ 0 .R (.head _)))
  have r4 := r3.step _ _ (Step.mk [t₀] [] _ _ (.call [] [] _ [2] 2 _ _ (.head _) rfl (.head _)))
  -- thread 0: call, acquire W
  have r5 := r4.step _ _ (Step.mk [] _ _ _ (.call [] [] [] [0] 0 _ _ (.head _) rfl (.head _)))
  have r6 := r5.step _ _ (Step.mk [] _ _ _ (.acq [] _ _ 0 .W (free_of_idle (by decide) ..)))
  exact ⟨_, r6, [], [], [], _, _, 0, 0, .W, 0, .R, 2, rfl, rfl, rfl, .inl rfl, by decide, by decide,
    rfl, rfl⟩

theorem exists_max_cons {α} (f : α → Nat) (l : List α) :
    ∀ a, ∃ t ∈ a :: l, ∀ u ∈ a :: l, f u ≤ f t := by
  induction l with
  | nil => exact fun a => ⟨a, .head _, List.forall_mem_singleton.2 (Nat.le_refl _)⟩
  | cons b l ih =>
    intro a
    obtain ⟨t, ht, hm⟩ := ih b
    by_cases hle : f t ≤ f a
    · exact ⟨a, .head _, List.forall_mem_cons.2
        ⟨Nat.le_refl _, fun u hu => Nat.le_trans (hm u hu) hle⟩⟩
    · exact ⟨t, .tail _ ht, List.forall_mem_cons.2 ⟨Nat.le_of_not_le hle, hm⟩⟩

/-- **(B)** (generic) If every nested acquisition respects a strict order on locks (`rank` of
    every held lock is below the rank of the awaited one) then the threads cannot all be
    blocked on locks held by one another: in any non-empty set of threads some thread is not waiting, or waits for
    a lock that nobody in the set holds.  Partial: only lock-induced deadlock; blocking on
    channels / WaitGroup (Close) and writer-preference of sync.RWMutex with recursive read
    locking are not modelled. -/
theorem acyclic_no_deadlock (rank : String → Nat) (ts : List Waiter) (hne : ts ≠ [])
    (hord : ∀ t ∈ ts, ∀ l, t.waiting = some l → ∀ h ∈ t.held, rank h < rank l) :
    ¬ (∀ t ∈ ts, ∃ l, t.waiting = some l ∧ ∃ u ∈ ts, l ∈ u.held) := by
  intro hall
  -- a waiter whose awaited lock has maximal rank; the holder of that lock waits for a higher one
  obtain ⟨a, l, rfl⟩ := List.exists_cons_of_ne_nil hne
  obtain ⟨t, ht, hmax⟩ := exists_max_cons (fun t : Waiter => t.waiting.elim 0 rank) l a
  obtain ⟨x, hx, u, hu, hxu⟩ := hall t ht
  obtain ⟨y, hy, _⟩ := hall u hu
  have hle := hmax u hu
  rw [hx, hy] at hle
  exact Nat.lt_irrefl _ (Nat.lt_of_lt_of_le (hord u hu y hy x hxu) hle)

/-- non-vacuity of (B): with a cyclic order two threads do block each other -/
example : ∃ ts : List Waiter, ts ≠ [] ∧ ∀ t ∈ ts, ∃ l, t.waiting = some l ∧ ∃ u ∈ ts, l ∈ u.held :=
  ⟨[⟨["a"], some "b"⟩, ⟨["b"], some "a"⟩], List.cons_ne_nil _ _, List.forall_mem_cons.2
    ⟨⟨"b", rfl, _, .tail _ (.head _), .head _⟩,
      List.forall_mem_singleton.2 ⟨"a", rfl, _, .head _, .head _⟩⟩⟩

/-- `lockOrderOK` (the Boolean the per-run obligation `lockorder_facts` evaluates, there with
    `impossible = []`): every listed nesting edge that is not declared impossible goes from a
    ranked lock class to a strictly higher ranked one. -/
theorem lockorder_acyclic (rank : String → Option Nat) (impossible edges : List (String × String))
    (h : lockOrderOK rank impossible edges = true) :
    ∀ e ∈ edges, e ∉ impossible → ∃ a b, rank e.1 = some a ∧ rank e.2 = some b ∧ a < b := by
  intro e he hni
  rcases Bool.or_eq_true_iff.1 (List.all_eq_true.1 h e he) with h1 | h1
  · exact absurd (List.contains_iff_mem.1 h1) hni
  · split at h1
    · next a b ha hb => exact ⟨a, b, ha, hb, of_decide_eq_true h1⟩
    · cases h1

end Comet.Conc
