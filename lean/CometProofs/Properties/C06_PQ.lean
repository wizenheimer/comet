/-
  C06's vector-side visibility abstraction for the PQ index.  The write path of the PQ
  model (Comet/Vector/PQ.lean, the one C14 is proved about) IS a flat-index write path over
  stored records (preprocessed vector + PQ code): `pq_step_sim` shows that on a trained
  index every Add / Remove / Flush step of the PQ model is the flat model's step for the
  derived "metric" whose preprocessing also encodes.  The refinement of `Hybrid.VecIdx`
  then follows from the flat one (`absFlat_step`).
-/
import CometProofs.Properties.C06_Flat
import CometProofs.PQ
namespace Comet.Hybrid
open Comet.PQ

variable {S : Type}

/-- the flat-index view of a PQ state: same entries (as stored records), same tombstones -/
def pqToFlat (s : PQ.State S) : Flat.State (Stored S) := ⟨s.dim, s.entries, s.deleted⟩

/-- a vector as passed to Add, seen as a record that is not encoded yet -/
def raw (v : List S) : Stored S := ⟨v, 0, []⟩

/-- validation + preprocessing + encoding of `PQIndex.Add`, packaged as a flat "metric"
    over stored records (only `dimOf` and `pre` matter on the write path) -/
def pqMetric (m : Metric (List S) S) (A : Arith S) (dsub : Nat) (cbs : List (List (List S))) :
    Metric (Stored S) S :=
  { dimOf := fun r => r.vec.length,
    pre := fun r => (m.pre r.vec).map fun v' => ⟨v', 0, encode (A.ops m.sc) m.sc.lt A.inf dsub cbs v'⟩,
    dist := fun _ _ => m.sc.zero,
    sc := m.sc }

def embedOp : Flat.Op (List S) → Flat.Op (Stored S)
  | .add id v => .add id (raw v)
  | .remove id => .remove id
  | .flush => .flush

def outOf : Option Err → PQ.Out
  | none => PQ.Out.ok
  | some e => PQ.Out.err e

/-- the derived metric preprocesses exactly as the lifted metric of C14 does -/
theorem pqMetric_step (m : Metric (List S) S) (A : Arith S) (dsub : Nat)
    (cbs : List (List (List S))) :
    Flat.step (pqMetric m A dsub cbs) = Flat.step (lift m A trunc8 dsub cbs) :=
  Flat.step_congr rfl (funext fun r => by
    simp only [pqMetric, lift]
    cases m.pre r.vec <;> rfl)

/-- **simulation**: on a trained PQ index every write step is the flat model's step over
    stored records, with the same outcome; codebooks, sub-dimension and the trained flag
    are untouched -/
theorem pq_step_sim (m : Metric (List S) S) (A : Arith S) (s : PQ.State S) (ht : s.trained = true)
    (op : Flat.Op (List S)) :
    pqToFlat (PQ.step m A s op).1 = (Flat.step (pqMetric m A s.dsub s.cbs) (pqToFlat s) (embedOp op)).1 ∧
    (PQ.step m A s op).2 = outOf (Flat.step (pqMetric m A s.dsub s.cbs) (pqToFlat s) (embedOp op)).2 ∧
    (PQ.step m A s op).1.trained = true ∧ (PQ.step m A s op).1.dsub = s.dsub ∧
    (PQ.step m A s op).1.cbs = s.cbs := by
  -- `pqToFlat`, `raw`, `embedOp` unfold to `PQ.toFlat`, `PQ.inject`, `PQ.liftOp`
  obtain ⟨h1, h2, h3⟩ := PQ.step_sim m A s op ht
  have he : embedOp op = liftOp op := by cases op <;> rfl
  have ho : ∀ o : Option Err, outOf o = o.elim .ok .err := fun o => by cases o <;> rfl
  rw [pqMetric_step, he, ho]
  exact ⟨h1, h2, h3.trained.trans ht, h3.dsub_eq, h3.cbs⟩

def absPQ (s : PQ.State S) : VecIdx (Stored S) := absFlat (pqToFlat s)

/-- **PQ refines the visibility model**: every write step of a trained PQ index commutes with
    the abstraction; what is stored under an id is the preprocessed vector with its code -/
theorem absPQ_step (m : Metric (List S) S) (A : Arith S) (s : PQ.State S) (ht : s.trained = true)
    (op : Flat.Op (List S)) :
    absPQ (PQ.step m A s op).1 =
      vecStep (flatVpre (pqMetric m A s.dsub s.cbs) s.dim) (absPQ s) (embedOp op) := by
  unfold absPQ
  rw [(pq_step_sim m A s ht op).1, absFlat_step]
  rfl

/-- … for every history after training -/
theorem absPQ_run (m : Metric (List S) S) (A : Arith S) (s : PQ.State S) (ht : s.trained = true)
    (ops : List (Flat.Op (List S))) :
    absPQ (PQ.run m A s ops) =
      (ops.map embedOp).foldl (vecStep (flatVpre (pqMetric m A s.dsub s.cbs) s.dim)) (absPQ s) := by
  induction ops generalizing s with
  | nil => rfl
  | cons op t ih =>
    obtain ⟨hsim, _, htr, hds, hcb⟩ := pq_step_sim m A s ht op
    simp only [PQ.run, List.foldl_cons, List.map_cons] at ih ⊢
    rw [ih _ htr, hds, hcb, absPQ_step m A s ht op]
    have hdim : (PQ.step m A s op).1.dim = s.dim := by
      have := congrArg Flat.State.dim hsim
      simp only [pqToFlat] at this
      rw [this, Flat.step_dim]
    rw [hdim]

/-- an untrained PQ index rejects every Add and keeps its state -/
theorem pq_untrained_add (m : Metric (List S) S) (A : Arith S) (s : PQ.State S) (ht : s.trained = false)
    (id : Id) (v : List S) : PQ.step m A s (.add id v) = (s, PQ.Out.err .untrained) := by
  simp [PQ.step, ht]

end Comet.Hybrid
