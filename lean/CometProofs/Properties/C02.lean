/-
  C02 — Every vector index returns only live, eligible, correctly scored, ordered hits.

  * `Pipeline.Sound` (Comet/Vector/Pipeline.lean) is the single-query contract of the
    property; `checkSound_iff` (there) makes the checker the driver runs on EVERY kind's
    answers (flat, HNSW, IVF, PQ, IVFPQ) equivalent to it.
  * `tail_sound`: the tail shared by the five searchSingleQuery bodies meets the contract
    for ANY candidate source that yields each stored entry at most once with the kind's
    score; the flat model is tied to it (`flat_search_is_tail`, `flat_sound`). PQ and IVF
    reach the contract from their exactness theorems by `isTopK_cands_sound`
    (C02_Kinds.lean).
  * node-id queries, their error cases and the multi-query shape are proved here for the
    flat model (`Flat.execute`), whose `Execute` body the other four kinds copy (the
    correspondence stream exercises all five); flush invariance for its `searchSingle`.
-/
import CometProofs.Pipeline
import CometProofs.AggNodup
namespace Comet.Pipeline

variable {V S : Type}

/-- The shared tail meets C02's contract for any well-formed candidate source. -/
theorem tail_sound (sc : Scalar S) (ord : sc.Ordered) (scoreOK : V → S → Bool)
    (live : List (Id × V)) (deleted filter : List Id) (thr : S) (k : Int) (kk : Nat)
    (cands : List (Id × V × S))
    (hn : (cands.map (·.1)).Nodup)
    (hc : ∀ c ∈ cands, c.1 ∉ deleted → (c.1, c.2.1) ∈ live ∧ scoreOK c.2.1 c.2.2 = true)
    (hk : 0 < k → (kk : Int) ≤ k) :
    Sound sc scoreOK live filter thr k (tail sc deleted filter thr kk cands) := by
  have hsorted := List.pairwise_mergeSort (le := hitLe sc.le)
    (fun a b c => ord.trans a.score b.score c.score) (fun a b => ord.total a.score b.score)
    (cands.filterMap (keep sc deleted filter thr))
  have hperm := (List.Perm.of_eq (List.take_append_drop kk _)).trans
    (List.mergeSort_perm (cands.filterMap (keep sc deleted filter thr)) (hitLe sc.le))
  have hpn : ((cands.filterMap (keep sc deleted filter thr)).map (·.id)).Nodup :=
    (filterMap_key_sublist (·.1) _ (fun c h hk' => by rw [(keep_eq_some.1 hk').2.2.2]) cands).nodup hn
  refine .of_pool hperm hpn ?_ (hsorted.sublist (List.take_sublist _ _)) fun hk0 => ?_
  · intro h hh
    obtain ⟨c, hc', hk'⟩ := List.mem_filterMap.1 hh
    obtain ⟨hd, he, ht, rfl⟩ := keep_eq_some.1 hk'
    exact ⟨⟨c.2.1, hc c hc' hd⟩, he, ht⟩
  · exact Int.le_trans (Int.ofNat_le.2 (List.length_take_le _ _)) (hk hk0)

end Comet.Pipeline

namespace Comet.Flat
open Comet.Pipeline

variable {V S : Type}

/-- flat's searchSingleQuery IS the shared tail over all stored entries … -/
theorem flat_search_is_tail (m : Metric V S) (s : State V) (q q' : V) (k : Int) (thr : S)
    (F : List Id) (hq : m.dimOf q = s.dim) (hpre : m.pre q = some q') :
    ∃ kk : Nat, (0 < k → (kk : Int) ≤ k) ∧
      searchSingle m s q k thr F =
        .ok (tail m.sc s.deleted F thr kk (s.vecs.map fun p => (p.1, p.2, m.dist q' p.2))) := by
  refine ⟨sanitizeK k (scan m s q' thr F).length, fun hk => sanitizeK_le_of_pos hk _, ?_⟩
  have : scan m s q' thr F =
      (s.vecs.map fun p => (p.1, p.2, m.dist q' p.2)).filterMap (keep m.sc s.deleted F thr) := by
    simp only [scan, List.filterMap_map]
    congr 1
    funext p
    by_cases h1 : p.1 ∈ s.deleted <;> simp [keep, h1]
  rw [searchSingle_eq m s q q' k thr F hq hpre, selectK, this]
  rfl

/-- … hence every flat answer meets C02's contract w.r.t. the specification's live set,
    with the TRUE metric distance as the score, for every history whose stored ids are
    distinct (C02's quantifier: distinct ids). -/
theorem flat_sound (m : Metric V S) [DecidableEq S] (ord : m.sc.Ordered) (dim : Nat) (ops : List (Op V))
    (hn : ((run m (init dim) ops).vecs.map (·.1)).Nodup)
    (q q' : V) (k : Int) (thr : S) (F : List Id)
    (hq : m.dimOf q = dim) (hpre : m.pre q = some q') :
    ∃ res, searchSingle m (run m (init dim) ops) q k thr F = .ok res ∧
      Sound m.sc (fun v s => decide (s = m.dist q' v)) (live m dim ops) F thr k res := by
  obtain ⟨kk, hkk, heq⟩ := flat_search_is_tail m (run m (init dim) ops) q q' k thr F
    (hq.trans (run_dim m (init dim) ops).symm) hpre
  refine ⟨_, heq, tail_sound m.sc ord _ _ _ F thr k kk _ ?_ ?_ hkk⟩
  · rwa [List.map_map]
  · intro c hc hnd
    obtain ⟨p, hp, rfl⟩ := List.mem_map.1 hc
    rw [← eff_run_init m dim ops]
    exact ⟨List.mem_filter.2 ⟨hp, decide_eq_true hnd⟩, decide_eq_true rfl⟩

/-- Exactness implies soundness: ANY exact top-k (C01 `flat_search_exact`, C13's IVF
    theorems, C14 `pq_topk` / `ivfpq_topk`, C12's partial exactness) of the specification's
    candidates meets C02's contract, with the metric's own distance as the score — provided
    the live ids are distinct (C02's quantifier). -/
theorem isTopK_cands_sound (m : Metric V S) [DecidableEq S] (live : List (Id × V))
    (hn : (live.map (·.1)).Nodup) (q' : V) (thr : S) (F : List Id) (k : Int)
    (res : List (Hit S)) (h : IsTopK m.sc.le k (cands m live q' thr F) res) :
    Sound m.sc (fun v s => decide (s = m.dist q' v)) live F thr k res := by
  obtain ⟨hsorted, ⟨rest, hperm, _⟩, hlen⟩ := h
  refine .of_pool hperm ((cands_ids_sublist m live q' thr F).nodup hn) ?_ hsorted
    fun hk => hlen ▸ sanitizeK_le_of_pos hk _
  intro x hx
  obtain ⟨p, hp, he, ht, rfl⟩ := mem_cands.1 hx
  exact ⟨⟨p.2, hp, decide_eq_true rfl⟩, he, ht⟩

/-- distinct add ids (the quantifier) give distinct stored ids -/
theorem fresh_stored_nodup (m : Metric V S) (s : State V) (ops : List (Op V))
    (h0 : (s.vecs.map (·.1)).Nodup) (hfresh : FreshAdds ops)
    (hnew : ∀ i ∈ s.vecs.map (·.1), i ∉ addedIds ops) :
    ((run m s ops).vecs.map (·.1)).Nodup :=
  ids_run_nodup m s ops h0 hfresh hnew

/-- Searching from a stored node id is searching with that node's stored vector. -/
theorem node_query_eq_vector_query (m : Metric V S) (s : State V) (id : Id) (v : V)
    (hl : lookupNode s id = .ok v) (k : Int) (thr : S) (F : List Id) (agg : AggKind) :
    execute m s [] [id] k thr F agg = execute m s [v] [] k thr F agg := by
  simp [execute, hl, List.mapM_cons, List.mapM_nil, bind, Except.bind, pure, Except.pure]

/-- An unknown node id is an error … -/
theorem node_query_unknown_err (m : Metric V S) (s : State V) (id : Id)
    (h : id ∉ s.vecs.map (·.1)) (k : Int) (thr : S) (F : List Id) (agg : AggKind) :
    execute m s [] [id] k thr F agg = .error .notFound := by
  have hf : s.vecs.find? (·.1 == id) = none := by
    apply List.find?_eq_none.2
    intro p hp he
    exact h (List.mem_map.2 ⟨p, hp, by simpa using he⟩)
  simp [execute, lookupNode, hf, List.mapM_cons, bind, Except.bind]

/-- … and so is a removed (soft-deleted) one. -/
theorem node_query_removed_err (m : Metric V S) (s : State V) (id : Id)
    (h : id ∈ s.vecs.map (·.1)) (hd : id ∈ s.deleted) (k : Int) (thr : S) (F : List Id)
    (agg : AggKind) :
    execute m s [] [id] k thr F agg = .error .deleted := by
  obtain ⟨p, hp, he⟩ := List.mem_map.1 h
  cases hf : s.vecs.find? (·.1 == id) with
  | none =>
    have := List.find?_eq_none.1 hf p hp
    simp [he] at this
  | some p' =>
    simp [execute, lookupNode, hf, hd, List.mapM_cons, bind, Except.bind]

/-- No query at all is an error. -/
theorem no_query_err (m : Metric V S) (s : State V) (k : Int) (thr : S) (F : List Id)
    (agg : AggKind) : execute m s [] [] k thr F agg = .error .noQuery := by
  simp [execute, bind, Except.bind, throw, throwThe, MonadExceptOf.throw]

/-- The answer to several query vectors (each single-query search succeeding) is
    `LimitResults(k)` of the aggregation (`Comet.vecAggregate`, whose sum / max / mean laws
    are C19's `vec_agg_spec`) of the concatenated per-query answers. -/
theorem multi_query_is_aggregate (m : Metric V S) (s : State V) (qs : List V)
    (per : List (List (Hit S))) (hqs : qs ≠ [])
    (hper : qs.mapM (fun q => searchSingle m s q k thr F) = .ok per) (agg : AggKind) :
    execute m s qs [] k thr F agg =
      .ok (limitResults k (if per.flatten.isEmpty then per.flatten
                           else vecAggregate m.sc agg per.flatten)) := by
  have hne : qs.isEmpty = false := by cases qs <;> simp_all
  simp [execute, hne, hper, List.mapM_nil, bind, Except.bind, pure, Except.pure]

/-- With one query, `Execute` (search, aggregate, limit) returns the single-query answer
    itself — hence an exact top-k of the live, eligible, within-threshold vectors (C01) —
    when reducing ONE score is the identity (`0 + d = d`, `d / 1 = d`: exact arithmetic; for
    IEEE floats it holds bit for bit except that `0 + (−0) = +0`, and distances are never −0)
    and the stored ids are distinct. -/
theorem flat_execute_single_exact (m : Metric V S) [DecidableEq S] (ord : m.sc.Ordered)
    (dim : Nat) (ops : List (Op V))
    (hn : ((run m (init dim) ops).vecs.map (·.1)).Nodup)
    (q q' : V) (k : Int) (thr : S) (F : List Id) (agg : AggKind)
    (hred : ∀ d : S, reduceVec m.sc agg [d] = d)
    (hq : m.dimOf q = dim) (hpre : m.pre q = some q') :
    ∃ res, execute m (run m (init dim) ops) [q] [] k thr F agg = .ok res ∧
      searchSingle m (run m (init dim) ops) q k thr F = .ok res ∧
      IsTopK m.sc.le k (cands m (live m dim ops) q' thr F) res := by
  obtain ⟨res, hres, hsound⟩ := flat_sound m ord dim ops hn q q' k thr F hq hpre
  have htop : IsTopK m.sc.le k (cands m (live m dim ops) q' thr F) res := by
    cases hres.symm.trans (searchSingle_run m dim ops q q' k thr F hq hpre)
    exact selectK_isTopK m.sc.le ord.total ord.trans k _
  refine ⟨res, ?_, hres, htop⟩
  have hagg : (if res.isEmpty then res else vecAggregate m.sc agg res) = res := by
    split
    · rfl
    · exact vecAggregate_id m.sc agg res hsound.distinct hred hsound.sorted
  have hlim : limitResults k res = res :=
    List.take_of_length_le (by rw [htop.len, sanitizeK_idem]; exact Nat.le_refl _)
  simp only [execute, hres, List.mapM_cons, List.mapM_nil, bind, Except.bind, pure, Except.pure,
    List.isEmpty_cons, List.isEmpty_nil, Bool.false_and, List.append_nil,
    List.flatten_cons, List.flatten_nil, Bool.false_eq_true, if_false, hagg, hlim]

/-- literal equality of every single-query answer before and after `Flush`, for every
    state, query, k, threshold and restriction -/
theorem flat_flush_invariant (m : Metric V S) (s : State V) (q : V) (k : Int) (thr : S)
    (F : List Id) :
    searchSingle m (step m s .flush).1 q k thr F = searchSingle m s q k thr F :=
  searchSingle_congr m (step_dim m s .flush) ((eff_step m s .flush).trans rfl) q k thr F

section Example
def toyM : Metric Nat Nat where
  dimOf _ := 1
  pre v := some v
  dist a b := if a ≤ b then b - a else a - b
  sc := { zero := 0, add := (· + ·), divNat := fun a n => a / n,
          le := fun a b => decide (a ≤ b), lt := fun a b => decide (a < b) }

-- the checker accepts a sound answer and rejects a removed id, a wrong score, a duplicate,
-- a score beyond the threshold
example : checkSound toyM.sc (fun v s => decide (s = toyM.dist 20 v))
    [(1, 10), (3, 30), (4, 20)] [] 0 2 [⟨4, 0⟩, ⟨1, 10⟩] = true := by decide +kernel
example : checkSound toyM.sc (fun v s => decide (s = toyM.dist 20 v))
    [(1, 10), (3, 30), (4, 20)] [] 0 2 [⟨4, 0⟩, ⟨2, 10⟩] = false := by decide +kernel   -- id 2 is not live
example : checkSound toyM.sc (fun v s => decide (s = toyM.dist 20 v))
    [(1, 10), (3, 30), (4, 20)] [] 0 2 [⟨4, 0⟩, ⟨1, 11⟩] = false := by decide +kernel   -- wrong score
example : checkSound toyM.sc (fun v s => decide (s = toyM.dist 20 v))
    [(1, 10), (3, 30), (4, 20)] [] 0 3 [⟨4, 0⟩, ⟨1, 10⟩, ⟨1, 10⟩] = false := by decide +kernel -- twice
example : checkSound toyM.sc (fun v s => decide (s = toyM.dist 20 v))
    [(1, 10), (3, 30), (4, 20)] [] 5 0 [⟨4, 0⟩, ⟨1, 10⟩] = false := by decide +kernel   -- beyond threshold 5
end Example

end Comet.Flat
