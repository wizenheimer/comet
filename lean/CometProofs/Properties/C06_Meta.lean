/-
  C06's metadata-side visibility abstraction `Hybrid.MetaIdx` against the models C04 is
  proved about: the specification state of C04 (`Meta.Spec`: the live documents) maps
  onto `MetaIdx` so that every Add / Remove step commutes (`absMeta_add_ok`,
  `absMeta_add_rejected`, `absMeta_remove`), and — through C04's invariant `meta_inv`,
  which ties the bitmap-level model of metadata_index.go to that specification — an id
  is in the index's `allDocs` bitmap (what an empty filter list returns) exactly when the
  abstraction holds something under it (`meta_findable_iff_visible`).
-/
import Comet.Hybrid
import Comet.MetaSpec
import CometProofs.Properties.C04
namespace Comet.Hybrid
open Comet.Meta

/-- the visibility content of C04's specification state: the documents added under each
    id since its last removal, oldest first -/
def absMeta (sp : Meta.Spec) : MetaIdx Meta.Doc :=
  ⟨fun j => ((sp.docs.filter (fun p => p.1 == j)).map (·.2)).reverse⟩

theorem absMeta_init : absMeta {} = MetaIdx.empty := rfl

/-- an Add whose values all have supported types (`docOf kvs = some doc`) is the
    abstraction's successful add of `doc` -/
theorem absMeta_add_ok (sp : Meta.Spec) (id : Nat) (kvs : List (String × Option Value)) (doc : Meta.Doc)
    (h : docOf kvs = some doc) :
    absMeta (sp.step (.add id kvs)) = ((absMeta sp).add (fun _ => true) id doc).1 := by
  unfold absMeta MetaIdx.add Meta.Spec.step
  simp only [h, if_true, MetaIdx.mk.injEq]
  funext j
  by_cases hj : j = id
  · subst hj; simp
  · have hb : (id == j) = false := by simpa using fun e => hj e.symm
    simp [hb, hj]

/-- an Add carrying a value of unsupported type changes nothing (the abstraction's
    rejected add: `mok = false`) -/
theorem absMeta_add_rejected (sp : Meta.Spec) (id : Nat) (kvs : List (String × Option Value))
    (h : docOf kvs = none) (doc : Meta.Doc) :
    absMeta (sp.step (.add id kvs)) = ((absMeta sp).add (fun _ => false) id doc).1 ∧
    ((absMeta sp).add (fun _ => false) id doc).2 = some .other := by
  unfold MetaIdx.add Meta.Spec.step
  simp [h]

/-- Remove (hard) commutes with the abstraction -/
theorem absMeta_remove (sp : Meta.Spec) (id : Nat) :
    absMeta (sp.step (.remove id)) = (absMeta sp).remove id := by
  unfold absMeta MetaIdx.remove Meta.Spec.step
  simp only [MetaIdx.mk.injEq]
  funext j
  by_cases hj : j = id
  · subst hj
    simp [List.filter_filter]
  · simp only [hj, if_false, List.filter_filter]
    congr 2
    apply List.filter_congr
    intro p _
    by_cases hp : p.1 = j <;> simp [hp, hj]

theorem filter_key_nil {β : Type} (l : List (Nat × β)) (d : Nat) :
    l.filter (fun p => p.1 == d) = [] ↔ l.lookup d = none := by
  simp only [List.filter_eq_nil_iff, List.lookup_eq_none_iff, bne_iff_ne, ne_eq, beq_iff_eq]
  exact forall₂_congr fun p _ => ⟨fun h e => h e.symm, fun h e => h e.symm⟩

theorem absMeta_visible_nonempty (sp : Meta.Spec) (d : Nat) :
    (absMeta sp).visible d ≠ [] ↔ (sp.docs.lookup d).isSome = true := by
  unfold absMeta MetaIdx.visible
  simp only [ne_eq, List.reverse_eq_nil_iff, List.map_eq_nil_iff]
  rw [filter_key_nil]
  cases sp.docs.lookup d <;> simp

/-- **metadata findability = visibility**: on every reachable state of the bitmap-level
    model (histories adding only ids that are not live, with unique keys, as C04 quantifies), an id is in
    `allDocs` — the answer to an empty filter list — iff the abstraction holds a document
    under it. -/
theorem meta_findable_iff_visible (ops : List HOp) (hwf : wfHist {} ops = true) (d : Nat) :
    d ∈ (Meta.run ops).allDocs ↔ (absMeta (Meta.Spec.run ops)).visible d ≠ [] := by
  rw [absMeta_visible_nonempty]
  exact meta_inv_allDocs ops hwf d

example :
    let ops : List HOp := [.add 1 [("a", some (.str "x"))], .add 2 [("a", none)], .add 3 [("b", some (.str "y"))], .remove 3]
    (absMeta (Meta.Spec.run ops)).visible 1 = [[("a", .str "x")]] ∧
    (absMeta (Meta.Spec.run ops)).visible 2 = [] ∧ (absMeta (Meta.Spec.run ops)).visible 3 = [] := by
  decide

end Comet.Hybrid
