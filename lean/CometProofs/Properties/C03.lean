/-
  C03 — BM25 returns exactly the matching live documents with textbook scores.

  Helper lemmas are in CometProofs/BM25/*.lean and CometProofs/Agg.lean (aggregation), the
  model and the specification in Comet/BM25.lean.

    * `run init h` is the model state of `BM25SearchIndex` after the history `h`
      (ops: `add id tokens` — fresh id, live id (replace) or removed id (re-add) —,
      `remove id`, `flush`); every incremental field of the Go struct is mirrored.
    * `spec h : Spec` is what the history denotes: `corpus` maps every id that
      still counts in the statistics (live, or removed and not yet flushed) to its
      current token list — the last add wins —, `tomb` lists the removed ones.
      `Spec.N / df / total / avg` are the collection statistics INCLUDING tombstoned
      documents; `Spec.live` are the live documents.
    * `sc : Scoring R S` is the arithmetic: `sc.score N df tf len avg` stands for
      `ln((N-df+0.5)/(df+0.5)+1) · tf·(k1+1) / (tf + k1·(1-b+b·len/avg))`,
      `sc.add` for float64 `+`, `sc.toS` for `float32(·)`.  `Comet.BM25F.scoring`
      (k1 = 1.2, b = 0.75) is the float instance compared with the Go source
      (CometGen/Obligations_C03.lean); the hypothesis `ord : sc.Ordered leS` of the theorems
      is proved for `toy` only (`toy_ordered`), not for that instance.
    * `specCands sc (spec h) q F` is the list of hits the property allows: one per live
      document that is eligible under the id restriction `F` (`[]` = none, as in Go)
      and shares a token with the query `q`, scored by
      `specScore` = Σ over the query-token occurrences (in query order, WITH
      multiplicity) present in the document of `sc.score N (df t) (tf t d) (len d) avg`;
      `specHits` is that list with the scores converted by `sc.toS`.
    * `IsTopK (geR leS) k cands res`: `res` is sorted, is the best `sanitizeK k |cands|` part
      of `cands` as multisets (any tie-break), nothing outside is better.

  The theorems quantify over every history (including re-adding a removed id
  before or after a flush — `Add` clears the tombstone, finding D4),
  every query, `k ∈ ℤ`, id restriction; every iteration order of Go's score map and
  every lawful priority queue in the ranking theorems.
-/
import CometProofs.BM25
namespace Comet.BM25

variable {Tok : Type} [DecidableEq Tok] {R S : Type}

/-- In every reachable state the incremental fields are exactly the
    statistics of the corpus the history denotes: `docTokens` is that corpus (removed
    documents stay until the next flush), `postings[t]` is the duplicate-free set of
    documents containing `t` (so `df = |postings[t]|`), `tf[t][d]` the number of
    occurrences, `docLengths[d]` the token count, `numDocs`, `totalTokens`,
    `avgDocLen` the collection totals, `deletedDocs` the tombstones. -/
theorem bm25_inv (h : List (Op Tok)) :
    let s := run init h
    let c := spec h
    s.docTokens = c.corpus ∧ s.deleted = c.tomb ∧
    (akeys c.corpus).Nodup ∧ c.tomb.Nodup ∧ (∀ d ∈ c.tomb, d ∈ akeys c.corpus) ∧
    (∀ t d, d ∈ postOf s t ↔ ∃ toks, (d, toks) ∈ c.corpus ∧ t ∈ toks) ∧
    (∀ t, (postOf s t).Nodup) ∧
    (∀ t, (postOf s t).length = c.df t) ∧
    (∀ t d toks, (d, toks) ∈ c.corpus → tfOf s t d = toks.count t ∧ lenOf s d = toks.length) ∧
    (∀ t d, d ∉ akeys c.corpus → tfOf s t d = 0 ∧ lenOf s d = 0) ∧
    s.numDocs = (c.N : Int) ∧ s.totalTokens = (c.total : Int) ∧ s.avgDocLen = c.avg := by
  intro s c
  have i : Inv s c := inv_run h
  have w := i.toWFc
  have hk : (akeys c.corpus).Nodup := i.corpus ▸ w.keys
  refine ⟨i.corpus, i.tomb, hk, i.tomb ▸ i.delNodup, ?_, ?_, w.postNodup, i.df_eq, ?_, ?_,
    i.N_eq, i.total_eq, i.avg_eq⟩
  · intro d hd
    rw [← i.corpus]; exact i.delSub d (i.tomb ▸ hd)
  · intro t d
    rw [w.post, mem_toksOf w, i.corpus]
  · intro t d toks hm
    have : toksOf s d = toks := by
      unfold toksOf; rw [i.corpus, aget_of_mem hk hm]; rfl
    exact ⟨by rw [w.tf, this], by rw [lenOf_eq w, this]⟩
  · intro t d hd
    have : toksOf s d = [] := toksOf_absent (i.corpus ▸ hd)
    exact ⟨by rw [w.tf, this]; rfl, by rw [lenOf_eq w, this]; rfl⟩

/-! What the specification's corpus is, op by op ("last add wins", removal is a
    tombstone, flush drops the tombstoned): `spec_add`, `spec_remove`, `spec_flush`. -/

theorem spec_add (h : List (Op Tok)) (id : Id) (toks : List Tok) :
    let c := spec (h ++ [.add id toks])
    aget c.corpus id = some toks ∧ id ∉ c.tomb ∧
    (∀ d, d ≠ id → aget c.corpus d = aget (spec h).corpus d ∧ (d ∈ c.tomb ↔ d ∈ (spec h).tomb)) := by
  simp only [spec_append, List.foldl_cons, List.foldl_nil, specStep]
  refine ⟨?_, ?_, ?_⟩
  · rw [aget_aerase_append, if_pos rfl]
  · simp [mem_bmRemove]
  · intro d hd
    constructor
    · rw [aget_aerase_append, if_neg hd]
    · simp [mem_bmRemove, hd]

theorem spec_remove (h : List (Op Tok)) (id : Id) :
    let c := spec (h ++ [.remove id])
    c.corpus = (spec h).corpus ∧
    (∀ d, d ∈ c.tomb ↔ d ∈ (spec h).tomb ∨ (d = id ∧ id ∈ akeys (spec h).corpus)) := by
  simp only [spec_append, List.foldl_cons, List.foldl_nil, specStep_remove]
  refine ⟨trivial, fun d => ?_⟩
  split
  · next hp =>
    rw [List.mem_append, List.mem_singleton]
    exact or_congr_right ⟨fun e => ⟨e, (aget_isSome_iff _ _).1 hp.1⟩, And.left⟩
  · next hp =>
    refine ⟨Or.inl, ?_⟩
    rintro (hd | ⟨rfl, hk⟩)
    · exact hd
    · exact Classical.not_not.1 fun hn => hp ⟨(aget_isSome_iff _ _).2 hk, hn⟩

theorem spec_flush (h : List (Op Tok)) :
    spec (h ++ [.flush]) = ⟨(spec h).live, []⟩ := by
  simp only [spec_append, List.foldl_cons, List.foldl_nil, specStep, Spec.live]

/-- Until the next flush removed documents still count in
    `N`, `df` and the average length (`bm25_inv`); after a flush those statistics are
    exactly those of the live documents. -/
theorem bm25_stats_after_flush (h : List (Op Tok)) :
    let s := run init (h ++ [.flush])
    let live := (spec h).live
    s.docTokens = live ∧ s.deleted = [] ∧
    s.numDocs = (live.length : Int) ∧ s.totalTokens = (sumLen live : Int) ∧
    (∀ t, (postOf s t).length = (live.filter fun p => decide (t ∈ p.2)).length) ∧
    s.avgDocLen = (if live.length = 0 then Avg.zero else Avg.quot (sumLen live) live.length) := by
  intro s live
  have i : Inv s ⟨live, []⟩ := spec_flush h ▸ inv_run (h ++ [Op.flush])
  exact ⟨i.corpus, i.tomb, i.N_eq, i.total_eq, i.df_eq, i.avg_eq⟩

/-- **Headline.** For every history, query, `k ∈ ℤ` and id restriction, the
    single-query search returns an exact top-k (descending float32 score, any
    tie-break) of the live, eligible documents sharing a token with the query, each
    scored by the specification's BM25 sum. -/
theorem bm25_search_exact (sc : Scoring R S) (leS : S → S → Bool) (ord : sc.Ordered leS)
    (h : List (Op Tok)) (q : List Tok) (k : Int) (F : List Id) :
    IsTopK (geR leS) k (specHits sc (spec h) q F) (searchSingle sc (run init h) q k F) := by
  have i : Inv (run init h) (spec h) := inv_run h
  have o : TotalPreorder sc.le := ⟨ord.total, ord.trans⟩
  unfold searchSingle
  by_cases hq : q.isEmpty = true
  · -- no query token: nothing is shared
    have : specHits sc (spec h) q F = [] := List.eq_nil_iff_forall_not_mem.2 fun r hr => by
      obtain ⟨_, _, _, _, ⟨t, ht, _⟩, _⟩ := mem_specHits.1 hr
      rw [List.isEmpty_iff.1 hq] at ht
      exact absurd ht List.not_mem_nil
    rw [if_pos hq, this]
    exact isTopK_nil _ k
  · rw [if_neg hq]
    by_cases hn : (run init h).numDocs = 0
    · -- empty corpus
      have hc : (spec h).corpus = [] :=
        List.eq_nil_of_length_eq_zero (Int.natCast_eq_zero.1 (i.N_eq.symm.trans hn))
      unfold specHits specCands Spec.live
      rw [if_pos hn, hc]
      exact isTopK_nil _ k
    · rw [if_neg hn]
      have top := rankWith_isTopK sc.le o (popMin sc.le) (popMin_lawful sc.le o) k
        (toHits (scoreMap sc (run init h) F q))
      have top' := top.of_perm (scoreMap_perm_specCands sc i q F)
      exact isTopK_map (le := geR sc.le) (le' := geR leS) sc.toS (fun a b hab => ord.mono b a hab) top'

/-- With `k ≤ 0` the returned ids are exactly the live documents
    inside the id restriction that share at least one token with the query — each
    once. -/
theorem bm25_match_set (sc : Scoring R S) (leS : S → S → Bool) (ord : sc.Ordered leS)
    (h : List (Op Tok)) (q : List Tok) (k : Int) (hk : k ≤ 0) (F : List Id) :
    let ids := (searchSingle sc (run init h) q k F).map (·.id)
    ids.Nodup ∧
    ∀ d, d ∈ ids ↔ ∃ toks, (d, toks) ∈ (spec h).corpus ∧ d ∉ (spec h).tomb ∧
                    eligible F d = true ∧ ∃ t ∈ q, t ∈ toks := by
  intro ids
  have i := inv_run h
  have hp := (isTopK_perm_of_nonpos (bm25_search_exact sc leS ord h q k F) hk).map (·.id)
  refine ⟨hp.nodup_iff.2 (specHits_ids sc _ q F ▸ nodup_candPairs sc (i.corpus ▸ i.keys) q F),
    fun d => ?_⟩
  rw [hp.mem_iff, List.mem_map]
  constructor
  · rintro ⟨r, hr, rfl⟩
    obtain ⟨toks, h1, h2, h3, h4, _⟩ := mem_specHits.1 hr
    exact ⟨toks, h1, h2, h3, h4⟩
  · rintro ⟨toks, h1, h2, h3, h4⟩
    exact ⟨⟨d, _⟩, mem_specHits.2 ⟨toks, h1, h2, h3, h4, rfl⟩, rfl⟩

/-- Whatever `k`, every returned hit is a live, eligible document
    sharing a token with the query, and its score is `float32` of the sum — in query
    order and with multiplicity — over the query-token occurrences present in it of
    `score N (df t) (tf t d) (len d) avg`, where `N`, `df`, `avg = total/N` are counted
    over the corpus INCLUDING removed-but-unflushed documents. -/
theorem bm25_score (sc : Scoring R S) (leS : S → S → Bool) (ord : sc.Ordered leS)
    (h : List (Op Tok)) (q : List Tok) (k : Int) (F : List Id) :
    let c := spec h
    ∀ r ∈ searchSingle sc (run init h) q k F,
      ∃ toks, (r.id, toks) ∈ c.corpus ∧ r.id ∉ c.tomb ∧ eligible F r.id = true ∧
        (∃ t ∈ q, t ∈ toks) ∧
        r.score = sc.toS ((q.filter fun t => decide (t ∈ toks)).foldl
          (fun acc t => sc.add acc
            (sc.score c.corpus.length (c.corpus.filter fun p => decide (t ∈ p.2)).length
              (toks.count t) toks.length
              (if c.corpus.length = 0 then Avg.zero
               else Avg.quot (sumLen c.corpus) c.corpus.length)))
          sc.zero) := by
  intro c r hr
  obtain ⟨rest, hp, _⟩ := (bm25_search_exact sc leS ord h q k F).split
  exact mem_specHits.1 (hp.subset (List.mem_append_left _ hr))

/-- After `remove id`, no search returns `id` —
    before or after any number of flushes — until `id` is added again. -/
theorem bm25_removed_never_returned (sc : Scoring R S) (leS : S → S → Bool) (ord : sc.Ordered leS)
    (h₁ h₂ : List (Op Tok)) (id : Id) (hno : ∀ op ∈ h₂, ∀ toks, op ≠ .add id toks)
    (q : List Tok) (k : Int) (F : List Id) :
    ∀ r ∈ searchSingle sc (run init (h₁ ++ [.remove id] ++ h₂)) q k F, r.id ≠ id := by
  intro r hr he
  -- `Op.remove` in full: `.remove` would be elaborated only after the unifier has met
  -- `run init (… ++ [?op] ++ h₂)`, which it then compares with `hr` by unfolding
  obtain ⟨toks, hm, ht, _⟩ := bm25_score sc leS ord (h₁ ++ [Op.remove id] ++ h₂) q k F r hr
  have nl : NotLive (spec (h₁ ++ [Op.remove id] ++ h₂)) id := by
    rw [spec_append, spec_append]
    simp only [List.foldl_cons, List.foldl_nil]
    exact notLive_foldl (notLive_after_remove _ id) h₂ hno
  rw [he] at hm ht
  exact ht (nl toks hm)

/-- Adding over an id (live or removed) leaves no trace of
    the text it had: the state equals — up to the order of Go's maps — the state of
    the history from which the earlier add of that id has been deleted (nothing
    naming the id in between), hence no statistic and no search answer depends on
    the old text. -/
theorem bm25_replace_no_trace (h₁ h₂ : List (Op Tok)) (id : Id) (t₁ t₂ : List Tok)
    (hops : ∀ op ∈ h₂, mentions id op = false) :
    StateEquiv (run init (h₁ ++ [.add id t₁] ++ h₂ ++ [.add id t₂]))
               (run init (h₁ ++ h₂ ++ [.add id t₂])) :=
  stateEquiv_of_spec_eq (spec_overwritten_add h₁ h₂ id t₁ t₂ hops)

/-- … in particular both states answer every search with an exact top-k of the SAME
    candidate list, in which the old text `t₁` does not occur. -/
theorem bm25_replace_no_trace_search (sc : Scoring R S) (leS : S → S → Bool) (ord : sc.Ordered leS)
    (h₁ h₂ : List (Op Tok)) (id : Id) (t₁ t₂ : List Tok)
    (hops : ∀ op ∈ h₂, mentions id op = false) (q : List Tok) (k : Int) (F : List Id) :
    let cands := specHits sc (spec (h₁ ++ h₂ ++ [.add id t₂])) q F
    IsTopK (geR leS) k cands
      (searchSingle sc (run init (h₁ ++ [.add id t₁] ++ h₂ ++ [.add id t₂])) q k F) ∧
    IsTopK (geR leS) k cands (searchSingle sc (run init (h₁ ++ h₂ ++ [.add id t₂])) q k F) := by
  intro cands
  -- `Op.add` in full, for the reason given in `bm25_removed_never_returned`
  have a := bm25_search_exact sc leS ord (h₁ ++ [Op.add id t₁] ++ h₂ ++ [Op.add id t₂]) q k F
  rw [spec_overwritten_add h₁ h₂ id t₁ t₂ hops] at a
  exact ⟨a, bm25_search_exact sc leS ord (h₁ ++ h₂ ++ [Op.add id t₂]) q k F⟩

/-- The ranking tail of `searchSingleQuery` — size-k min-heap
    with strict `>` replacement when `0 < k < len(scores)`, full heap-sort otherwise —
    returns an exact descending top-k of the score map, for EVERY order `hits'` in
    which Go iterates the map and every lawful priority queue (`Pop` returns some
    minimum). -/
theorem heap_select_isTopK (le : R → R → Bool) (o : TotalPreorder le) (pm : PopMin R)
    (law : LawfulPopMin le pm) (k : Int) (hits hits' : List (Hit R)) (order : hits'.Perm hits) :
    IsTopK (geR le) k hits (rankWith le pm k hits') :=
  (rankWith_isTopK le o pm law k hits').of_perm order

theorem heap_branch_isTopK (le : R → R → Bool) (o : TotalPreorder le) (pm : PopMin R)
    (law : LawfulPopMin le pm) (k : Int) (hits : List (Hit R))
    (hk : 0 < k) (hkn : k < (hits.length : Int)) :
    let h := hits.foldl (heapStep le pm k.toNat) []
    IsTopK (geR le) k hits ((drain pm h.length h).reverse) := by
  have := rankWith_isTopK le o pm law k hits
  rw [rankWith, if_neg fun h => h.elim (Int.not_le.2 hk) (Int.not_le.2 hkn)] at this
  exact this

/-- `k ≤ 0` or `k ≥ len(scores)`: every entry of the score
    map is returned, in descending score order. -/
theorem full_heapsort_sorted (le : R → R → Bool) (pm : PopMin R) (law : LawfulPopMin le pm)
    (k : Int) (hits : List (Hit R)) (hk : k ≤ 0 ∨ k ≥ (hits.length : Int)) :
    (rankWith le pm k hits).Perm hits ∧
    (rankWith le pm k hits).Pairwise fun a b => le b.score a.score = true := by
  rw [rankWith, if_pos hk]
  exact drain_reverse_sorted le pm law hits

theorem popMin_is_lawful (le : R → R → Bool) (o : TotalPreorder le) : LawfulPopMin le (popMin le) :=
  popMin_lawful le o

/-- any two exact top-k answers carry the same score list -/
theorem bm25_answers_same_scores (leS : S → S → Bool) (o : TotalPreorder leS)
    (antisymm : ∀ a b : S, leS a b → leS b a → a = b)
    (k : Int) (c r₁ r₂ : List (Hit S)) (h₁ : IsTopK (geR leS) k c r₁) (h₂ : IsTopK (geR leS) k c r₂) :
    r₁.map (·.score) = r₂.map (·.score) :=
  isTopK_scores_eq (geR leS) (fun a b => o.total b a)
    (fun a b c h1 h2 => o.trans _ _ _ h2 h1) (fun a b h1 h2 => antisymm a b h2 h1) k c r₁ r₂ h₁ h₂

/-- The text aggregation returns one hit per distinct
    document id of its input, scored by the selected rule applied to that document's
    per-query scores in input order, sorted by descending score. -/
theorem text_aggregate_spec (ag : Scalar S) (ord : ag.Ordered) (kind : AggKind) (xs : List (Hit S)) :
    let res := textAggregate ag kind xs
    (res.map (·.id)).Nodup ∧
    (∀ r, r ∈ res ↔ r.id ∈ xs.map (·.id) ∧ r.score = reduceVec ag kind (scoresOf r.id xs)) ∧
    res.Pairwise fun a b => ag.le b.score a.score = true :=
  ⟨(agg_of_perm ag kind xs (textAggregate_perm ag kind xs)).1.1,
    fun r => (textAggregate_perm ag kind xs).mem_iff.trans (mem_aggList ag kind xs r),
    pairwise_mergeSort_desc ag ord _⟩

/-- the three rules: sum = left fold of `+` from 0 in input order; mean = that sum
    divided by the number of scores; max = one of the scores, none being larger -/
theorem reduce_rules (ag : Scalar S) (ord : ag.Ordered) (s : S) (ss : List S) :
    reduceVec ag .sum (s :: ss) = (s :: ss).foldl ag.add ag.zero ∧
    reduceVec ag .mean (s :: ss) = ag.divNat ((s :: ss).foldl ag.add ag.zero) (ss.length + 1) ∧
    reduceVec ag .max (s :: ss) ∈ s :: ss ∧
    ∀ x ∈ s :: ss, ag.le x (reduceVec ag .max (s :: ss)) = true :=
  ⟨rfl, rfl, maxScores_spec ag ord (s :: ss) (List.cons_ne_nil s ss)⟩

/-- `Execute` with one or more queries: every query is searched on its own
    (`searchSingle`, the subject of `bm25_search_exact`),
    the per-query answers are concatenated in query order and combined per document
    by the selected rule (`text_aggregate_spec`), and the `k` best combined hits are
    returned in descending order (all when `k ≤ 0`). -/
theorem bm25_execute_spec (sc : Scoring R S) (ag : Scalar S) (ord : ag.Ordered)
    (s : State Tok) (queries : List (List Tok)) (hq : queries ≠ []) (k : Int) (F : List Id)
    (kind : AggKind) :
    let all := (queries.map fun q => searchSingle sc s q k F).flatten
    let combined := if all.isEmpty then all else textAggregate ag kind all
    execute sc ag s queries k F (some kind) = .ok (limitResults k combined) ∧
    IsTopK (geR ag.le) k combined (limitResults k combined) := by
  intro all combined
  constructor
  · unfold execute
    rw [List.isEmpty_eq_false_iff.2 hq]
    rfl
  · apply isTopK_take_of_sorted
    show (if all.isEmpty then all else textAggregate ag kind all).Pairwise _
    split
    · next he => rw [List.isEmpty_iff.1 he]; exact List.Pairwise.nil
    · exact pairwise_mergeSort_desc ag ord _

/-- error outcomes of `Execute` -/
theorem bm25_execute_errors (sc : Scoring R S) (ag : Scalar S) (s : State Tok)
    (queries : List (List Tok)) (k : Int) (F : List Id) (kind : Option AggKind) :
    (queries = [] → execute sc ag s queries k F kind = .error .noQuery) ∧
    (queries ≠ [] → kind = none → execute sc ag s queries k F kind = .error .badAgg) := by
  constructor
  · intro h; subst h; rfl
  · intro h hk; subst hk
    unfold execute
    rw [List.isEmpty_eq_false_iff.2 h]
    rfl

/-! ## non-vacuity: a concrete history over ℕ tokens with exact ℕ "scores" -/

section Example

/-- tokens: 0 "a", 1 "b", 2 "c", 3 " " -/
def toyOps : List (Op Nat) :=
  [.add 1 [0, 3, 1], .add 2 [1, 3, 1, 3, 2], .add 3 [], .add 4 [0, 3, 1],
   .add 2 [2],              -- replace a live document
   .remove 1, .remove 9,    -- remove, remove an absent id
   .add 5 [0, 0],
   .remove 4, .add 4 [1]]   -- re-add a removed id before any flush

-- the corpus the history denotes: 1 is removed but still counted; 2 has its new text; 4 is live again
example : spec toyOps = ⟨[(1, [0, 3, 1]), (3, []), (2, [2]), (5, [0, 0]), (4, [1])], [1]⟩ := by decide +kernel
example : (run init toyOps).docTokens = (spec toyOps).corpus := by decide +kernel
example : (run init toyOps).numDocs = 5 ∧ (run init toyOps).totalTokens = 7 ∧
    (run init toyOps).avgDocLen = .quot 7 5 ∧ postOf (run init toyOps) 0 = [1, 5] ∧
    tfOf (run init toyOps) 0 5 = 2 ∧ (run init toyOps).deleted = [1] := by decide +kernel
-- after a flush the statistics are those of the live documents only
example : (run init (toyOps ++ [.flush])).numDocs = 4 ∧ (run init (toyOps ++ [.flush])).totalTokens = 4 ∧
    postOf (run init (toyOps ++ [.flush])) 0 = [5] := by decide +kernel
-- query "a b a" (the token 0 twice): candidates are the live documents sharing a token;
-- document 1 (removed) is absent although it contains both tokens; 5 is scored twice for "a"
example : specHits toy (spec toyOps) [0, 1, 0] [] = [⟨5, 3200⟩, ⟨4, 1333⟩] := by decide +kernel
example : searchSingle toy (run init toyOps) [0, 1, 0] 0 [] = [⟨5, 3200⟩, ⟨4, 1333⟩] := by decide +kernel
-- heap branch (k = 1 < 2 matches), id restriction, restriction naming an absent id
example : searchSingle toy (run init toyOps) [0, 1, 0] 1 [] = [⟨5, 3200⟩] := by decide +kernel
example : searchSingle toy (run init toyOps) [0, 1, 0] 5 [4, 77] = [⟨4, 1333⟩] := by decide +kernel
-- the hypotheses of the headline theorem are met by this instance:
example : IsTopK (geR leN) 1 (specHits toy (spec toyOps) [0, 1, 0] [])
    (searchSingle toy (run init toyOps) [0, 1, 0] 1 []) :=
  bm25_search_exact toy leN toy_ordered toyOps [0, 1, 0] 1 []
-- a wrong answer is rejected by the same notion
example : ¬ IsTopK (geR leN) 1 (specHits toy (spec toyOps) [0, 1, 0] []) [⟨4, 1333⟩] :=
  fun h => absurd (checkTopK_complete _ _ _ _ h) (by decide +kernel)
-- replace leaves no trace: dropping the first add of id 2 gives the same corpus
example : spec toyOps =
    spec ([.add 1 [0, 3, 1], .add 3 [], .add 4 [0, 3, 1], .add 2 [2], .remove 1, .remove 9,
           .add 5 [0, 0], .remove 4, .add 4 [1]] : List (Op Nat)) := by decide +kernel
-- a tie at the k-th place: both tie-breaks are exact top-1 answers
example : specHits toy (spec [.add 1 [0], .add 2 [0], .add 3 [1]]) [0] [] = [⟨1, 666⟩, ⟨2, 666⟩] := by
  decide +kernel
example : IsTopK (geR leN) 1 [⟨1, 666⟩, ⟨2, 666⟩] [⟨2, 666⟩] := checkTopK_sound _ _ _ _ (by decide +kernel)
example : IsTopK (geR leN) 1 [⟨1, 666⟩, ⟨2, 666⟩] [⟨1, 666⟩] := checkTopK_sound _ _ _ _ (by decide +kernel)

end Example

end Comet.BM25
