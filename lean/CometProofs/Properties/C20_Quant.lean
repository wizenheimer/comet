/-
  C20 (second half) — the scalar quantisers preserve length, leave their input untouched
  (definitional: the model functions return new values) and reconstruct every component
  within their precision.  Over ℚ: `ratOps` is the exact-field instance of the same
  definitions the driver executes at `Float32`.  Lemmas: CometProofs/Quant.lean.
  Model: Comet/Quant.lean.
-/
import CometProofs.Quant
namespace Comet.Quant
open Comet.Dist

/-- float32: exact reconstruction -/
theorem q_full_exact {S : Type} (v : List S) : deqFull (quantFull v) = v := rfl

theorem q_len_preserved_full {S : Type} (v : List S) :
    (quantFull v).length = v.length ∧ (deqFull (quantFull v)).length = v.length := ⟨rfl, rfl⟩

theorem q_len_preserved_half (v : List ℚ) :
    (quantHalf v).length = v.length ∧ (deqHalf (quantHalf v)).length = v.length := by
  simp [quantHalf, deqHalf]

/-- every component in the float16 normal range is reconstructed within half-precision
    rounding: relative error at most 2⁻¹¹ (stated for every `|x| ≥ 2⁻¹⁴`: `halfValue` does
    not saturate; overflow is `q_half_finite`) -/
theorem q_half_error (x : ℚ) (h : 1 / 16384 ≤ |x|) : |halfValue x - x| ≤ |x| / 2048 := by
  obtain ⟨E, h10, -, hlow, -, hR⟩ := halfRound_spec x
  -- 2^E ≤ |X|: by the choice of `E` when `E > 10`, by the hypothesis when `E = 10`
  have hEle : (2 : ℚ) ^ E ≤ |x| * 2 ^ 24 := by
    rcases h10.lt_or_eq with h' | rfl
    · exact hlow h'
    · calc (2 : ℚ) ^ 10 = 1 / 16384 * 2 ^ 24 := by norm_num
        _ ≤ |x| * 2 ^ 24 := mul_le_mul_of_nonneg_right h (by positivity)
  have hQE : (2 : ℚ) ^ (E - 10) * 1024 = 2 ^ E := by
    rw [show (1024 : ℚ) = 2 ^ 10 by norm_num, ← pow_add, Nat.sub_add_cancel h10]
  -- |R − X| ≤ Q/2 with Q = 2^(E−10) = 2^E / 2¹⁰
  have herr := scaled_near (pow_pos two_pos (E - 10)) (rne_err (x * 2 ^ 24 / (2 : ℚ) ^ (E - 10)))
  rw [halfValue, hR]
  push_cast
  exact rel_err_of_scaled (by positivity) herr (hQE.trans_le hEle)

/-- up to the largest finite binary16 value 65504 the conversion does not overflow -/
theorem q_half_finite (x : ℚ) (h : |x| ≤ 65504) : halfOverflows x = false := by
  obtain ⟨E, h10, h39, -, hup, hR⟩ := halfRound_spec x
  -- |X| ≤ n·Q with n·Q < 2⁴⁰, where Q = 2^(E−10): n = 2¹¹ below the top exponent
  -- (|X| < 2^(E+1)), n = 2047 at the top one (65504 · 2²⁴ = 2047 · 2²⁹)
  obtain ⟨n, hn, hlt⟩ : ∃ n : ℤ, |x * 2 ^ 24| ≤ (n : ℚ) * (((2 : ℤ) ^ (E - 10) : ℤ) : ℚ) ∧
      n * (2 : ℤ) ^ (E - 10) < 2 ^ 40 := by
    rw [abs_mul_two_pow]
    rcases h39.lt_or_eq with h' | rfl
    · have hp : E + 1 = 11 + (E - 10) := by omega
      refine ⟨2 ^ 11, ?_, ?_⟩
      · rw [Int.cast_pow, Int.cast_pow, Int.cast_ofNat, ← pow_add, ← hp]
        exact (hup h').le
      · rw [← pow_add, ← hp]
        exact pow_lt_pow_right₀ one_lt_two (Nat.succ_lt_succ h')
    · refine ⟨2047, ?_, by norm_num⟩
      calc |x| * 2 ^ 24 ≤ 65504 * 2 ^ 24 := mul_le_mul_of_nonneg_right h (by positivity)
        _ = _ := by norm_num
  have hb := scaled_rne_abs_le (x * 2 ^ 24) ((2 : ℤ) ^ (E - 10)) n (pow_pos two_pos _) hn
  rw [halfOverflows, decide_eq_false_iff_not, not_le, Int.natCast_natAbs, hR]
  exact lt_of_le_of_lt hb hlt

section Generic
variable {S : Type} (o : Ops S)

/-- the int8 quantiser refuses to work before training — both directions -/
theorem q_int8_untrained_err (round : S → Int) (absMax : S) (h : isTrained o absMax = false)
    (v : List S) (qs : List Int) :
    quantInt8 o round absMax v = none ∧ deqInt8 o absMax qs = none := by
  simp [quantInt8, deqInt8, h]

/-- once trained the int8 quantiser works in both directions, preserving length -/
theorem q_len_preserved_int8 (round : S → Int) (absMax : S) (h : isTrained o absMax = true)
    (v : List S) :
    ∃ qs ys, quantInt8 o round absMax v = some qs ∧ deqInt8 o absMax qs = some ys ∧
      qs.length = v.length ∧ ys.length = v.length := by
  refine ⟨_, _, quantInt8_trained o round absMax h v, deqInt8_trained o absMax h _, ?_, ?_⟩
  · rw [List.length_map]
  · rw [List.length_map, List.length_map]

end Generic

/-- over ℚ, "trained" means `0 < absMax` (Go: `absMax > 0`) -/
theorem q_int8_trained_iff (A : ℚ) : isTrained ratOps A = true ↔ 0 < A := by
  rw [isTrained_rat, decide_eq_true_eq]

/-- one component: for `0 < A` and `|x| ≤ A` the reconstruction error is at most `A/254`
    (exact in ℚ: `|t − round t| ≤ ½` with `t = x/A·127`, and no wrap-around) -/
theorem q_int8_error_component (A x : ℚ) (hA : 0 < A) (hx : |x| ≤ A) :
    |ratOps.mul (ratOps.div (ofInt8 ratOps (wrap8 (roundHalfAway (ratOps.mul (ratOps.div x A) (ratOps.ofNat 127)))))
        (ratOps.ofNat 127)) A - x| ≤ A / 254 := by
  rw [ofInt8_rat]
  have h127 : (0 : ℚ) < 127 := by norm_num
  have hQ : 0 < A / 127 := div_pos hA h127
  have ht : ratOps.mul (ratOps.div x A) (ratOps.ofNat 127) = x / (A / 127) := by
    show x / A * ((127 : ℕ) : ℚ) = _
    rw [Nat.cast_ofNat, div_div_eq_mul_div, div_mul_eq_mul_div]
  -- t = x / (A/127) has |t| ≤ 127, so its rounding is an int8 and `wrap8` does nothing
  have htabs : |x / (A / 127)| ≤ ((127 : ℤ) : ℚ) := by
    rw [abs_div, abs_of_pos hQ, div_le_iff₀ hQ, Int.cast_ofNat, mul_div_cancel₀ A h127.ne']
    exact hx
  rw [ht, wrap8_id _ (roundHalfAway_abs_le _ 127 htabs)]
  show |(roundHalfAway (x / (A / 127)) : ℚ) / ((127 : ℕ) : ℚ) * A - x| ≤ A / 254
  rw [Nat.cast_ofNat, div_mul_eq_mul_div, mul_div_assoc,
    show A / 254 = A / 127 / 2 by rw [div_div]; norm_num]
  exact scaled_near hQ (roundHalfAway_err (x / (A / 127)))

/-- the vector statement: quantise, dequantise, every component within `A/254` -/
theorem q_int8_error (A : ℚ) (hA : 0 < A) (v : List ℚ) (hv : ∀ x ∈ v, |x| ≤ A) :
    ∃ qs ys, quantInt8 ratOps roundHalfAway A v = some qs ∧ deqInt8 ratOps A qs = some ys ∧
      List.Forall₂ (fun y x => |y - x| ≤ A / 254) ys v := by
  have htr : isTrained ratOps A = true := (q_int8_trained_iff A).2 hA
  refine ⟨_, _, quantInt8_trained ratOps roundHalfAway A htr v, deqInt8_trained ratOps A htr _, ?_⟩
  rw [List.forall₂_map_left_iff, List.forall₂_map_left_iff, List.forall₂_same]
  exact fun x hx => q_int8_error_component A x hA (hv x hx)

/-- training covers the training data: every training component lies inside the trained
    range `[-absMax, absMax]` -/
theorem q_int8_train_covers (vs : List (List ℚ)) :
    ∀ vec ∈ vs, ∀ x ∈ vec, |x| ≤ trainAbsMax ratOps vs := by
  have inner : ∀ (vec : List ℚ) (m0 : ℚ),
      m0 ≤ vec.foldl (absMaxStep ratOps) m0 ∧ ∀ x ∈ vec, |x| ≤ vec.foldl (absMaxStep ratOps) m0 :=
    foldl_covers (absMaxStep ratOps) (fun x m => |x| ≤ m) absMaxStep_rat fun _ _ _ => le_trans
  exact (foldl_covers (fun m (vec : List ℚ) => vec.foldl (absMaxStep ratOps) m) (fun vec m => ∀ x ∈ vec, |x| ≤ m)
    (fun m vec => inner vec m) (fun _ _ _ h hm x hx => le_trans (h x hx) hm) vs ratOps.zero).2

section Examples
example : |halfValue (1 / 3) - 1 / 3| ≤ |(1 / 3 : ℚ)| / 2048 := q_half_error _ (by norm_num)
-- int8: absMax = 2, x = 1/2 → t = 31.75 → q = 32 → 64/127; error 1/254 ≤ 2/254
example : ∃ qs ys, quantInt8 ratOps roundHalfAway 2 [1 / 2, -2, 2] = some qs ∧ deqInt8 ratOps 2 qs = some ys ∧
    List.Forall₂ (fun y x => |y - x| ≤ (2 : ℚ) / 254) ys [1 / 2, -2, 2] :=
  q_int8_error 2 (by norm_num) _ (by
    intro x hx
    simp only [List.mem_cons, List.not_mem_nil, or_false] at hx
    rcases hx with rfl | rfl | rfl <;> norm_num [abs_le])
-- untrained (absMax = 0): both directions refuse
example : quantInt8 ratOps roundHalfAway 0 [1] = none ∧ deqInt8 ratOps 0 [1] = none :=
  q_int8_untrained_err ratOps roundHalfAway 0 (by rw [isTrained_rat]; simp) _ _
end Examples

end Comet.Quant
