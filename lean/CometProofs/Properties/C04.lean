/-
  C04 — metadata filters return exactly the documents that satisfy the predicate.

  Property theorems and non-vacuity examples; the lemmas are in
  CometProofs/{BSILoop,BSI,MetaInv,MetaEval,MetaQuery}.lean.

  `run ops` is the model state (Comet/Meta.lean: a line-by-line model
  of metadata_index.go / metadata_index_search.go on top of Comet/BSI.lean, the
  transcribed roaring v1.9.4 BitSliceIndexing BSI) after the history `ops`;
  `Spec.run ops` is the specification state: the live documents
  `docs : Id ⇀ (Field ⇀ Value)` and the numeric field names seen so far.
  `sat N g f` is the denotational meaning of one filter on one document (ordinary signed
  comparison; floats arrive at two-decimal fixed point), `satLeaf` adds `Not(·)` as the
  complement within the filter's universe, `satQuery` the AND / OR structure, and
  `specAnswer sp fs gs` is the id set the property demands.
  `wfHist {} ops`: every `Add` uses an id that is not live at that moment (re-adding a
  removed id is fine) and a proper map (unique keys).

  STATUS.  The full statement `MetaFilterExactFull` is FALSE for the code as it is
  (`meta_exact_fails_without_noMixedSign`, `meta_exact_fails_without_noNotRange`, both
  from concrete witnesses that are replayed against the real code on every run:
  corpus/C04/meta_d8_*.json, meta_d9_*.json).  What is proved is
  `meta_filter_exact_partial`, with the explicit decidable hypotheses
    conform      per-field fixed type, unique keys per document, unique live ids, no ':' inside field names
    wellTypedQ   operators / operand types fit the field's type; colon-free names; AND/OR groups;
                 simple filters and groups not mixed
    noMixedSign  no numeric comparison whose operand and a stored value differ in sign  (D8)
    noNotRange   no Not(range)                                                        (D9)
  Clauses of the property that hold with no side condition are stated at full strength.
-/
import CometProofs.MetaQuery
namespace Comet.Meta
open Comet

/-- FULL statement (what `CompareValue` is documented to compute): per column, the
    transcribed `compareValue` equals ordinary signed comparison.  FALSE — see
    `bsi_compare_mixed_sign_wrong`. -/
def BsiCompareCorrect : Prop :=
  ∀ (op : BSI.Op) (x s e : I64), BSI.compareOne 64 x.getLsbD op s e = BSI.signedCmp op x s e

/-- PARTIAL (hypothesis: the stored value and the operand — for `range` both ends — have
    the same sign): `compareValue` = signed comparison (`BSI.loop_sem`: induction over the
    slices, "the first differing bit decides"). -/
theorem bsi_compare_same_sign (op : BSI.Op) (x s e : I64) (hs : x.msb = s.msb)
    (he : op = .range → x.msb = e.msb) :
    BSI.compareOne 64 x.getLsbD op s e = BSI.signedCmp op x s e :=
  BSI.compareOne_same_sign op x s e hs he

/-- the witnesses of D8, on the transcribed algorithm: `Eq(−5)` accepts the stored
    value 5; `Gt(−1)` rejects the stored value 1; `Range(−100,−1)` accepts 0, 1 and 5 -/
theorem bsi_mixed_sign_witnesses :
    BSI.compareOne 64 (5 : I64).getLsbD .eq (-5) 0 = true ∧
    BSI.compareOne 64 (1 : I64).getLsbD .gt (-1) 0 = false ∧
    BSI.compareOne 64 (0 : I64).getLsbD .range (-100) (-1) = true ∧
    BSI.compareOne 64 (1 : I64).getLsbD .range (-100) (-1) = true ∧
    BSI.compareOne 64 (5 : I64).getLsbD .range (-100) (-1) = true := by decide +kernel

/-- the negation of the full statement, from the first witness -/
theorem bsi_compare_mixed_sign_wrong : ¬ BsiCompareCorrect :=
  fun h => absurd ((h .eq 5 (-5) 0).symm.trans bsi_mixed_sign_witnesses.1) (by decide)

/-- non-vacuity of `bsi_compare_same_sign`: negative against negative, and a range -/
example : BSI.compareOne 64 (-7 : I64).getLsbD .lt (-5) 0 = true ∧
    BSI.compareOne 64 (3 : I64).getLsbD .range 2 9 = true ∧
    BSI.compareOne 64 (-3 : I64).getLsbD .range (-2) (-1) = false := by decide +kernel

/-- a BSI that represents a map answers `CompareValue` with the columns whose value
    satisfies the comparison — when no stored value differs in sign from the operands -/
theorem bsi_compareValue_exact_partial {b : BSI.T} {m : Nat → Option I64} (h : BSI.Rep b m)
    (op : BSI.Op) (s e : I64)
    (hms : ∀ d v, m d = some v → v.msb = s.msb ∧ (op = .range → v.msb = e.msb)) (d : Nat) :
    d ∈ BSI.compareValue b op s e ↔ ∃ v, m d = some v ∧ BSI.signedCmp op v s e = true :=
  BSI.mem_compareValue_same_sign h op s e hms d

/-- `SetValue` / `ClearValues` maintain the representation (64 slices, existence bitmap =
    domain, slice `j` = ids whose value has bit `j`) -/
theorem bsi_rep_preserved {b : BSI.T} {m : Nat → Option I64} (h : BSI.Rep b m) (c : Nat) (v : I64) :
    BSI.Rep (BSI.setValue b c v) (fun d => if d = c then some v else m d) ∧
    BSI.Rep (BSI.clearValues b [c]) (fun d => if d = c then none else m d) :=
  ⟨BSI.rep_setValue h c v, BSI.rep_clearValues h c⟩

/-- **Every reachable state represents the live documents**: `allDocs = dom docs`;
    the bitmap under a categorical key holds `{d | docs d f = str v}` over the pairs
    `(f, v)` with that key; a BSI exists exactly for the names that ever carried a
    number and represents `{d ↦ x | docs d f = int x}` (fields of `Inv`). -/
theorem meta_inv (ops : List HOp) (hwf : wfHist {} ops = true) : InvS (run ops) (Spec.run ops) :=
  invS_run ops Meta.init {} invS_init hwf

/-- `allDocs` is the set of live ids -/
theorem meta_inv_allDocs (ops : List HOp) (hwf : wfHist {} ops = true) (d : Nat) :
    d ∈ (run ops).allDocs ↔ ((Spec.run ops).docs.lookup d).isSome = true :=
  (meta_inv ops hwf).all d

/-- `categorical["f:v"]` = the live documents whose value under `f` is the string `v`
    (per-field fixed types, no ':' in field names) -/
theorem meta_inv_categorical (ops : List HOp) (hwf : wfHist {} ops = true)
    (hc : conform (Spec.run ops) = true) (f v : String) (hf : noColon f = true) (d : Nat) :
    d ∈ catSet (run ops) (keyOf f v) ↔ (Spec.run ops).docs.get d f = some (.str v) :=
  mem_catSet_key (meta_inv ops hwf) hc f hf v d

/-- the BSI of a numeric field represents `{d ↦ x | docs d f = int x}` -/
theorem meta_inv_numeric (ops : List HOp) (hwf : wfHist {} ops = true) (f : String) (b : BSI.T)
    (hb : (run ops).numeric.lookup f = some b) :
    BSI.Rep b (fun d => intOf ((Spec.run ops).docs.get d f)) :=
  (meta_inv ops hwf).rep f b hb

/-- FULL statement of the property on the model: for every history (ids not live at
    `Add`), every document set with per-field fixed types and every well-typed filter
    expression, `Execute` returns exactly the ids of the live documents for which the
    expression is true.  FALSE for the code as it is (D8, D9). -/
def MetaFilterExactFull : Prop :=
  ∀ (ops : List HOp) (fs : List Leaf) (gs : List LGroup),
    wfHist {} ops = true → conform (Spec.run ops) = true → wellTypedQ (Spec.run ops) fs gs = true →
    ∃ r, execute (run ops) (fs.map Leaf.toFilter) (gs.map LGroup.toGroup) = .ok r ∧
      ∀ d, d ∈ r ↔ d ∈ specAnswer (Spec.run ops) fs gs

/-- **Headline (PARTIAL)**: for well-formed histories, conforming documents and well-typed
    queries, under `noMixedSign` and `noNotRange`, metadata search returns,
    without error, exactly the ids of the live documents for which the filter expression
    is true. -/
theorem meta_filter_exact_partial (ops : List HOp) (fs : List Leaf) (gs : List LGroup)
    (hwf : wfHist {} ops = true) (hc : conform (Spec.run ops) = true)
    (hwt : wellTypedQ (Spec.run ops) fs gs = true)
    (hms : noMixedSign (Spec.run ops) fs gs = true) (hnr : noNotRange fs gs = true) :
    ∃ r, execute (run ops) (fs.map Leaf.toFilter) (gs.map LGroup.toGroup) = .ok r ∧
      ∀ d, d ∈ r ↔ d ∈ specAnswer (Spec.run ops) fs gs :=
  execute_exact (meta_inv ops hwf) hc fs gs hwt hms hnr

/-- what membership in the specification's answer means: live, and the expression holds -/
theorem meta_specAnswer_meaning (sp : Spec) (hc : conform sp = true) (fs : List Leaf) (gs : List LGroup)
    (d : Nat) :
    d ∈ specAnswer sp fs gs ↔
      ((sp.docs.lookup d).isSome = true ∧ satQuery sp.numSeen (sp.docs.get d) fs gs = true) :=
  mem_specAnswer hc fs gs d

/-- the decidable check the driver applies to every implementation answer (`RB.same impl
    spec`) is sound and complete for "returns exactly the ids of …" -/
theorem meta_answer_checker_iff (impl : List Nat) (sp : Spec) (fs : List Leaf) (gs : List LGroup) :
    RB.same impl (specAnswer sp fs gs) = true ↔ ∀ d, d ∈ impl ↔ d ∈ specAnswer sp fs gs :=
  RB.same_iff

/-! ### the witnesses: both extra hypotheses are necessary -/

/-- D8 witness: one document holding `n = 5`, filter `Eq(n, −5)` -/
def d8Ops : List HOp := [.add 1 [("n", some (.int 5))]]
def d8Query : List Leaf := [⟨false, .cmp .eq "n" (.int (-5) "-5")⟩]

/-- D9 witness: documents holding `n = 0` and `n = 5`, filter `Not(Range(n, 0, 1))` -/
def d9Ops : List HOp := [.add 1 [("n", some (.int 0))], .add 2 [("n", some (.int 5))]]
def d9Query : List Leaf := [⟨true, .range "n" (.int 0 "0") (.int 1 "1")⟩]

/-- the full statement fails even with `noNotRange` kept: `noMixedSign` is necessary (D8) -/
theorem meta_exact_fails_without_noMixedSign :
    ¬ (∀ (ops : List HOp) (fs : List Leaf) (gs : List LGroup),
      wfHist {} ops = true → conform (Spec.run ops) = true → wellTypedQ (Spec.run ops) fs gs = true →
      noNotRange fs gs = true →
      ∃ r, execute (run ops) (fs.map Leaf.toFilter) (gs.map LGroup.toGroup) = .ok r ∧
        ∀ d, d ∈ r ↔ d ∈ specAnswer (Spec.run ops) fs gs) := by
  intro h
  obtain ⟨r, hr, hm⟩ := h d8Ops d8Query [] (by decide) (by decide) (by decide) (by decide)
  -- the model (like the real code) returns document 1, which the specification does not: the
  -- stored 5 passes `Eq(−5)` by the first of `bsi_mixed_sign_witnesses`, read through the invariant
  obtain ⟨b, hb⟩ : ∃ b, (run d8Ops).numeric.lookup "n" = some b := ⟨_, rfl⟩
  have he : evaluateFilter (run d8Ops) (.cmp .eq "n" (.int (-5) "-5")) =
      .ok (BSI.compareValue b .eq (-5) 0) := by rw [evaluateFilter_cmp, hb]; rfl
  cases hr.symm.trans (execute_single he)
  refine absurd ((hm 1).mp ?_) (by decide)
  exact (BSI.mem_compareValue (meta_inv_numeric d8Ops (by decide) "n" b hb) .eq (-5) 0 1).mpr
    ⟨5, by decide, bsi_mixed_sign_witnesses.1⟩

/-- the full statement fails even with `noMixedSign` kept: `noNotRange` is necessary (D9).
    On the D9 witness the specification returns document 2 (the complement); the model
    (like the real code) returns document 1: `Not(range)` is the range filter itself, and
    that one is answered exactly. -/
theorem meta_exact_fails_without_noNotRange :
    ¬ (∀ (ops : List HOp) (fs : List Leaf) (gs : List LGroup),
      wfHist {} ops = true → conform (Spec.run ops) = true → wellTypedQ (Spec.run ops) fs gs = true →
      noMixedSign (Spec.run ops) fs gs = true →
      ∃ r, execute (run ops) (fs.map Leaf.toFilter) (gs.map LGroup.toGroup) = .ok r ∧
        ∀ d, d ∈ r ↔ d ∈ specAnswer (Spec.run ops) fs gs) := by
  intro h
  have hwf : wfHist {} d9Ops = true := by decide
  have hc : conform (Spec.run d9Ops) = true := by decide
  obtain ⟨r, hr, hm⟩ := h d9Ops d9Query [] hwf hc (by decide) (by decide)
  obtain ⟨r', hr', hm'⟩ := meta_filter_exact_partial d9Ops
    [⟨false, .range "n" (.int 0 "0") (.int 1 "1")⟩] [] hwf hc (by decide) (by decide) (by decide)
  cases hr.symm.trans hr'
  exact absurd ((hm 1).mp ((hm' 1).mpr (by decide))) (by decide)

/-- hence the full statement is false -/
theorem meta_filter_exact_full_fails : ¬ MetaFilterExactFull :=
  fun h => meta_exact_fails_without_noMixedSign (fun ops fs gs h1 h2 h3 _ => h ops fs gs h1 h2 h3)

/-- a history with a removal, a re-added id, negative / zero / extreme integers, a float
    at fixed point (19.99 ↦ 1998), an empty string and strings containing ':' -/
def exOps : List HOp := [
  .add 1 [("n", some (.int (-5))), ("s", some (.str "")), ("p", some (.int 1998))],
  .add 2 [("n", some (.int (-9223372036854775808))), ("s", some (.str "a:b"))],
  .add 3 [("n", some (.int (-1))), ("b", some (.str "true"))],
  .remove 2,
  .add 2 [("s", some (.str ":")), ("p", some (.int 0))],
  .add 4 [("n", some (.int (-7)))]]

/-- `(n < −5 AND Not(s = "a:b"))  OR  (p ≥ 19.99 AND exists s)  OR  (s in (":", "zz") OR Not(not_exists zz))` -/
def exGroups : List LGroup := [
  ⟨.and, [⟨false, .cmp .lt "n" (.int (-5) "-5")⟩, ⟨true, .cmp .eq "s" (.str "a:b")⟩]⟩,
  ⟨.and, [⟨false, .cmp .gte "p" (.int 1998 "19.99")⟩, ⟨false, .ex false "s"⟩]⟩,
  ⟨.or, [⟨false, .isIn false "s" (some [.str ":", .str "zz"])⟩, ⟨true, .ex true "zz"⟩]⟩]

/-- the hypotheses of `meta_filter_exact_partial` hold of a non-trivial instance, and the
    answer is a non-empty proper subset of the live documents -/
example :
    wfHist {} exOps = true ∧ conform (Spec.run exOps) = true ∧
    wellTypedQ (Spec.run exOps) [] exGroups = true ∧
    noMixedSign (Spec.run exOps) [] exGroups = true ∧ noNotRange [] exGroups = true ∧
    (okIds (execute (run exOps) [] (exGroups.map LGroup.toGroup))).map (RB.same [1, 2, 4]) = some true ∧
    RB.same (specAnswer (Spec.run exOps) [] exGroups) [1, 2, 4] = true ∧
    RB.same ((Spec.run exOps).docs.map (·.1)) [1, 2, 3, 4] = true := by
  have hwf : wfHist {} exOps = true := by decide
  have hc : conform (Spec.run exOps) = true := by decide
  have hwt : wellTypedQ (Spec.run exOps) [] exGroups = true := by decide
  have hms : noMixedSign (Spec.run exOps) [] exGroups = true := by decide
  have hnr : noNotRange [] exGroups = true := by decide
  have hsp : RB.same (specAnswer (Spec.run exOps) [] exGroups) [1, 2, 4] = true := by decide
  -- the model is not run: by the theorem its answer is the specification's
  obtain ⟨r, hr, hm⟩ := meta_filter_exact_partial exOps [] exGroups hwf hc hwt hms hnr
  refine ⟨hwf, hc, hwt, hms, hnr, ?_, hsp, by decide⟩
  have hsame : RB.same [1, 2, 4] r = true :=
    RB.same_iff.mpr fun d => (RB.same_iff.mp hsp d).symm.trans (hm d).symm
  exact (congrArg (fun a => (okIds a).map (RB.same [1, 2, 4])) hr).trans (congrArg some hsame)

/-- **A removed document is never returned**, and more: whatever the query (ill-typed,
    mixed signs, `Not(range)` included), every id of a successful answer is live.
    FULL strength. -/
theorem meta_only_live_returned (ops : List HOp) (hwf : wfHist {} ops = true)
    (fs : List Filter) (gs : List Group) (r : RB) (hr : execute (run ops) fs gs = .ok r)
    (d : Nat) (hd : d ∈ r) : ((Spec.run ops).docs.lookup d).isSome = true :=
  execute_live (meta_inv ops hwf) fs gs r hr d hd

/-- right after `Remove id` no answer contains `id`. FULL strength. -/
theorem meta_removed_never_returned (ops : List HOp) (id : Nat)
    (hwf : wfHist {} (ops ++ [.remove id]) = true)
    (fs : List Filter) (gs : List Group) (r : RB)
    (hr : execute (run (ops ++ [.remove id])) fs gs = .ok r) : id ∉ r := by
  intro hd
  have := meta_only_live_returned _ hwf fs gs r hr id hd
  simp only [Spec.run, List.foldl_append, List.foldl_cons, List.foldl_nil, Spec.step,
    lookup_filter_ne] at this
  simp at this

/-- **An empty filter list returns all live documents.** FULL strength. -/
theorem meta_empty_filters_all_live (ops : List HOp) (hwf : wfHist {} ops = true) :
    ∃ r, execute (run ops) [] [] = .ok r ∧
      ∀ d, d ∈ r ↔ ((Spec.run ops).docs.lookup d).isSome = true :=
  ⟨(run ops).allDocs, rfl, fun d => (meta_inv ops hwf).all d⟩

/-- **`ne` on a string / boolean field matches every live document that does not match
    `eq`, including the documents lacking the field.** -/
theorem meta_ne_string_includes_missing (ops : List HOp) (hwf : wfHist {} ops = true)
    (hc : conform (Spec.run ops) = true) (f v : String) (hf : noColon f = true)
    (hcat : (Spec.run ops).numSeen.contains f = false) :
    ∃ r, evaluateFilter (run ops) (.cmp .ne f (.str v)) = .ok r ∧
      ∀ d, d ∈ r ↔ (((Spec.run ops).docs.lookup d).isSome = true ∧
        (Spec.run ops).docs.get d f ≠ some (.str v)) := by
  have hnm : f ∉ (Spec.run ops).numSeen := fun hm => by
    rw [List.contains_iff_mem.mpr hm] at hcat; cases hcat
  obtain ⟨r, hr, hm⟩ := evaluateFilter_exact (meta_inv ops hwf) hc (.cmp .ne f (.str v))
    (by simp [wellTypedF, hnm, Operand.isInt]) hf (by simp [mixedSignF, hnm])
  refine ⟨r, hr, fun d => ?_⟩
  rw [hm d]
  simp [sat, hnm, Operand.val]

/-- in particular a live document WITHOUT the field is matched by `ne` on a string field -/
theorem meta_ne_string_matches_doc_lacking_field (ops : List HOp) (hwf : wfHist {} ops = true)
    (hc : conform (Spec.run ops) = true) (f v : String) (hf : noColon f = true)
    (hcat : (Spec.run ops).numSeen.contains f = false) (d : Nat)
    (hlive : ((Spec.run ops).docs.lookup d).isSome = true)
    (hmiss : (Spec.run ops).docs.get d f = none) :
    ∃ r, evaluateFilter (run ops) (.cmp .ne f (.str v)) = .ok r ∧ d ∈ r := by
  obtain ⟨r, hr, hm⟩ := meta_ne_string_includes_missing ops hwf hc f v hf hcat
  exact ⟨r, hr, (hm d).mpr ⟨hlive, by rw [hmiss]; simp⟩⟩

/-- **`ne` on a numeric field matches the documents that HAVE the field with another
    value** (no stored value of the field differing in sign from the operand). -/
theorem meta_ne_numeric_requires_field (ops : List HOp) (hwf : wfHist {} ops = true)
    (hc : conform (Spec.run ops) = true) (f : String) (x : I64) (txt : String) (hf : noColon f = true)
    (hnum : (Spec.run ops).numSeen.contains f = true)
    (hms : mixedSignF (Spec.run ops).numSeen (Spec.run ops).docs (.cmp .ne f (.int x txt)) = false) :
    ∃ r, evaluateFilter (run ops) (.cmp .ne f (.int x txt)) = .ok r ∧
      ∀ d, d ∈ r ↔ ∃ y, (Spec.run ops).docs.get d f = some (.int y) ∧ y ≠ x := by
  have inv := meta_inv ops hwf
  have hnm : f ∈ (Spec.run ops).numSeen := List.contains_iff_mem.mp hnum
  obtain ⟨r, hr, hm⟩ := evaluateFilter_exact inv hc (.cmp .ne f (.int x txt))
    (by simp [wellTypedF, hnm, Operand.isInt]) hf hms
  refine ⟨r, hr, fun d => ?_⟩
  rw [hm d]
  cases hg : (Spec.run ops).docs.get d f with
  | none => simp [sat, hnm, hg]
  | some w =>
    obtain ⟨y, rfl⟩ := get_int_of_num hc hnum hg
    simp [sat, hnm, hg, Operand.val, inv.getLive d f _ hg]

/-- **`Not(f)` selects the complement of `f` within `f`'s universe** — for every operator
    `Not` handles (all but `range`): the model's answer to `Not(f)` is
    `{d live | d in the universe of f ∧ ¬ f d}`, the universe being the documents carrying
    the field for numeric comparisons and every live document otherwise. -/
theorem meta_not_complement (ops : List HOp) (hwf : wfHist {} ops = true)
    (hc : conform (Spec.run ops) = true) (flt : Filter)
    (hwt : wellTypedF (Spec.run ops).numSeen (Spec.run ops).docs flt = true)
    (hcol : noColon flt.field = true)
    (hms : mixedSignF (Spec.run ops).numSeen (Spec.run ops).docs flt = false)
    (hnr : flt.isRange = false) :
    ∃ r, evaluateFilter (run ops) (notF flt) = .ok r ∧
      ∀ d, d ∈ r ↔ (((Spec.run ops).docs.lookup d).isSome = true ∧
        univ (Spec.run ops).numSeen ((Spec.run ops).docs.get d) flt = true ∧
        sat (Spec.run ops).numSeen ((Spec.run ops).docs.get d) flt = false) := by
  obtain ⟨r, hr, hm⟩ := leaf_exact (meta_inv ops hwf) hc ⟨true, flt⟩
    ⟨hwt, hcol, hms, by simp [notRangeL, hnr]⟩
  refine ⟨r, hr, fun d => ?_⟩
  rw [hm d]
  simp [satLeaf]

/-- the same on the specification side: the operator table of `Not` denotes the complement -/
theorem meta_not_table_is_complement (N : List String) (D : Docs) (g : String → Option Value)
    (flt : Filter) (hwt : wellTypedF N D flt = true)
    (hg : ∀ f v, g f = some v → v.isInt = N.contains f) (hnr : flt.isRange = false) :
    sat N g (notF flt) = (univ N g flt && !sat N g flt) :=
  sat_notF N D g flt hwt hg hnr

/-- **D9 on the model of `Not`**: it has no case for `range`, it returns the same range
    filter. -/
theorem meta_not_range_identity (f : String) (lo hi : Operand) :
    notF (.range f lo hi) = .range f lo hi := rfl

/-- consequently `Not(range)` is NOT the complement (witness: values 0 and 5,
    `Not(Range(0,1))` returns the document holding 0) -/
theorem meta_not_range_not_complement :
    ¬ (∀ (ops : List HOp) (f : String) (lo hi : Operand) (r : RB) (d : Nat),
        wfHist {} ops = true →
        evaluateFilter (run ops) (notF (.range f lo hi)) = .ok r →
        (d ∈ r ↔ (((Spec.run ops).docs.lookup d).isSome = true ∧
          sat (Spec.run ops).numSeen ((Spec.run ops).docs.get d) (.range f lo hi) = false))) := by
  intro h
  have hwf : wfHist {} d9Ops = true := by decide
  -- the range filter is answered exactly, so document 1 (value 0) is in `Not(range)`'s answer
  obtain ⟨r, hr, hm⟩ := evaluateFilter_exact (meta_inv d9Ops hwf) (by decide)
    (.range "n" (.int 0 "0") (.int 1 "1")) (by decide) (by decide) (by decide)
  exact absurd ((h d9Ops "n" _ _ r 1 hwf hr).mp ((hm 1).mpr (by decide))).2 (by decide)

/-- **Fields absent from the index** (never numeric, no live document carries them):
    `eq`, `in`, `exists` match nothing; `ne`, `not_in`, `not_exists` match every live
    document — whatever the operand types. -/
theorem meta_absent_field (ops : List HOp) (hwf : wfHist {} ops = true)
    (hc : conform (Spec.run ops) = true) (f : String) (hf : noColon f = true)
    (hnn : (Spec.run ops).numSeen.contains f = false)
    (habs : fieldAbsent (Spec.run ops).docs f = true) (o : Operand) (vs : List Operand) :
    (∃ r, evaluateFilter (run ops) (.cmp .eq f o) = .ok r ∧ ∀ d, d ∉ r) ∧
    (∃ r, evaluateFilter (run ops) (.isIn false f (some vs)) = .ok r ∧ ∀ d, d ∉ r) ∧
    (∃ r, evaluateFilter (run ops) (.ex false f) = .ok r ∧ ∀ d, d ∉ r) ∧
    (∃ r, evaluateFilter (run ops) (.cmp .ne f o) = .ok r ∧
      ∀ d, d ∈ r ↔ ((Spec.run ops).docs.lookup d).isSome = true) ∧
    (∃ r, evaluateFilter (run ops) (.isIn true f (some vs)) = .ok r ∧
      ∀ d, d ∈ r ↔ ((Spec.run ops).docs.lookup d).isSome = true) ∧
    (∃ r, evaluateFilter (run ops) (.ex true f) = .ok r ∧
      ∀ d, d ∈ r ↔ ((Spec.run ops).docs.lookup d).isSome = true) := by
  have inv := meta_inv ops hwf
  generalize Spec.run ops = sp at *
  have hnm : f ∉ sp.numSeen := fun hm => by
    rw [List.contains_iff_mem.mpr hm] at hnn; cases hnn
  have hget : ∀ d, sp.docs.get d f = none := fieldAbsent_get habs
  have none_of : ∀ flt : Filter, flt.field = f → wellTypedF sp.numSeen sp.docs flt = true →
      mixedSignF sp.numSeen sp.docs flt = false → (∀ d, sat sp.numSeen (sp.docs.get d) flt = false) →
      ∃ r, evaluateFilter (run ops) flt = .ok r ∧ ∀ d, d ∉ r :=
    fun flt hfld hwt hms hsat =>
      (evaluateFilter_exact inv hc flt hwt (hfld ▸ hf) hms).imp fun r hr =>
        ⟨hr.1, fun d hd => Bool.false_ne_true ((hsat d).symm.trans ((hr.2 d).mp hd).2)⟩
  have all_of : ∀ flt : Filter, flt.field = f → wellTypedF sp.numSeen sp.docs flt = true →
      mixedSignF sp.numSeen sp.docs flt = false → (∀ d, sat sp.numSeen (sp.docs.get d) flt = true) →
      ∃ r, evaluateFilter (run ops) flt = .ok r ∧ ∀ d, d ∈ r ↔ (sp.docs.lookup d).isSome = true :=
    fun flt hfld hwt hms hsat =>
      (evaluateFilter_exact inv hc flt hwt (hfld ▸ hf) hms).imp fun r hr =>
        ⟨hr.1, fun d => (hr.2 d).trans (and_iff_left (hsat d))⟩
  exact ⟨
    none_of _ rfl (by simp [wellTypedF, hnm, habs]) (by simp [mixedSignF, hnm]) fun d => by simp [sat, hget d],
    none_of _ rfl (by simp [wellTypedF, hnm, habs]) rfl fun d => by simp [sat, hget d],
    none_of _ rfl rfl rfl fun d => by simp [sat, hget d],
    all_of _ rfl (by simp [wellTypedF, hnm, habs]) (by simp [mixedSignF, hnm]) fun d => by simp [sat, hnm, hget d],
    all_of _ rfl (by simp [wellTypedF, hnm, habs]) rfl fun d => by simp [sat, hget d],
    all_of _ rfl rfl rfl fun d => by simp [sat, hget d]⟩

/-- ordering operators and `range` on a field that is not numeric (absent or categorical)
    return the error "unsupported operator for categorical field"; `in` / `not_in` on a
    numeric field "unsupported operator for numeric field"; a string operand on a numeric
    field "cannot convert" -/
theorem meta_operator_errors (s : State) (f : String) (o lo hi : Operand) :
    (s.numeric.lookup f = none →
      evaluateFilter s (.cmp .gt f o) = .error .unsupportedCat ∧
      evaluateFilter s (.cmp .gte f o) = .error .unsupportedCat ∧
      evaluateFilter s (.cmp .lt f o) = .error .unsupportedCat ∧
      evaluateFilter s (.cmp .lte f o) = .error .unsupportedCat ∧
      evaluateFilter s (.range f lo hi) = .error .unsupportedCat) ∧
    (∀ b, s.numeric.lookup f = some b → ∀ n vs,
      evaluateFilter s (.isIn n f vs) = .error .unsupportedNum) ∧
    (∀ b, s.numeric.lookup f = some b → ∀ op sv,
      evaluateFilter s (.cmp op f (.str sv)) = .error .convert) := by
  refine ⟨fun hn => ?_, fun b hb n vs => ?_, fun b hb op sv => ?_⟩
  · simp [evaluateFilter_cmp, evaluateFilter_range, hn, queryCategorical]
  · simp [evaluateFilter_isIn, hb, queryNumeric]
  · simp [evaluateFilter_cmp, hb, queryNumeric, Operand.toInt64]

/-! ## group algebra (no side condition beyond "the filters evaluate") -/

/-- simple filters are ANDed: the answer is the intersection of the filters' sets —
    including the early exit on an empty intermediate result -/
theorem meta_group_algebra_simple (s : State) (fs : List Filter) (hne : fs ≠ [])
    (hok : AllOK s fs) :
    ∃ r, execute s fs [] = .ok r ∧ ∀ d, d ∈ r ↔ ∀ f, f ∈ fs → d ∈ evalSet s f :=
  execute_simple_algebra s fs hne hok

/-- one group: every document when it has no filter; the intersection of its filters'
    sets under `AND` (early exit included); their union under any other logic -/
theorem meta_group_algebra_group (s : State) (g : Group) (hok : AllOK s g.filters) :
    ∃ r, executeGroup s g = .ok r ∧ ∀ d, d ∈ r ↔
      (if g.filters = [] then d ∈ s.allDocs
       else if g.logic = .and then ∀ f, f ∈ g.filters → d ∈ evalSet s f
       else ∃ f, f ∈ g.filters ∧ d ∈ evalSet s f) :=
  executeGroup_algebra s g hok

/-- groups are ORed: the answer is the union of the groups' sets; simple filters given
    alongside groups are ignored -/
theorem meta_group_algebra_across (s : State) (fs : List Filter) (gs : List Group) (hne : gs ≠ [])
    (hok : ∀ g, g ∈ gs → AllOK s g.filters) :
    ∃ r, execute s fs gs = .ok r ∧ ∀ d, d ∈ r ↔ ∃ g, g ∈ gs ∧ groupSem s g d :=
  execute_groups_algebra s fs gs hne hok

/-- an error inside group `i` is reported with the group's index; the early exits can
    hide the error of a later filter (witness: `eq` on an absent field, then an ordering
    operator on a string field — no error, empty answer) -/
theorem meta_early_exit_hides_error :
    okIds (execute (run [.add 1 [("s", some (.str "a"))]])
      [.cmp .eq "zz" (.str "x"), .cmp .gt "s" (.int 1 "1")] []) = some [] ∧
    execute (run [.add 1 [("s", some (.str "a"))]])
      [] [⟨.and, [.cmp .eq "s" (.str "a")]⟩, ⟨.or, [.cmp .gt "s" (.int 1 "1")]⟩] =
        .error ⟨some 1, .unsupportedCat⟩ := ⟨by decide, rfl⟩

end Comet.Meta
