/-
  C01 — Flat index returns exactly the k nearest live vectors.

  Helper lemmas are in CometProofs/Flat.lean and Comet/TopK.lean.

  `run m (init dim) ops` is the model state after the history
  `ops`; `live m dim ops` is the abstract specification (the `(id, preprocessed
  vector)` pairs added successfully and not removed since, in insertion order);
  `cands … (live …) q' thr F` is the list of hits the property allows: live,
  eligible under the id restriction `F` (`[]` = no restriction, as in Go),
  within the threshold when it is positive, scored by the metric.
  `IsTopK le k cands res` says `res` is sorted, is the best `sanitizeK k |cands|`
  part of `cands` (as multisets, any tie-break), nothing outside is better.
-/
import CometProofs.Flat
namespace Comet.Flat

variable {V S : Type}

/-- For every history of adds, removals and flushes (re-adds included: the model's
    `add` purges a tombstone before re-adding its id, as comet's does), every query,
    every `k ∈ ℤ`, threshold and id restriction, the single-query search returns an exact
    top-k of the live, eligible, within-threshold vectors, scored by the metric. -/
theorem flat_search_exact (m : Metric V S) (ord : m.sc.Ordered) (dim : Nat)
    (ops : List (Op V))
    (q q' : V) (k : Int) (thr : S) (F : List Id)
    (hq : m.dimOf q = dim) (hpre : m.pre q = some q') :
    ∃ res, searchSingle m (run m (init dim) ops) q k thr F = .ok res ∧
      IsTopK m.sc.le k (cands m (live m dim ops) q' thr F) res :=
  ⟨_, searchSingle_run m dim ops q q' k thr F hq hpre,
    selectK_isTopK m.sc.le ord.total ord.trans k _⟩

/-- Any two correct answers carry the same score list (the property's notion of
    equality), when the score order is antisymmetric. -/
theorem flat_answers_same_scores (m : Metric V S) (ord : m.sc.Ordered)
    (antisymm : ∀ a b : S, m.sc.le a b → m.sc.le b a → a = b)
    (k : Int) (c r₁ r₂ : List (Hit S))
    (h₁ : IsTopK m.sc.le k c r₁) (h₂ : IsTopK m.sc.le k c r₂) :
    r₁.map (·.score) = r₂.map (·.score) :=
  isTopK_scores_eq m.sc.le ord.total ord.trans antisymm k c r₁ r₂ h₁ h₂

/-- Every hit is a live stored vector, eligible, within threshold, and its score is
    the metric distance between the preprocessed query and that stored vector. -/
theorem flat_score_is_distance (m : Metric V S) (dim : Nat)
    (ops : List (Op V))
    (q q' : V) (k : Int) (thr : S) (F : List Id)
    (hq : m.dimOf q = dim) (hpre : m.pre q = some q')
    (res : List (Hit S))
    (hres : searchSingle m (run m (init dim) ops) q k thr F = .ok res) :
    ∀ r ∈ res, ∃ v, (r.id, v) ∈ live m dim ops ∧ r.score = m.dist q' v ∧
      eligible F r.id = true ∧ thrSkip m.sc thr r.score = false := by
  rw [searchSingle_run m dim ops q q' k thr F hq hpre] at hres
  cases hres
  intro r hr
  obtain ⟨p, hp, hel, hth, rfl⟩ := mem_cands.1 (List.mem_mergeSort.1 (List.mem_of_mem_take hr))
  exact ⟨p.2, hp, rfl, hel, hth⟩

/-- A removed vector never appears, whether or not a flush has happened since:
    ids of hits are ids of the *specification's* live list, which forgets an id at
    the moment of its successful removal. -/
theorem flat_removed_never_returned (m : Metric V S) (dim : Nat)
    (ops : List (Op V))
    (q q' : V) (k : Int) (thr : S) (F : List Id)
    (hq : m.dimOf q = dim) (hpre : m.pre q = some q') (res : List (Hit S))
    (hres : searchSingle m (run m (init dim) ops) q k thr F = .ok res) :
    ∀ r ∈ res, r.id ∈ (live m dim ops).map (·.1) := by
  intro r hr
  obtain ⟨v, hv, _⟩ := flat_score_is_distance m dim ops q q' k thr F hq hpre res hres r hr
  exact List.mem_map.2 ⟨(r.id, v), hv, rfl⟩

/-- … and the specification's live list really drops a removed id for good
    (until a later add of it, which C01 excludes and C06 covers). -/
theorem live_remove_drops (m : Metric V S) (dim : Nat) (ops rest : List (Op V)) (id : Id)
    (hrest : id ∉ addedIds rest) :
    id ∉ (live m dim (ops ++ [.remove id] ++ rest)).map (·.1) := by
  simp only [live, List.foldl_append, List.foldl_cons, List.foldl_nil, specStep]
  intro h
  rcases List.mem_append.1 ((specStep_ids_sublist m dim _ rest).subset h) with h | h
  · obtain ⟨p, hp, rfl⟩ := List.mem_map.1 h
    simpa using (List.mem_filter.1 hp).2
  · exact hrest h

/-- Re-adding a removed id (outside C01's quantifier, inside C06's): the new vector,
    and only the new vector, is live afterwards. -/
theorem live_readd (m : Metric V S) (dim : Nat) (ops : List (Op V)) (id : Id) (v v' : V)
    (hd : m.dimOf v = dim) (hp : m.pre v = some v') :
    live m dim (ops ++ [.remove id, .add id v]) =
      (live m dim ops).filter (fun p => p.1 != id) ++ [(id, v')] := by
  simp [live, List.foldl_append, specStep, hd, hp]

/-- `k ≤ 0` returns every eligible live vector. -/
theorem flat_k_nonpos_returns_all (m : Metric V S) (ord : m.sc.Ordered) (dim : Nat)
    (ops : List (Op V))
    (q q' : V) (k : Int) (hk : k ≤ 0) (thr : S) (F : List Id)
    (hq : m.dimOf q = dim) (hpre : m.pre q = some q') :
    ∃ res, searchSingle m (run m (init dim) ops) q k thr F = .ok res ∧
      res.Perm (cands m (live m dim ops) q' thr F) := by
  refine ⟨_, searchSingle_run m dim ops q q' k thr F hq hpre, ?_⟩
  rw [selectK, sanitizeK_nonpos hk, List.take_of_length_le (Nat.le_of_eq (List.length_mergeSort _))]
  exact List.mergeSort_perm _ _

/-- A non-positive threshold has no effect at all … -/
theorem flat_threshold_nonpos_no_effect (m : Metric V S) (l : List (Id × V)) (q' : V)
    (thr : S) (F : List Id) (h : m.sc.lt m.sc.zero thr = false) :
    cands m l q' thr F =
      l.filterMap fun p => if !eligible F p.1 then none else some ⟨p.1, m.dist q' p.2⟩ := by
  simp [cands, thrSkip, h]

/-- … a positive threshold keeps exactly the candidates with `¬ (thr < d)`, and an id
    restriction keeps exactly the listed ids: both only *remove* candidates. -/
theorem flat_filter_threshold_only_remove (m : Metric V S) (l : List (Id × V)) (q' : V)
    (thr : S) (F : List Id) :
    cands m l q' thr F =
      (l.filterMap fun p => some (⟨p.1, m.dist q' p.2⟩ : Hit S)).filter
        (fun h => eligible F h.id && !thrSkip m.sc thr h.score) := by
  simp only [cands, List.filter_filterMap]
  congr 1
  funext p
  by_cases h1 : eligible F p.1 <;> by_cases h2 : thrSkip m.sc thr (m.dist q' p.2) <;>
    simp [h1, h2, Option.filter]

/-- Flushing soft-deleted vectors never changes a search answer (literal equality in the
    model: a search sees the state only through its effective list). -/
theorem flat_flush_noop_on_search (m : Metric V S) (s : State V)
    (q : V) (k : Int) (thr : S) (F : List Id) :
    searchSingle m (step m s .flush).1 q k thr F = searchSingle m s q k thr F :=
  searchSingle_congr m (step_dim m s .flush) ((eff_step m s .flush).trans rfl) q k thr F

/-- Error behaviour (this and the next three theorems): a vector of the wrong dimension, a
    zero vector under cosine and an unknown id are rejected and leave the index unchanged; a
    query of the wrong dimension is an error. -/
theorem flat_add_wrong_dim (m : Metric V S) (s : State V) (id : Id) (v : V)
    (h : m.dimOf v ≠ s.dim) : step m s (.add id v) = (s, some .dim) :=
  step_add_dim m s id v h

theorem flat_add_pre_fail_unchanged (m : Metric V S) (s : State V) (id : Id) (v : V)
    (h : m.dimOf v = s.dim) (hz : m.pre v = none) : step m s (.add id v) = (s, some .zero) :=
  step_add_zero m s id v h hz

theorem flat_query_wrong_dim (m : Metric V S) (s : State V) (q : V) (k : Int) (thr : S)
    (F : List Id) (h : m.dimOf q ≠ s.dim) : searchSingle m s q k thr F = .error .dim :=
  if_pos h

theorem flat_remove_unknown (m : Metric V S) (s : State V) (id : Id)
    (h : id ∉ ids s) : step m s (.remove id) = (s, some .notFound) :=
  step_remove_unknown m s id <| List.any_eq_false.2 fun p hp he =>
    h (List.mem_map.2 ⟨p, hp, by simpa using he⟩)

/-! ### non-vacuity: a concrete history over ℕ-valued "vectors" with a removal, a
    tie at the k-th place, a threshold equal to a distance, a filter with an absent id -/

section Example
def toy : Metric Nat Nat where
  dimOf _ := 1
  pre v := some v
  dist a b := if a ≤ b then b - a else a - b
  sc := { zero := 0, add := (· + ·), divNat := fun a n => a / n,
          le := fun a b => decide (a ≤ b), lt := fun a b => decide (a < b) }

theorem toy_ordered : toy.sc.Ordered where
  total a b := by simpa [toy] using Nat.le_total a b
  trans _ _ _ h1 h2 := decide_eq_true (Nat.le_trans (of_decide_eq_true h1) (of_decide_eq_true h2))
  lt_iff a b := by simp [toy, ← Nat.not_le]

def toyOps : List (Op Nat) := [.add 1 10, .add 2 20, .add 3 30, .remove 2, .add 4 20, .flush, .add 5 0]

example : FreshAdds toyOps := by unfold FreshAdds; decide +kernel
example : live toy 1 toyOps = [(1, 10), (3, 30), (4, 20), (5, 0)] := by decide +kernel
-- all hypotheses of `flat_search_exact` are met by this instance:
example : ∃ res, searchSingle toy (run toy (init 1) toyOps) 20 2 0 [] = .ok res ∧
    IsTopK toy.sc.le 2 (cands toy (live toy 1 toyOps) 20 0 []) res :=
  flat_search_exact toy toy_ordered 1 toyOps 20 20 2 0 [] rfl rfl
-- candidates: tie at distance 10 (ids 1 and 3); id 2 was removed
example : cands toy (live toy 1 toyOps) 20 0 [] = [⟨1, 10⟩, ⟨3, 10⟩, ⟨4, 0⟩, ⟨5, 20⟩] := by decide +kernel
-- both tie-breaks at the 2nd place are accepted by the spec, a non-nearest answer is not
example : IsTopK toy.sc.le 2 (cands toy (live toy 1 toyOps) 20 0 []) [⟨4, 0⟩, ⟨1, 10⟩] :=
  checkTopK_sound _ _ _ _ (by decide +kernel)
example : IsTopK toy.sc.le 2 (cands toy (live toy 1 toyOps) 20 0 []) [⟨4, 0⟩, ⟨3, 10⟩] :=
  checkTopK_sound _ _ _ _ (by decide +kernel)
example : ¬ IsTopK toy.sc.le 2 (cands toy (live toy 1 toyOps) 20 0 []) [⟨4, 0⟩, ⟨5, 20⟩] :=
  fun h => absurd (checkTopK_complete _ _ _ _ h) (by decide +kernel)
-- threshold equal to a distance keeps that candidate; the filter names an absent id (99)
example : cands toy (live toy 1 toyOps) 20 10 [1, 3, 99] = [⟨1, 10⟩, ⟨3, 10⟩] := by decide +kernel
end Example

end Comet.Flat
