/-
  C12 — HNSW never hides live vectors.

  Property theorems, the evaluated witnesses they rest on with the lemmas that read them
  (`eq_of_answerIs`, `of_okAnd`, `…_of_…B`, `stOK_*`) and non-vacuity examples.  Other lemmas,
  and `smallRegime`, `efUsed`, `Complete0`, `stateLive`, `toy`: CometProofs/HNSW*.lean.  The model
  and the rest of the statement vocabulary (`Op`, `run`, `liveSpec`, `Reachable`, `freshAdds`,
  `validPicks`, `residentsLe`, `complete0B`, …): Comet/Vector/HNSW.lean.

  The model is the code AFTER the fixes fb5d06f (D1: register before linking), f6a780e
  (D2: searchLayer walks through soft-deleted vertices, never reports them; ef clamped to
  ≥ 1) and f98dc7f (D2: Add purges the tombstones first when the entry point is
  soft-deleted).  Proved (histories: fresh ids, flush picks that Go's map order allows):
      searchLayer_spec_{sound,full_or_all,complete,nonempty,total}, reachSet_correct
      hnsw_{nonempty,small_exact,reachable}_state   the three clauses on one state
      hnsw_nonempty_partial      any size, any ef: a completed unrestricted search is non-empty
                                 whenever some live vertex is reachable from the entry point
                                 along bottom-layer edges of stored vertices;
                                 hnsw_nonempty_entry_live is the special case
      hnsw_nonempty_small        in the small regime: unconditionally (a live vertex exists)
      hnsw_small_exact_partial   `smallRegime`: never more than n ≤ min (2M+1) efC vertices; ef ≥ n
      hnsw_reachable_small, hnsw_small_live_eq_spec   same regime
      hnsw_small_exact_ever      clause 2 in the reading "at most 2M vectors EVER"
  FALSE at full strength (negations proved from witnesses that are replayed against
  the real code on every run, /verif/corpus/C12):
      hnsw_nonempty_false             ¬ NonEmptyFull               known finding D3
      hnsw_clusters_disconnect        ¬ ReachableFull              known finding D3
      hnsw_small_exact_since_flush_false  ¬ SmallExactSinceFlushFull   known finding D21
      hnsw_removal_disconnects        ¬ Reachable after Flush, no pruning   known finding D21
  Why the repaired defects were defects (model variants):
      hnsw_entry_removed_empty        searchLayer BEFORE f6a780e answers [] after the entry point is removed
      hnsw_old_order_no_inlinks       the statement order BEFORE fb5d06f loses every in-link
  The partial theorems speak about COMPLETED model runs / searches (`run … = .ok s`,
  `searchSingle … = .ok (.ok res)`): that no fault (nil lookup, fuel) occurs is proved for
  searchLayer (searchLayer_spec_total) but not for the greedy descent / insertNode.
-/
import CometProofs.HNSWRun
import CometProofs.HNSWFuel
namespace Comet.HNSW

variable {V S : Type}

/-! ## the verified graph checker used by the correspondence run -/

/-- `reachSet` (depth-first closure with fuel) decides reachability: whenever it
    answers, its answer is exactly the set of vertices reachable by `succ`-steps. -/
theorem reachSet_correct (succ : Id → List Id) (fuel : Nat) (e : Id) (r : List Id)
    (h : reachSet succ fuel e = some r) (v : Id) : v ∈ r ↔ Reach succ e v := by
  obtain ⟨h1, h2, _, h4⟩ := dfs_spec succ e fuel [e] [] r h
    (by intro x hx; rcases List.mem_singleton.1 hx with rfl; exact Reach.refl)
    (by intro x hx; cases hx) (by intro u hu; cases hu)
  constructor
  · exact h1 v
  · intro hv
    induction hv with
    | refl => exact h4 e (by simp)
    | step _ hw ih => exact h2 _ ih _ hw

/-! ## searchLayer (the graph search shared by insertion and query), code since f6a780e -/

/-- **searchLayer_spec, soundness.** Whatever `searchLayer` returns are distinct, resident,
    NON-deleted vertices reachable from the given start vertex along the edges of that layer
    (through any stored vertices, soft-deleted ones included), each with its distance. -/
theorem searchLayer_spec_sound (m : Metric V S) (s : State V) (q : V) (ep : Id) (ef layer : Nat)
    (res : List (Hit S)) (h : searchLayer m s q ep ef layer = .ok res) :
    (∀ r ∈ res, Reach (nbrsAt s layer) ep r.id ∧ isDeleted s r.id = false ∧
      ∃ n, s.nodes.get? r.id = some n ∧ r.score = m.dist q n.vec) ∧
    (res.map (·.id)).Nodup :=
  searchLayer_sound res h

/-- **searchLayer_spec, the dichotomy.** The answer has at least `max ef 1` hits, or it
    contains EVERY non-deleted vertex reachable from the start vertex. -/
theorem searchLayer_spec_full_or_all (m : Metric V S) (s : State V) (q : V) (ep : Id) (ef layer : Nat)
    (res : List (Hit S)) (h : searchLayer m s q ep ef layer = .ok res) :
    Nat.max ef 1 ≤ res.length ∨
    ∀ v, Reach (nbrsAt s layer) ep v → isDeleted s v = false → v ∈ res.map (·.id) :=
  (searchLayer_spec res h).2.2

/-- **searchLayer_spec, completeness.** If `ef` is at least the number of non-deleted
    vertices reachable from the start vertex (`U`: any list that covers them), ALL of them
    are returned: the early exit, the admission test and the eviction never lose one. -/
theorem searchLayer_spec_complete (m : Metric V S) (s : State V) (q : V) (ep : Id) (ef layer : Nat)
    (U : List Id) (hU : ∀ v, Reach (nbrsAt s layer) ep v → isDeleted s v = false → v ∈ U)
    (hlen : U.length ≤ ef) (res : List (Hit S))
    (h : searchLayer m s q ep ef layer = .ok res) :
    ∀ v, Reach (nbrsAt s layer) ep v → isDeleted s v = false → v ∈ res.map (·.id) :=
  searchLayer_complete U hU hlen res h

/-- **searchLayer_spec, non-emptiness.** If some non-deleted vertex is reachable from the
    start vertex (which may itself be soft-deleted), the answer is not empty, for every `ef`. -/
theorem searchLayer_spec_nonempty (m : Metric V S) (s : State V) (q : V) (ep : Id) (ef layer : Nat)
    (res : List (Hit S)) (h : searchLayer m s q ep ef layer = .ok res)
    (v : Id) (hv : Reach (nbrsAt s layer) ep v) (hvd : isDeleted s v = false) : res ≠ [] :=
  searchLayer_ne res h v hv hvd

/-- **searchLayer_spec, fuel lemma.** If the neighbour lists of the layer point to resident
    vertices and the start vertex is resident, `searchLayer` completes: `nodes.bound + 1`
    rounds (the size of the id array) suffice, no nil lookup and no access to an empty heap
    happens. -/
theorem searchLayer_spec_total (m : Metric V S) (s : State V) (q : V) (ep : Id) (ef layer : Nat)
    (hres : ∀ j w, w ∈ nbrsAt s layer j → s.nodes.contains w = true)
    (hep : s.nodes.contains ep = true) :
    ∃ res, searchLayer m s q ep ef layer = .ok res :=
  searchLayer_total m s q ef layer ep hres hep

/-! ## the three clauses on one state (decidable hypotheses; `complete0B` is what the
    correspondence run checks on the exported graph of every case in the small regime) -/

/-- Clause 1 on a state: entry point resident and some live vertex reachable from it along
    bottom-layer edges ⇒ every completed unrestricted search is non-empty (`k ∈ ℤ`, any `ef`). -/
theorem hnsw_nonempty_state (m : Metric V S) (ord : m.sc.Ordered) (s : State V)
    (hentry : s.nodes.contains s.entry = true) (hml : s.maxLevel ≠ -1)
    (v : Id) (hv : liveB s v = true) (hreach : Reach (nbrsAt s 0) s.entry v)
    (q q' : V) (k ef : Int) (hq : m.dimOf q = s.dim) (hpre : m.pre q = some q')
    (res : List (Hit S)) (h : searchSingle m s q k m.sc.zero [] ef = .ok (.ok res)) :
    res ≠ [] :=
  search_nonempty_state m ord s hentry hml v (liveB_iff.1 hv) hreach q q' k ef hq hpre res h

/-- Clause 2 on a state: layer 0 complete on the live vertices, the entry point (live or
    soft-deleted) linked to all of them, `ef` at least their number ⇒ every completed search
    (any `k ∈ ℤ`, threshold, id restriction) is an exact top-k of the live vertices. -/
theorem hnsw_small_exact_state (m : Metric V S) (ord : m.sc.Ordered) (s : State V)
    (hcomp : complete0B s = true) (hentry : s.nodes.contains s.entry = true) (hml : s.maxLevel ≠ -1)
    (q q' : V) (k : Int) (thr : S) (F : List Id) (ef : Int)
    (hq : m.dimOf q = s.dim) (hpre : m.pre q = some q')
    (hef : (liveIds s).length ≤ efUsed s ef) (res : List (Hit S))
    (h : searchSingle m s q k thr F ef = .ok (.ok res)) :
    IsTopK m.sc.le k (Flat.cands m (stateLive s) q' thr F) res :=
  let ⟨hc, hres, hgood⟩ := complete0B_spec hcomp hentry
  search_exact_state m ord s hc hres hgood hml q q' k thr F ef hq hpre hef res h

theorem hnsw_reachable_state (s : State V)
    (hcomp : complete0B s = true) (hentry : s.nodes.contains s.entry = true) : Reachable s :=
  reachable_state s (complete0B_spec hcomp hentry).2.2

/-! ## what holds along histories (the `…_partial` theorems): induction over ANY history of
    Add (fresh ids) / Remove / Flush, any levels, any flush picks that Go's map order allows -/

/-- **Clause 1, partial — every history (fresh ids, allowed flush picks), size and ef.**
    Whenever some live vertex is reachable from the entry point along bottom-layer edges of
    stored vertices (soft-deleted ones included), every completed unrestricted search returns
    at least one hit.  The reachability hypothesis is what remains hypothetical: D3 (pruning)
    and D21 (Flush without reconnection) can make every live vertex unreachable
    (hnsw_nonempty_false). -/
theorem hnsw_nonempty_partial (m : Metric V S) (ord : m.sc.Ordered)
    (dim M efC efS : Nat) (ops : List (Op V)) (s : State V)
    (hfresh : freshAdds ops = true) (hpicks : validPicks m (HNSW.init dim M efC efS) ops = true)
    (hrun : run m (HNSW.init dim M efC efS) ops = .ok s)
    (v : Id) (hv : liveB s v = true) (hreach : Reach (nbrsAt s 0) s.entry v)
    (q q' : V) (k ef : Int) (hq : m.dimOf q = dim) (hpre : m.pre q = some q')
    (res : List (Hit S)) (h : searchSingle m s q k m.sc.zero [] ef = .ok (.ok res)) :
    res ≠ [] := by
  simp only [freshAdds] at hfresh
  obtain ⟨hw, hdim⟩ := run_winv m ops (HNSW.init dim M efC efS) s (init_winv dim M efC efS)
    ⟨(nodupB_iff _).1 hfresh, fun _ _ => IdMap.contains_empty _⟩ hpicks hrun
  have hvl := liveB_iff.1 hv
  have hcnt : s.nodes.count ≠ 0 := IdMap.count_ne_zero hvl.1
  have hml : s.maxLevel ≠ -1 := by have := hw.ml hcnt; omega
  exact search_nonempty_state m ord s (hw.entry_res hcnt) hml v hvl hreach q q' k ef
    (by rw [hdim]; exact hq) hpre res h

/-- special case: the entry point itself is live — then nothing else is needed, for every
    such history, size and ef. -/
theorem hnsw_nonempty_entry_live (m : Metric V S) (ord : m.sc.Ordered)
    (dim M efC efS : Nat) (ops : List (Op V)) (s : State V)
    (hfresh : freshAdds ops = true) (hpicks : validPicks m (HNSW.init dim M efC efS) ops = true)
    (hrun : run m (HNSW.init dim M efC efS) ops = .ok s)
    (hentry : liveB s s.entry = true)
    (q q' : V) (k ef : Int) (hq : m.dimOf q = dim) (hpre : m.pre q = some q')
    (res : List (Hit S)) (h : searchSingle m s q k m.sc.zero [] ef = .ok (.ok res)) :
    res ≠ [] :=
  hnsw_nonempty_partial m ord dim M efC efS ops s hfresh hpicks hrun s.entry hentry Reach.refl
    q q' k ef hq hpre res h

/-- **Clause 1 in the small regime: unconditional.**  While the index never holds more than
    `n ≤ min (2M+1) efConstruction` vertices, every completed unrestricted search is non-empty
    as soon as a live vertex exists — whichever vertices were removed (the entry point
    included), flushed or not, for every `ef`. -/
theorem hnsw_nonempty_small (m : Metric V S) (ord : m.sc.Ordered)
    (dim M efC efS n : Nat) (ops : List (Op V)) (s : State V)
    (hreg : smallRegime m dim M efC efS n ops = true)
    (hrun : run m (HNSW.init dim M efC efS) ops = .ok s) (hlive : liveIds s ≠ [])
    (q q' : V) (k ef : Int) (hq : m.dimOf q = dim) (hpre : m.pre q = some q')
    (res : List (Hit S)) (h : searchSingle m s q k m.sc.zero [] ef = .ok (.ok res)) : res ≠ [] :=
  regime_nonempty m ord dim M efC efS n ops s hreg hrun hlive q q' k ef hq hpre res h

/-- **Clause 2, partial.**  Regime (`smallRegime`, decidable on the history): fresh ids
    (0 allowed), allowed flush picks, and the index never holds more than
    `n ≤ min (2M+1) efConstruction` vertices (the bound the code gives: pruning starts at the
    `2M+2`-nd resident vertex; the property asks for `2M`).  Then every completed search with
    `ef ≥ n` — any `k ∈ ℤ`, threshold, id restriction — is an exact top-k of the flat
    specification's live list; there is no hypothesis on the entry point.
    Invariant (`Inv`, CometProofs/HNSWInv.lean): layer 0 is the complete digraph on the live
    vertices and the entry point, live or tombstoned, has an edge to every other live vertex. -/
theorem hnsw_small_exact_partial (m : Metric V S) (ord : m.sc.Ordered)
    (dim M efC efS n : Nat) (ops : List (Op V)) (s : State V)
    (hreg : smallRegime m dim M efC efS n ops = true)
    (hrun : run m (HNSW.init dim M efC efS) ops = .ok s)
    (q q' : V) (k : Int) (thr : S) (F : List Id) (ef : Int)
    (hq : m.dimOf q = dim) (hpre : m.pre q = some q') (hef : n ≤ efUsed s ef)
    (res : List (Hit S)) (h : searchSingle m s q k thr F ef = .ok (.ok res)) :
    IsTopK m.sc.le k (Flat.cands m (liveSpec m dim ops) q' thr F) res :=
  regime_exact m ord dim M efC efS n ops s hreg hrun q q' k thr F ef hq hpre hef res h

/-- **Clause 3, partial.**  In the same regime every live vertex is reachable from the
    entry point along bottom-layer edges. -/
theorem hnsw_reachable_small (m : Metric V S) (dim M efC efS n : Nat) (ops : List (Op V)) (s : State V)
    (hreg : smallRegime m dim M efC efS n ops = true)
    (hrun : run m (HNSW.init dim M efC efS) ops = .ok s) : Reachable s :=
  regime_reachable m dim M efC efS n ops s hreg hrun

/-- In that regime the model state is what the specification says: the live
    `(id, vector)` pairs of the graph are those of the flat specification, and the bottom
    layer is the complete digraph on them (what the driver checks on the exported graph). -/
theorem hnsw_small_live_eq_spec (m : Metric V S) (dim M efC efS n : Nat) (ops : List (Op V)) (s : State V)
    (hreg : smallRegime m dim M efC efS n ops = true)
    (hrun : run m (HNSW.init dim M efC efS) ops = .ok s) :
    (stateLive s).Perm (liveSpec m dim ops) ∧ Complete0 s :=
  let ⟨hinv, _, _, hperm⟩ := regime_facts m dim M efC efS n ops s hreg hrun
  ⟨hperm, hinv.comp⟩

/-- the quantifier of the property: `M ≥ 2`, `efConstruction, efSearch ≥ M` -/
structure Params where
  dim : Nat
  M : Nat
  efC : Nat
  efS : Nat
  hM : 2 ≤ M
  hC : M ≤ efC
  hS : M ≤ efS

def Params.init (p : Params) : State V := HNSW.init p.dim p.M p.efC p.efS

/-- Clause 1, full strength: while a live vector exists, a (completed) unrestricted search
    is never empty — any history, whichever vectors were removed, flushed or not.  FALSE. -/
def NonEmptyFull (m : Metric V S) : Prop :=
  ∀ (p : Params) (ops : List (Op V)) (s : State V),
    freshAdds ops = true → validPicks m p.init ops = true → run m p.init ops = .ok s →
    liveSpec m p.dim ops ≠ [] →
    ∀ (q : V) (k ef : Int), m.dimOf q = p.dim → (m.pre q).isSome = true →
      ∀ res, searchSingle m s q k m.sc.zero [] ef = .ok (.ok res) → res ≠ []

/-- Clause 2, reading "at most `2M` vectors EVER held": TRUE (hnsw_small_exact_ever). -/
def SmallExactEver (m : Metric V S) : Prop :=
  ∀ (p : Params) (ops : List (Op V)) (s : State V) (n : Nat),
    freshAdds ops = true → validPicks m p.init ops = true → run m p.init ops = .ok s →
    n ≤ 2 * p.M → residentsLe m n p.init ops = true → n ≤ p.efC → n ≤ p.efS →
    ∀ (q q' : V) (k : Int) (thr : S) (F : List Id), m.dimOf q = p.dim → m.pre q = some q' →
      ∀ res, searchSingle m s q k thr F 0 = .ok (.ok res) →
        IsTopK m.sc.le k (Flat.cands m (liveSpec m p.dim ops) q' thr F) res

/-- Clause 2, reading "at most `2M` vectors since it was last empty or flushed": the bound
    only has to hold from a `flush` on (any one, so also the last).  FALSE. -/
def SmallExactSinceFlushFull (m : Metric V S) : Prop :=
  ∀ (p : Params) (pre suf : List (Op V)) (e : Id) (s1 s : State V) (n : Nat),
    freshAdds (pre ++ [.flush e] ++ suf) = true →
    validPicks m p.init (pre ++ [.flush e] ++ suf) = true →
    run m p.init (pre ++ [.flush e]) = .ok s1 → run m s1 suf = .ok s →
    n ≤ 2 * p.M → residentsLe m n s1 suf = true → n ≤ p.efC → n ≤ p.efS →
    ∀ (q q' : V) (k : Int) (thr : S) (F : List Id), m.dimOf q = p.dim → m.pre q = some q' →
      ∀ res, searchSingle m s q k thr F 0 = .ok (.ok res) →
        IsTopK m.sc.le k (Flat.cands m (liveSpec m p.dim (pre ++ [.flush e] ++ suf)) q' thr F) res

/-- Clause 3, full strength: every live vertex stays reachable from the entry point
    through the bottom layer.  FALSE. -/
def ReachableFull (m : Metric V S) : Prop :=
  ∀ (p : Params) (ops : List (Op V)) (s : State V),
    freshAdds ops = true → validPicks m p.init ops = true → run m p.init ops = .ok s →
    Reachable s

/-- Clause 2 holds at full strength in the reading "at most 2M vectors ever" (completed
    searches; every ordered metric). -/
theorem hnsw_small_exact_ever (m : Metric V S) (ord : m.sc.Ordered) : SmallExactEver m := by
  intro p ops s n hf hv hrun hn hr hc hs q q' k thr F hq hpre res h
  have hreg : smallRegime m p.dim p.M p.efC p.efS n ops = true := by
    simp only [smallRegime, Bool.and_eq_true, decide_eq_true_eq]
    exact ⟨⟨⟨⟨hf, hv⟩, hr⟩, by omega⟩, hc⟩
  have hefS : s.efS = p.efS := (regime_facts m p.dim p.M p.efC p.efS n ops s hreg hrun).2.1.efS
  exact regime_exact m ord p.dim p.M p.efC p.efS n ops s hreg hrun q q' k thr F 0 hq hpre
    (by simp [efUsed, hefS]; exact hs) res h

/-! ## proved negations (each witness is replayed on the real code: /verif/corpus/C12)

    A `…_witness` theorem states, as one closed conjunction evaluated by the kernel, what the
    theorems below use of a witness history; `answerIs`, `okAnd`, `unreachableB`, `reachableB`
    put a fact about a completed run as a Boolean (`false` for a faulted run). -/

def answerIs (r : Except Fault (Except Err (List (Hit Nat)))) (l : List (Hit Nat)) : Bool :=
  match r with | .ok (.ok x) => decide (x = l) | _ => false

theorem eq_of_answerIs {r : Except Fault (Except Err (List (Hit Nat)))} {l : List (Hit Nat)}
    (h : answerIs r l = true) : r = .ok (.ok l) := by
  unfold answerIs at h
  split at h
  · simp only [decide_eq_true_eq] at h; subst h; rfl
  · cases h

def okAnd {ε α : Type} (r : Except ε α) (f : α → Bool) : Bool :=
  match r with | .ok a => f a | .error _ => false

theorem of_okAnd {ε α : Type} {r : Except ε α} {f : α → Bool} (h : okAnd r f = true) :
    ∃ a, r = .ok a ∧ f a = true := by
  cases r with
  | ok a => exact ⟨a, rfl, h⟩
  | error _ => cases h

def pD3 : Params := ⟨1, 2, 10, 10, by decide, by decide, by decide⟩
/-- five points 0..4 (complete layer-0 graph, every list full at 2M = 4), then the far
    point 100: all four neighbours prune the link back to it -/
def opsD3 : List (Op Int) :=
  [.add 1 0 0, .add 2 1 0, .add 3 2 0, .add 4 3 0, .add 5 4 0, .add 6 100 0]
/-- … then the five reachable vertices are removed -/
def opsD3N : List (Op Int) := opsD3 ++ [.remove 1, .remove 2, .remove 3, .remove 4, .remove 5]

/-- `¬ Reachable` from the verified checker: a live vertex outside `reachSet`. -/
def unreachableB (r : Except Fault (State Int)) (v : Id) : Bool :=
  match r with
  | .ok s =>
    (match reachSet (nbrsAt s 0) 64 s.entry with
     | some rs => !rs.contains v && (liveIds s).contains v
     | none => false)
  | .error _ => false

/-- `Reachable` from the verified checker: every live vertex inside `reachSet`. -/
def reachableB (r : Except Fault (State Int)) : Bool :=
  match r with
  | .ok s =>
    (match reachSet (nbrsAt s 0) 64 s.entry with
     | some rs => (liveIds s).all fun v => rs.contains v
     | none => false)
  | .error _ => false

theorem not_reachable_of_unreachableB {r : Except Fault (State Int)} {v : Id}
    (h : unreachableB r v = true) : ∃ s, r = .ok s ∧ ¬ Reachable s := by
  cases r with
  | error _ => cases h
  | ok s =>
    refine ⟨s, rfl, fun hreach => ?_⟩
    simp only [unreachableB] at h
    split at h
    · next rs hrs =>
      simp only [Bool.and_eq_true, Bool.not_eq_true', List.contains_eq_mem, decide_eq_false_iff_not,
        decide_eq_true_eq] at h
      exact h.1 ((reachSet_correct _ _ _ _ hrs v).2 (hreach v h.2))
    · cases h

theorem reachable_of_reachableB {r : Except Fault (State Int)} (h : reachableB r = true) :
    ∀ s, r = .ok s → Reachable s := by
  intro s hr v hv
  subst hr
  simp only [reachableB] at h
  split at h
  · next rs hrs =>
    simp only [List.all_eq_true, List.contains_eq_mem, decide_eq_true_eq] at h
    exact (reachSet_correct _ _ _ _ hrs v).1 (h v hv)
  · cases h

theorem opsD3_witness :
    (freshAdds opsD3 = true ∧ validPicks toy pD3.init opsD3 = true ∧
      unreachableB (run toy pD3.init opsD3) 6 = true) ∧
    (freshAdds opsD3N = true ∧ validPicks toy pD3.init opsD3N = true ∧
      liveSpec toy 1 opsD3N = [(6, 100)]) ∧
    okAnd (run toy pD3.init opsD3N)
      (fun s => answerIs (searchSingle toy s 100 1 toy.sc.zero [] 0) []) = true := by
  decide +kernel

/-- D3: nearest-M pruning leaves the last vertex without any in-link: unreachable,
    although nothing was removed, the entry point is live and ef (10) exceeds the index. -/
theorem hnsw_clusters_disconnect : ¬ ReachableFull toy := by
  intro h
  obtain ⟨⟨hf, hv, hu⟩, _⟩ := opsD3_witness
  obtain ⟨s, hr, hnr⟩ := not_reachable_of_unreachableB hu
  exact hnr (h pD3 opsD3 s hf hv hr)

/-- D3 also refutes clause 1: vertex 6 is live but has no in-link, so after the five
    reachable vertices are removed every search is empty (entry point tombstoned, nothing
    live reachable) — although searchLayer walks through tombstones (f6a780e). -/
theorem hnsw_nonempty_false : ¬ NonEmptyFull toy := by
  intro h
  obtain ⟨_, ⟨hf, hv, hl⟩, hs⟩ := opsD3_witness
  obtain ⟨s, hr, hans⟩ := of_okAnd hs
  exact h pD3 opsD3N s hf hv hr (fun hh => nomatch hl.symm.trans hh)
    (100 : Int) 1 0 rfl rfl [] (eq_of_answerIs hans) rfl

def pD21 : Params := ⟨1, 2, 2, 2, by decide, by decide, by decide⟩
/-- points 0..3 with efConstruction = M = 2: vertex 4 links to 2 and 3 only; both are
    removed (neither is the entry point), then flushed -/
def opsD21 : List (Op Int) :=
  [.add 1 0 0, .add 2 1 0, .add 3 2 0, .add 4 3 0, .remove 2, .remove 3, .flush 1]

theorem opsD21_witness :
    (freshAdds opsD21 = true ∧ validPicks toy pD21.init opsD21 = true ∧
      liveSpec toy 1 opsD21 = [(1, 0), (4, 3)]) ∧
    reachableB (run toy pD21.init opsD21.dropLast) = true ∧
    unreachableB (run toy pD21.init opsD21) 4 = true ∧
    residentsLe toy (2 * pD21.M) pD21.init opsD21 = true ∧
    okAnd (run toy pD21.init opsD21) (fun s =>
      answerIs (searchSingle toy s 3 1 0 [] 0) [⟨1, 3⟩] && decide (s.nodes.count ≤ 2)) = true ∧
    checkTopK toy.sc.le 1 (Flat.cands toy (liveSpec toy 1 opsD21) 3 0 []) [⟨1, 3⟩] = false := by
  decide +kernel

/-- D21: with at most 2M vertices ever (no pruning), removing cut vertices is harmless while
    they are only tombstoned (they are walked through since f6a780e) but `Flush` drops their
    edges without reconnecting: a live vertex is unreachable afterwards. -/
theorem hnsw_removal_disconnects :
    (∀ s, run toy pD21.init opsD21.dropLast = .ok s → Reachable s) ∧
    (∀ s, run toy pD21.init opsD21 = .ok s → ¬ Reachable s) ∧
    residentsLe toy (2 * pD21.M) pD21.init opsD21 = true := by
  obtain ⟨_, hbefore, hafter, hres, _⟩ := opsD21_witness
  refine ⟨reachable_of_reachableB hbefore, fun s hr => ?_, hres⟩
  obtain ⟨s', hr', hnr⟩ := not_reachable_of_unreachableB hafter
  cases hr.symm.trans hr'
  exact hnr

/-- D21 refutes clause 2 as the property words it: after the flush the index holds 2 ≤ 2M
    vertices, efConstruction = efSearch = 2, and the search for the point 3 (id 4, distance 0)
    answers id 1 (distance 3). -/
theorem hnsw_small_exact_since_flush_false : ¬ SmallExactSinceFlushFull toy := by
  intro h
  obtain ⟨⟨hf, hv, _⟩, _, _, _, hs, hno⟩ := opsD21_witness
  obtain ⟨s, hr, hans⟩ := of_okAnd hs
  simp only [Bool.and_eq_true, decide_eq_true_eq] at hans
  -- the history is `opsD21.dropLast ++ [flush 1] ++ []` (definitionally), the suffix is empty
  have htop : IsTopK toy.sc.le 1 (Flat.cands toy (liveSpec toy 1 opsD21) 3 0 []) [⟨1, 3⟩] :=
    h pD21 opsD21.dropLast [] 1 s s 2 hf hv hr rfl (by decide)
      (by simp [residentsLe, along, hans.2]) (by decide) (by decide)
      (3 : Int) 3 1 0 [] rfl rfl [⟨1, 3⟩] (eq_of_answerIs hans.1)
  have hc := checkTopK_complete _ _ _ _ htop
  rw [hno] at hc
  cases hc

/-! ### why the repaired defects were defects (model variants) -/

/-- points 0, 1, 2; then the first inserted vertex — the entry point — is removed -/
def opsD2 : List (Op Int) := [.add 1 0 0, .add 2 1 0, .add 3 2 0, .remove 1]

def layerIds (r : Except Fault (List (Hit Nat))) : Option (List Id) :=
  match r with | .ok l => some (l.map (·.id)) | .error _ => none

/-- D2 (fixed by f6a780e + f98dc7f): after removing the entry point, `searchLayerOld` (the
    code BEFORE the fix) returns nothing from the entry point although two vertices are live;
    `searchLayer` walks through the tombstone and returns both. -/
theorem hnsw_entry_removed_empty :
    (match run toy pD3.init opsD2 with
     | .ok s => (layerIds (searchLayerOld toy s 1 s.entry 10 0), layerIds (searchLayer toy s 1 s.entry 10 0),
                 liveIds s)
     | .error _ => (none, none, [])) = (some [], some [2, 3], [2, 3]) := by
  decide +kernel

def runAddsWith (rf : Bool) (s : State Int) : List (Id × Int × Nat) → Except Fault (State Int)
  | [] => .ok s
  | (i, v, l) :: t =>
    match addWith toy rf s i v l 0 with
    | .error e => .error e
    | .ok (s', _) => runAddsWith rf s' t

def inDegree0 (r : Except Fault (State Int)) (v : Id) : Option Nat :=
  match r with
  | .ok s => some ((s.nodes.keys.filter fun i =>
      match s.nodes.get? i with | some n => (n.edges.headD []).contains v | none => false).length)
  | .error _ => none

def linePts : List (Id × Int × Nat) := [(1,0,0),(2,1,0),(3,2,0),(4,3,0),(5,4,0),(6,5,0)]

/-- D1 (fixed by fb5d06f): M = 2, six points on a line.  With `insertNode` BEFORE
    `nodes[id] = node` the sixth vertex ends with no in-link at all (every neighbour pruned the
    unknown id); in the order of fb5d06f (`registerFirst = true`) it keeps in-links. -/
theorem hnsw_old_order_no_inlinks :
    inDegree0 (runAddsWith false (HNSW.init 1 2 10 10) linePts) 6 = some 0 ∧
    inDegree0 (runAddsWith true (HNSW.init 1 2 10 10) linePts) 6 = some 2 ∧
    registerFirst = true := by
  refine ⟨by decide +kernel, by decide +kernel, rfl⟩

/-- id 0 is a legal id (the index stores the first vector whose own id is 0 under key 0): a
    history in which the vertex 0 is the entry point, every resident vertex is removed without
    a Flush, and new vectors are added — the Add purges the tombstoned entry point 0 (pick 0:
    nothing is live), so the new vertices are linked and found. -/
def opsZero : List (Op Int) :=
  [.add 0 0 0, .add 5 10 0, .remove 0, .remove 5, .add 7 20 0 0, .add 8 30 0]

example : smallRegime toy 1 2 10 10 5 opsZero = true ∧ liveSpec toy 1 opsZero = [(7, 20), (8, 30)] ∧
    (match run toy pD3.init opsZero with
     | .ok s => (s.entry, liveIds s, complete0B s,
         match searchSingle toy s 31 2 0 [] 0 with
         | .ok (.ok r) => r.map (fun (h : Hit Nat) => h.id) | _ => [])
     | .error _ => (99, [], false, [])) = (7, [7, 8], true, [8, 7]) := by
  decide +kernel


-- the witnesses are inside the property's quantifier
example : freshAdds opsD3N = true ∧ validPicks toy pD3.init opsD3N = true ∧
    liveSpec toy 1 opsD3N = [(6, 100)] := opsD3_witness.2.1
example : freshAdds opsD21 = true ∧ validPicks toy pD21.init opsD21 = true ∧
    liveSpec toy 1 opsD21 = [(1, 0), (4, 3)] := opsD21_witness.1

/-- a history with levels > 0, removal of the ENTRY POINT, an Add that therefore purges the
    tombstones first (pick 3: the live vertex on maxLevel), another removal, a flush -/
def opsOK : List (Op Int) :=
  [.add 1 0 1, .add 2 10 0, .add 3 20 2, .add 4 30 0, .remove 1, .add 5 40 1 3, .remove 2,
   .flush 3, .add 6 25 0]

def stOK : State Int := match run toy pD3.init opsOK with | .ok s => s | .error _ => pD3.init

/-- the history is in the small regime, and what the examples below read off its final
    state (the regime's own run of the history is the one that is inspected) -/
theorem opsOK_witness :
    smallRegime toy 1 2 10 10 5 opsOK = true ∧
    liveSpec toy 1 opsOK = [(3, 20), (4, 30), (5, 40), (6, 25)] ∧
    okAnd (run toy (HNSW.init 1 2 10 10) opsOK) (fun s =>
      decide (complete0B s = true ∧ s.entry = 3 ∧ s.maxLevel = 2 ∧ liveIds s = [3, 4, 5, 6]) &&
      decide (efUsed s 0 = 10) &&
      decide ((match searchSingle toy s 24 2 0 [] 0 with
        | .ok (.ok r) => r.map (fun (h : Hit Nat) => (h.id, h.score)) | _ => []) = [(6, 1), (3, 4)])) = true ∧
    -- right after the entry point was removed
    okAnd (run toy (HNSW.init 1 2 10 10) (opsOK.take 5)) (fun s =>
      decide (isDeleted s s.entry = true ∧ complete0B s = true ∧
        (match searchSingle toy s 1 1 0 [] 0 with
         | .ok (.ok r) => r.map (fun (h : Hit Nat) => (h.id, h.score)) | _ => []) = [(2, 9)])) = true := by
  decide +kernel

theorem stOK_run : run toy (HNSW.init 1 2 10 10) opsOK = .ok stOK := by
  obtain ⟨a, hr, _⟩ := of_okAnd opsOK_witness.2.2.1
  have : stOK = a := by rw [stOK, show run toy pD3.init opsOK = .ok a from hr]
  rw [this]; exact hr

theorem stOK_facts :
    (complete0B stOK = true ∧ stOK.entry = 3 ∧ stOK.maxLevel = 2 ∧ liveIds stOK = [3, 4, 5, 6]) ∧
    efUsed stOK 0 = 10 ∧
    (match searchSingle toy stOK 24 2 0 [] 0 with
      | .ok (.ok r) => r.map (fun (h : Hit Nat) => (h.id, h.score)) | _ => []) = [(6, 1), (3, 4)] := by
  obtain ⟨a, hr, ha⟩ := of_okAnd opsOK_witness.2.2.1
  simp only [Bool.and_eq_true, decide_eq_true_eq] at ha
  rw [Except.ok.inj (hr.symm.trans stOK_run)] at ha
  exact ⟨ha.1.1, ha.1.2, ha.2⟩

example : smallRegime toy 1 2 10 10 5 opsOK = true := opsOK_witness.1
example : complete0B stOK = true ∧ stOK.entry = 3 ∧ stOK.maxLevel = 2 ∧
    liveIds stOK = [3, 4, 5, 6] ∧ liveSpec toy 1 opsOK = [(3, 20), (4, 30), (5, 40), (6, 25)] :=
  let ⟨h1, h2, h3, h4⟩ := stOK_facts.1
  ⟨h1, h2, h3, h4, opsOK_witness.2.1⟩
-- all hypotheses of the history-level theorems are met by it:
example : Reachable stOK := hnsw_reachable_small toy 1 2 10 10 5 opsOK stOK opsOK_witness.1 stOK_run
example : ∀ res, searchSingle toy stOK 24 2 0 [] 0 = .ok (.ok res) →
    IsTopK toy.sc.le 2 (Flat.cands toy (liveSpec toy 1 opsOK) 24 0 []) res :=
  fun res h => hnsw_small_exact_partial toy toy_ordered 1 2 10 10 5 opsOK stOK opsOK_witness.1
    stOK_run 24 24 2 0 [] 0 rfl rfl (by rw [stOK_facts.2.1]; decide) res h
-- … and the search does complete, with the two nearest live points 25 (id 6) and 20 (id 3):
example : (match searchSingle toy stOK 24 2 0 [] 0 with
    | .ok (.ok r) => r.map (fun (h : Hit Nat) => (h.id, h.score)) | _ => []) = [(6, 1), (3, 4)] :=
  stOK_facts.2.2
-- the state right after the entry point was removed: still exact, reachable, non-empty
def stDead : State Int :=
  match run toy pD3.init (opsOK.take 5) with | .ok s => s | .error _ => pD3.init
example : isDeleted stDead stDead.entry = true ∧ complete0B stDead = true ∧
    (match searchSingle toy stDead 1 1 0 [] 0 with
     | .ok (.ok r) => r.map (fun (h : Hit Nat) => (h.id, h.score)) | _ => []) = [(2, 9)] := by
  obtain ⟨a, hr, ha⟩ := of_okAnd opsOK_witness.2.2.2
  rw [stDead, show run toy pD3.init (opsOK.take 5) = .ok a from hr]
  exact of_decide_eq_true ha

end Comet.HNSW
