/-
  C20 — training and quantisation are deterministic, in-range, error-bounded.

  The k-means half: property theorems and non-vacuity examples; the lemmas are in
  CometProofs/KMeans.lean.  The quantiser half is CometProofs/Properties/C20_Quant.lean.

  `kmeans o dist vs k maxIter` is the model of clustering.go's
  `kmeansInternal` (Comet/KMeans.lean), written over scalar operations `o : Ops S` and
  an arbitrary distance function; `none` is Go's `(nil, nil)`.  The structural theorems
  hold for EVERY scalar instance — in particular for the `Float32` instance the driver
  executes and compares bit for bit with the Go code.  The bounding-box and
  first-minimiser theorems are over an arbitrary exact ordered field `K`
  (`fieldOps K`; ℚ, ℝ, …).  Determinism and input immutability are definitional in a
  pure functional model (a function applied twice to the same argument gives the same
  value; nothing is written): nothing is claimed by a theorem; they are tied to the
  code by the regenerated source facts (CometGen/Obligations_C20.lean: no math/rand, no
  map, no goroutine, no write to the argument in `kmeansInternal`, its callers and the
  three `Train` methods) and by the correspondence run (twice → identical bits, inputs
  unchanged, twice-trained IVF / PQ / IVFPQ answer identically).
-/
import CometProofs.KMeans
import CometProofs.Quant
namespace Comet.KMeans
open Comet.Dist

section Structural
variable {S : Type} (o : Ops S) (dist : List S → List S → S)

/-- `(nil, nil)` exactly when there is no training vector or `k ≤ 0` (`maxIter` is irrelevant) -/
theorem kmeans_nil_cases (vs : List (List S)) (k maxIter : Int) :
    kmeans o dist vs k maxIter = none ↔ vs = [] ∨ k ≤ 0 := by
  cases vs with
  | nil => exact ⟨fun _ => .inl rfl, fun _ => rfl⟩
  | cons v0 rest =>
    rw [kmeans]
    split
    next hk => exact ⟨fun _ => .inr hk, fun _ => rfl⟩
    next hk => exact ⟨nofun, fun h => h.elim nofun (absurd · hk)⟩

/-- exactly `min(k, n)` centroids, for every `k > 0`, `n > 0`, every `maxIter ∈ ℤ` -/
theorem kmeans_count (vs : List (List S)) (k maxIter : Int) (r : Result S)
    (h : kmeans o dist vs k maxIter = some r) :
    r.centroids.length = min k.toNat vs.length := by
  obtain ⟨v0, rest, rfl, -, rfl⟩ := kmeans_eq_some o dist h
  rw [iterate_centroids_length, initCentroids_length, effK_eq]

/-- every training vector is assigned to a valid centroid index -/
theorem kmeans_assign_valid (vs : List (List S)) (k maxIter : Int) (r : Result S)
    (h : kmeans o dist vs k maxIter = some r) :
    r.mapping.length = vs.length ∧
    ∀ m ∈ r.mapping, 0 ≤ m ∧ m < ((min k.toNat vs.length : Nat) : Int) := by
  obtain ⟨v0, rest, rfl, hk, rfl⟩ := kmeans_eq_some o dist h
  obtain ⟨cs', hlen, hmap⟩ := iterate_mapping o dist v0.length (v0 :: rest) (effIter maxIter) 0
    (initCentroids v0 rest (effK k (v0 :: rest).length)) (List.replicate (v0 :: rest).length (-1))
    (effIter_pos _)
  rw [initCentroids_length, effK_eq] at hlen
  have hne : cs' ≠ [] := by
    rintro rfl
    have := effK_pos k (v0 :: rest).length hk (Nat.succ_pos _)
    rw [effK_eq, ← hlen] at this
    exact Nat.lt_irrefl _ this
  rw [hmap, ← hlen]
  exact ⟨assign_length o dist _ _, assign_valid o dist _ cs' hne⟩

/-- when the run converged (the loop ended because no assignment changed) every vector
    is assigned to `FindNearestCentroidIndex` (`nearest`) of the RETURNED centroids -/
theorem kmeans_converged_nearest (vs : List (List S)) (k maxIter : Int) (r : Result S)
    (h : kmeans o dist vs k maxIter = some r) (hc : r.converged = true) :
    r.mapping = vs.map fun v => (nearest o dist v r.centroids : Int) := by
  obtain ⟨v0, rest, rfl, -, rfl⟩ := kmeans_eq_some o dist h
  exact iterate_converged o dist _ _ _ _ _ _ hc

/-- centroids have the dimension of the (rectangular) training set -/
theorem kmeans_centroid_dim (dim : Nat) (vs : List (List S)) (hrect : ∀ v ∈ vs, v.length = dim)
    (k maxIter : Int) (r : Result S) (h : kmeans o dist vs k maxIter = some r) :
    ∀ c ∈ r.centroids, c.length = dim := by
  obtain ⟨v0, rest, rfl, -, rfl⟩ := kmeans_eq_some o dist h
  rw [hrect v0 (List.mem_cons_self ..)]
  exact iterate_dim o dist dim (v0 :: rest) hrect _ _ _ _
    (fun c hc => hrect c (initCentroids_mem v0 rest _ c hc))

end Structural

section Field
variable {K : Type} [Field K] [LinearOrder K] [IsStrictOrderedRing K] (dist : List K → List K → K)

omit [IsStrictOrderedRing K] in
/-- over an exact ordered field `nearest` is the FIRST index of minimal distance:
    no centroid is nearer, and every earlier one is strictly farther. -/
theorem nearest_is_first_minimiser (v : List K) (cs : List (List K)) (hne : cs ≠ []) :
    ∃ h : nearest (fieldOps K) dist v cs < cs.length,
      (∀ c ∈ cs, dist v cs[nearest (fieldOps K) dist v cs] ≤ dist v c) ∧
      (∀ j (hj : j < cs.length), j < nearest (fieldOps K) dist v cs →
        dist v cs[nearest (fieldOps K) dist v cs] < dist v cs[j]) := by
  rcases nearestLoop_spec dist v cs 0 none 0 with ⟨-, h2⟩ | ⟨j, hj, h1, -, h3, h4⟩
  · -- the first centroid always beats the initial `+Inf`
    obtain ⟨c, hc⟩ := List.exists_mem_of_ne_nil cs hne
    exact (h2 c hc).elim fun _ h => nomatch h.1
  · rw [show nearest (fieldOps K) dist v cs = j from h1]
    exact ⟨hj, h3, h4⟩

/-- bounding box, coordinate by coordinate, for ANY distance function: if coordinate `d`
    of every training vector lies in `[lo, hi]`, so does coordinate `d` of every
    returned centroid (initial centroids are training vectors; the mean of a non-empty
    sub-family lies in the hull; empty clusters keep their centroid; induction over the
    iterations). -/
theorem kmeans_bbox (d : Nat) (lo hi : K) (vs : List (List K)) (hvs : ∀ v ∈ vs, InBox d lo hi v)
    (k maxIter : Int) (r : Result K) (h : kmeans (fieldOps K) dist vs k maxIter = some r) :
    ∀ c ∈ r.centroids, InBox d lo hi c := by
  obtain ⟨v0, rest, rfl, -, rfl⟩ := kmeans_eq_some (fieldOps K) dist h
  have hd : d < v0.length := by
    obtain ⟨x, hx, -⟩ := hvs v0 (List.mem_cons_self ..)
    exact (List.getElem?_eq_some_iff.1 hx).1
  exact iterate_box dist d lo hi v0.length hd (v0 :: rest) hvs _ _ _ _
    (fun c hc => hvs c (initCentroids_mem v0 rest _ c hc))

/-- the same with the tightest box: every coordinate of every centroid lies between that
    coordinate of two training vectors (its minimum and maximum over the training set) -/
theorem kmeans_bbox_minmax (dim : Nat) (vs : List (List K)) (hrect : ∀ v ∈ vs, v.length = dim)
    (k maxIter : Int) (r : Result K) (h : kmeans (fieldOps K) dist vs k maxIter = some r)
    (d : Nat) (hd : d < dim) :
    ∃ vmin ∈ vs, ∃ vmax ∈ vs, ∃ a b, vmin[d]? = some a ∧ vmax[d]? = some b ∧
      ∀ c ∈ r.centroids, ∃ x, c[d]? = some x ∧ a ≤ x ∧ x ≤ b := by
  obtain ⟨v0, rest, rfl, -, -⟩ := kmeans_eq_some (fieldOps K) dist h
  obtain ⟨vmin, hmin, vmax, hmax, a, b, ha, hb, hbox⟩ :=
    exists_tight_box d (v0 :: rest) (List.cons_ne_nil _ _) fun v hv => (hrect v hv).symm ▸ hd
  exact ⟨vmin, hmin, vmax, hmax, a, b, ha, hb, kmeans_bbox dist d a b _ hbox k maxIter r h⟩

end Field

/-! ### non-vacuity: concrete runs (integer coordinates, exact means; a toy `Ops ℤ` so
    that the kernel can evaluate the model) with a duplicate point, k > n, k ≤ 0, an empty cluster -/
section Example
def toyOps : Ops Int where
  zero := 0
  one := 1
  add := (· + ·)
  sub := (· - ·)
  mul := (· * ·)
  div := (· / ·)
  neg := fun x => -x
  sqrt := id
  lt := fun a b => decide (a < b)
  isZero := fun x => decide (x = 0)
  ofNat := fun n => (n : Int)
  ltInf := fun _ => true

def exVs : List (List Int) := [[0, 0], [0, 0], [4, 0], [6, 2]]
-- two centroids, converged; [0,0] twice → cluster 0, the other two → cluster 1 with mean (5,1)
example : (kmeans toyOps (l2sq toyOps) exVs 2 0).map (fun r => (r.centroids, r.mapping, r.converged)) =
    some ([[0, 0], [5, 1]], [0, 0, 1, 1], true) := by decide
-- the hypotheses of `kmeans_converged_nearest` are met by this run
example : ∃ r, kmeans toyOps (l2sq toyOps) exVs 2 0 = some r ∧ r.converged = true ∧
    r.mapping = exVs.map fun v => (nearest toyOps (l2sq toyOps) v r.centroids : Int) := by
  refine ⟨_, rfl, by decide, ?_⟩
  exact kmeans_converged_nearest toyOps (l2sq toyOps) exVs 2 0 _ rfl (by decide)
-- maxIter = 1 ends the loop before convergence is observed (`converged = false`); the mapping
-- is the one computed from the INITIAL centroids (here it coincides with the final one)
example : (kmeans toyOps (l2sq toyOps) exVs 2 1).map (fun r => (r.centroids, r.mapping, r.converged)) =
    some ([[0, 0], [5, 1]], [0, 0, 1, 1], false) := by decide
-- k > n is cut to n; k ≤ 0 gives nil
example : (kmeans toyOps (l2sq toyOps) exVs 9 1).map (fun r => r.centroids.length) = some 4 := by decide
example : (kmeans toyOps (l2sq toyOps) exVs 0 5).isNone = true := by decide
-- an empty cluster keeps its centroid: all points equal, k = 2
example : (kmeans toyOps (l2sq toyOps) [[1], [1], [1]] 2 3).map (fun r => (r.centroids, r.mapping)) =
    some ([[1], [1]], [0, 0, 0]) := by decide
end Example

end Comet.KMeans
