/-
  C09 — data acknowledged by Flush or Close survives a restart; segment identifiers
  are never reused.

  Property theorems, their witnesses and non-vacuity examples; the model is Comet/Storage/*.lean,
  helper lemmas are in CometProofs/Storage/*.lean.

  Reading guide. `Reach cfg s`: `s` is produced from the empty directory by ANY sequence
  of client steps, worker steps (at the granularity of their lock-delimited regions),
  Close / reopen-with-fresh-templates cycles and crashes (death `k` file operations into
  any step, un-synced files cut arbitrarily, LOCK removed by the operator). The ghost
  fields of `s.gh` record the history: `everNamed` (ids that ever named a file),
  `reused` / `overwrote` (set at the moment a nextSegmentID result is ≤ such an id /
  an os.Create hits an existing file), `promised` (documents acknowledged before a
  Flush()/Close() of their store instance returned nil).

  Status.
  * segment identifiers: FULL (`segment_ids_fresh` and the three theorems after it).
  * durability: the full statement `DurableAfterFlushClose` is FALSE for the code as it
    is; negations are proved from concrete witnesses that are replayed on the real code
    on every run (corpus/C09): `flush_skips_mutable`, `close_skips_mutable` (D12); the D13
    witness is evaluated only (`durable_frozen_lost_after_segment_load`). Partial: `durable_partial` (client
    Flush), `durable_partial_worker` (the flush worker's write, which is also what Close's
    final flush does): what a flush writes while at least one memtable is frozen and no
    segment load has lost live content is found by the first search of EVERY later store
    instance — across any number of further sessions, flushes, worker steps and crashes —
    as long as no compaction swap deletes it; and (`durable_every_search_partial`,
    `…_worker`) by EVERY search of every later state in which `loadLost` is still false
    and the document was not removed.
-/
import CometProofs.Storage.DurableAll
namespace Comet.Storage

/-! ## segment identifiers are never reused (full) -/

/-- FULL. Across any sequence of sessions, flushes, compactions and crashes: no
    nextSegmentID result was ever ≤ an id that had named a file in the directory, and no
    os.Create ever hit an existing file (so no file of an earlier segment is overwritten). -/
theorem segment_ids_fresh {cfg : Cfg} {s : Store} (h : Reach cfg s) :
    s.gh.reused = false ∧ s.gh.overwrote = false :=
  ⟨(idInv_reach h).noReuse, (idInv_reach h).noOver⟩

/-- the next id an open store hands out exceeds every id that names a file now and every id
    that ever named one -/
theorem next_segment_id_exceeds_history {cfg : Cfg} {s : Store} (h : Reach cfg s) (ho : s.opened = true) :
    (∀ i ∈ FS.segIds s.fs, i < s.counter + 1) ∧ (∀ i ∈ s.gh.everNamed, i < s.counter + 1) := by
  have inv := idInv_reach h
  have hc : initCounter s.fs ≤ s.counter := initCounter_le _ _ (inv.fsLe ho)
  exact ⟨fun i hi => Nat.lt_succ_of_le (inv.fsLe ho i hi),
         fun i hi => Nat.lt_succ_of_le (Nat.le_trans (inv.ever i hi) hc)⟩

/-- a reopen (any later process; also after a crash) initialises the counter at or above every
    id that ever named a file — including ids whose files a compaction has deleted since -/
theorem reopen_counter_covers_history {cfg : Cfg} {s : Store} (h : Reach cfg s) (hc : s.opened = false) :
    ∀ i ∈ s.gh.everNamed, i ≤ (exec s .reopen).1.counter ∨ (exec s .reopen).2 = .errLocked := by
  intro i hi
  have inv := idInv_reach h
  have e : (exec s .reopen) = openOn s.cfg s.fs Shared.empty s.gh := by simp [exec, hc]
  rw [e]
  unfold openOn
  split
  · exact .inr rfl
  · left
    show i ≤ initCounter (FS.put s.fs .lock ⟨.lock, .full⟩)
    rw [initCounter_congr _ _ (segIds_put_lock s.fs _)]
    exact inv.ever i hi

/-- `initSegmentCounter` is at least every id naming any file of the directory, orphans of a
    half-written or half-deleted segment included (holds for EVERY directory) -/
theorem init_counter_covers_every_file (fs : FS) : ∀ i ∈ FS.segIds fs, i ≤ initCounter fs :=
  fun i hi => le_initCounter fs i hi

/-! ## durability: the full statement, and why the code does not satisfy it -/

/-- FULL statement (first sentence of the property): in every reachable state of an open
    store, every document acknowledged before a Flush()/Close() of its store instance
    returned nil, and not removed, is found by a probe of every modality it carries, under every
    serialised schedule of the segment goroutines (`SerialFor`) — by this and every later store
    instance opened on the directory with fresh templates. -/
def DurableAfterFlushClose : Prop :=
  ∀ (cfg : Cfg) (s : Store), Reach cfg s → running s = true →
    ∀ (q : Q) (sched : List SegEv), SerialFor s sched →
      ∀ d ∈ s.gh.promised, d.id ∉ s.gh.removed → Doc.matches s.cfg.tpl d q = true → found s q sched d

def cfgDefault : Cfg := ⟨⟨true, true, true⟩, 104857600, 209715200, 5⟩
def docA : Doc := ⟨1, 3, 6, 2⟩
def docB : Doc := ⟨2, 3, 6, 2⟩
def docC : Doc := ⟨3, 3, 6, 2⟩

/-- D12 witness (corpus/C09/restart_d12_flush_skips_mutable.json): default memtable size;
    add a; Flush; Close; reopen with fresh templates -/
def traceFlushSkips : List Step := [.add docA, .flush] ++ closeIdle ++ [.reopen]

/-- D12 witness (corpus/C09/restart_d12_close_skips_mutable.json): add a; Close; reopen -/
def traceCloseSkips : List Step := [.add docA] ++ closeIdle ++ [.reopen]

/-- a trace after which the store is open with no segment, `a` is promised and not removed, and the
    probe `q`, which `a` matches, returns nothing, refutes the full statement -/
theorem not_durable_of_run (steps : List Step) (q : Q)
    (w : let s := run (Store.init cfgDefault) steps
      running s = true ∧ [].Perm (s.segs.map (·.id)) ∧ docA ∈ s.gh.promised ∧ docA.id ∉ s.gh.removed ∧
      Doc.matches s.cfg.tpl docA q = true ∧ (exec s (.search q [])).2 = .ids []) :
    ¬ DurableAfterFlushClose := fun h =>
  not_found w.2.2.2.2.2 List.not_mem_nil
    (h cfgDefault _ (reach_run _ _) w.1 q [] ⟨[], w.2.1, rfl⟩ docA w.2.2.1 w.2.2.2.1 w.2.2.2.2.1)

/-- NEGATION (D12). After `add a; Flush() = nil; Close() = nil; reopen`, `a` is promised, the
    store is open, and the vector probe returns nothing. -/
theorem flush_skips_mutable : ¬ DurableAfterFlushClose :=
  not_durable_of_run traceFlushSkips .vec (by decide +kernel)

/-- NEGATION (D12), Close alone: `add a; Close() = nil; reopen` loses `a`. -/
theorem close_skips_mutable : ¬ DurableAfterFlushClose :=
  not_durable_of_run traceCloseSkips .txt (by decide +kernel)

def cfgTiny : Cfg := ⟨⟨true, true, true⟩, 1, 209715200, 5⟩

/-- D13 witness in a restart history (corpus/C09/restart_d13_flush_after_load.json): memtable
    limit 1 (every add rotates first); add a; Flush; add b; a search loads segment 1 over the
    shared templates (b vanishes from them); add c; Flush — b sits in a FROZEN memtable and its
    segment is written, but from templates that no longer hold b; Close; reopen. -/
def traceFrozenLost : List Step :=
  [.add docA, .flush, .add docB, .search .vec (serialSched [1]), .add docC, .flush] ++ closeIdle ++ [.reopen]

/-- WITNESS (D13), an evaluation, not stated as `¬ DurableAfterFlushClose`: even a document that was
    in a frozen memtable when Flush was called (so that its memtable WAS written) can be lost: after
    the restart every segment is loaded and scanned, `b` is promised and never removed, and the
    answer is {a, c}. -/
theorem durable_frozen_lost_after_segment_load :
    let s1 := run (Store.init cfgTiny) [.add docA, .flush, .add docB, .search .vec (serialSched [1]), .add docC]
    let s := run (Store.init cfgTiny) traceFrozenLost
    -- b is in a frozen memtable when the second Flush is called
    ((butLast s1.mts).any fun m => m.info.any fun i => i.id == docB.id) = true ∧
    docB ∈ s.gh.promised ∧ docB.id ∉ s.gh.removed ∧
    (exec s (.search .vec (serialSched [1, 2, 3]))).2 = .ids [1, 3] := by decide +kernel

/-! ## durability: what does hold -/

/-- PARTIAL (client Flush). Let Flush() be called in a reachable state in which at least one
    memtable is frozen (`m ∈ butLast s.mts`, used only as "some segment is written": `d` is ANY
    live document of the session, in a frozen memtable or not, because every segment holds the
    whole shared content) and no segment load has lost live content so far. Then, after
    ANY continuation `xs` (client steps, worker steps, further sessions, crashes) that contains no
    compaction swap and ends with the directory closed, a store reopened with fresh templates, if
    the reopen succeeds (`hrun3`), finds `d` through every modality it carries, under every
    serialised schedule of the segment goroutines. -/
theorem durable_partial {cfg : Cfg} {s : Store} (hr : Reach cfg s) (hrun : running s = true)
    (hl : s.gh.loadLost = false) (d : Doc) (hd : d ∈ s.gh.sess)
    (m : Memtable) (hm : m ∈ butLast s.mts)
    (xs : List XStep) (hx : ∀ x ∈ xs, noSwap x = true)
    (hclosed : (xrun (exec s .flush).1 xs).opened = false)
    (q : Q) (hq : Doc.matches cfg.tpl d q = true) (sched : List SegEv)
    (hrun3 : running (exec (xrun (exec s .flush).1 xs) .reopen).1 = true)
    (hs : SerialFor (exec (xrun (exec s .flush).1 xs) .reopen).1 sched) :
    found (exec (xrun (exec s .flush).1 xs) .reopen).1 q sched d :=
  found_after_reopen (reach_step hr .flush) (kInv_after_flush hr hrun hl hd hm) xs hx hq hclosed hrun3 hs

/-- PARTIAL (flush worker; Close's final flush is this worker's last round). The same for the
    worker's step "flushMemtable(m)" — whatever memtable it is about to write. -/
theorem durable_partial_worker {cfg : Cfg} {s : Store} (hr : Reach cfg s)
    (hl : s.gh.loadLost = false) (d : Doc) (hd : d ∈ s.gh.sess)
    (f : Bool) (m : Memtable) (rest : List Memtable) (hfw : s.fw = .todo f (m :: rest))
    (xs : List XStep) (hx : ∀ x ∈ xs, noSwap x = true)
    (hclosed : (xrun (exec s (.bg .fwrite)).1 xs).opened = false)
    (q : Q) (hq : Doc.matches cfg.tpl d q = true) (sched : List SegEv)
    (hrun3 : running (exec (xrun (exec s (.bg .fwrite)).1 xs) .reopen).1 = true)
    (hs : SerialFor (exec (xrun (exec s (.bg .fwrite)).1 xs) .reopen).1 sched) :
    found (exec (xrun (exec s (.bg .fwrite)).1 xs) .reopen).1 q sched d :=
  found_after_reopen (reach_step hr _) (kInv_after_fwrite hr hl hd hfw) xs hx hq hclosed hrun3 hs

/-- PARTIAL, every search. Under the hypotheses of `durable_partial` for the Flush, let `s2` be ANY
    later state — of the same store instance or of any later one, after any continuation without a
    compaction swap — in which the store is open, no segment load has lost live content so far
    (`loadLost = false`) and `d` was not removed: EVERY serialised search of `s2` finds `d`. -/
theorem durable_every_search_partial {cfg : Cfg} {s : Store} (hr : Reach cfg s) (hrun : running s = true)
    (hl : s.gh.loadLost = false) (d : Doc) (hd : d ∈ s.gh.sess)
    (m : Memtable) (hm : m ∈ butLast s.mts)
    (xs : List XStep) (hx : ∀ x ∈ xs, noSwap x = true)
    (hrun2 : running (xrun (exec s .flush).1 xs) = true)
    (hl2 : (xrun (exec s .flush).1 xs).gh.loadLost = false)
    (hrem : d.id ∉ (xrun (exec s .flush).1 xs).gh.removed)
    (q : Q) (hq : Doc.matches cfg.tpl d q = true) (sched : List SegEv)
    (hs : SerialFor (xrun (exec s .flush).1 xs) sched) :
    found (xrun (exec s .flush).1 xs) q sched d :=
  found_every_search (reach_step hr .flush) (kInv_after_flush hr hrun hl hd hm) xs hx hq hrun2 hl2 hrem hs

/-- PARTIAL, every search, for the flush worker's write (and hence Close's final flush). -/
theorem durable_every_search_partial_worker {cfg : Cfg} {s : Store} (hr : Reach cfg s)
    (hl : s.gh.loadLost = false) (d : Doc) (hd : d ∈ s.gh.sess)
    (f : Bool) (m : Memtable) (rest : List Memtable) (hfw : s.fw = .todo f (m :: rest))
    (xs : List XStep) (hx : ∀ x ∈ xs, noSwap x = true)
    (hrun2 : running (xrun (exec s (.bg .fwrite)).1 xs) = true)
    (hl2 : (xrun (exec s (.bg .fwrite)).1 xs).gh.loadLost = false)
    (hrem : d.id ∉ (xrun (exec s (.bg .fwrite)).1 xs).gh.removed)
    (q : Q) (hq : Doc.matches cfg.tpl d q = true) (sched : List SegEv)
    (hs : SerialFor (xrun (exec s (.bg .fwrite)).1 xs) sched) :
    found (xrun (exec s (.bg .fwrite)).1 xs) q sched d :=
  found_every_search (reach_step hr _) (kInv_after_fwrite hr hl hd hfw) xs hx hq hrun2 hl2 hrem hs

/-! ## non-vacuity -/

/-- the hypotheses of `durable_partial` are satisfiable: memtable limit 1, `add a; add b` (the
    initial empty memtable and a's are frozen, b's is mutable), no load so far; continuation = Close
    (its final flush finds nothing frozen: the `fwrite` / `fremove` of `closeFlushing 1` are not
    enabled), a whole further session with an add, a Flush and a crash in the middle of that Flush -/
example :
    let s := run (Store.init cfgTiny) [.add docA, .add docB]
    let xs : List XStep := (closeFlushing 1).map XStep.step ++
      [.step .reopen, .step (.add docC), .crash .flush 5 (fun _ => .data)]
    running s = true ∧ s.gh.loadLost = false ∧ docA ∈ s.gh.sess ∧ (butLast s.mts).length = 2 ∧
    (∀ x ∈ xs, noSwap x = true) ∧ (xrun (exec s .flush).1 xs).opened = false ∧
    running (exec (xrun (exec s .flush).1 xs) .reopen).1 = true ∧
    (exec (xrun (exec s .flush).1 xs) .reopen).1.segs.map (·.id) = [1, 2, 3] ∧
    (exec (exec (xrun (exec s .flush).1 xs) .reopen).1 (.search .vec (serialSched [3, 2, 1]))).2 = .ids [1, 2] := by
  decide +kernel

/-- … and those of `durable_every_search_partial`: the same Flush, then Close, a second session
    with two searches, an add and an eviction in between, `loadLost` still false -/
example :
    let s := run (Store.init cfgTiny) [.add docA, .add docB]
    let tail : List Step := [.reopen, .search .vec (serialSched [1, 2]), .evict,
      .search .txt (serialSched [2, 1]), .add docC]
    let xs : List XStep := ((closeFlushing 1) ++ tail).map XStep.step
    let s2 := xrun (exec s .flush).1 xs
    (∀ x ∈ xs, noSwap x = true) ∧ running s2 = true ∧ s2.gh.loadLost = false ∧ docA.id ∉ s2.gh.removed ∧
    (exec s2 (.search .md (serialSched [1, 2]))).2 = .ids [1, 2, 3] := by
  decide +kernel

/-! ## instances: identifiers across a crash; a restart that loses nothing -/

/-- three sessions with a crash in the middle of the second one's flush: session 1 hands out id 1;
    session 2's Flush takes id 2, creates hybrid_2 and vector_2 and the process dies (the crashed
    step is not completed, so the ghost list `allocated` does not record it; its orphans are in the
    directory); session 3 re-initialises the counter from the orphans and hands out 3 -/
example :
    let s := xrun (Store.init cfgTiny)
      ([.step (.add docA), .step .flush] ++ (closeFlushing 1).map XStep.step ++
       [.step .reopen, .step (.add docB), .crash .flush 2 (fun _ => .data),
        .step .reopen, .step (.add docC), .step .flush])
    s.gh.allocated = [3, 1] ∧ (2 ∈ s.gh.everNamed) ∧ s.gh.reused = false ∧ s.gh.overwrote = false ∧
      FS.segIds s.fs = [1, 1, 1, 1, 2, 2, 3, 3, 3, 3] := by decide +kernel

/-- a positive durability instance: memtable limit 1, three adds (the first two end up frozen),
    Flush, Close, reopen: the two frozen documents are found by all three probes -/
example :
    let s := run (Store.init cfgTiny) ([.add docA, .add docB, .add docC, .flush] ++ closeFlushing 1 ++ [.reopen])
    (exec s (.search .vec (serialSched [1, 2, 3, 4]))).2 = .ids [1, 2, 3] ∧
    (exec s (.search .txt (serialSched [4, 3, 2, 1]))).2 = .ids [1, 2, 3] ∧
    (exec s (.search .md (serialSched [2, 1, 4, 3]))).2 = .ids [1, 2, 3] := by decide +kernel

end Comet.Storage
