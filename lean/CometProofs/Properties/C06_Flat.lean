/-
  C06's visibility abstraction is not only validated by the correspondence run: for the
  flat index it is a THEOREM.  The detailed model of flat_index.go (Comet/Vector/Flat.lean,
  the one C01 is proved about) refines the visibility model `Hybrid.VecIdx` that C06's
  theorems use: every Add / Remove / Flush step commutes with the abstraction
  `absFlat` (what is stored under each id, which ids are tombstoned), with the same outcome.
-/
import Comet.Hybrid
import Comet.Vector.Flat
import CometProofs.Flat
namespace Comet.Hybrid

variable {V S : Type}

def absFlat (s : Flat.State V) : VecIdx V :=
  ⟨fun j => (s.vecs.filter (fun p => p.1 == j)).map (·.2), fun j => s.deleted.contains j⟩

/-- validation + preprocessing of `FlatIndex.Add`, as the `vpre` parameter of `VecIdx.add` -/
def flatVpre (m : Metric V S) (dim : Nat) (v : V) : Except Err V :=
  if m.dimOf v ≠ dim then .error .dim else
  match m.pre v with
  | none => .error .zero
  | some v' => .ok v'

/-- the visibility model's `visible` under an id: the entries of the detailed flat model
    stored under it and not tombstoned -/
theorem absFlat_visible (s : Flat.State V) (j : Id) :
    (absFlat s).visible j =
      ((s.vecs.filter (fun p => p.1 ∉ s.deleted)).filter (fun p => p.1 == j)).map (·.2) := by
  -- among the entries stored under `j`, "not tombstoned" does not depend on the entry
  have h : ∀ p : Id × V,
      (p.1 == j && decide (p.1 ∉ s.deleted)) = (p.1 == j && decide (j ∉ s.deleted)) := fun p => by
    by_cases hp : p.1 = j
    · rw [hp]
    · rw [beq_false_of_ne hp]; rfl
  rw [List.filter_filter, List.filter_congr fun p _ => h p, VecIdx.visible, absFlat]
  by_cases hj : j ∈ s.deleted <;> simp [hj]

theorem VecIdx.visible_perm {x y : VecIdx V} {j : Id} (hp : (x.entries j).Perm (y.entries j))
    (hd : x.deleted j = y.deleted j) : (x.visible j).Perm (y.visible j) := by
  unfold VecIdx.visible
  rw [hd]
  split
  · exact .refl _
  · exact hp

theorem absFlat_flushed (s : Flat.State V) : absFlat (Flat.flushed s) = (absFlat s).purge := by
  rw [VecIdx.purge, absFlat, VecIdx.mk.injEq]
  exact ⟨funext fun j => (absFlat_visible s j).symm, rfl⟩

theorem absFlat_append (s : Flat.State V) (id : Id) (v' : V) :
    absFlat { s with vecs := s.vecs ++ [(id, v')] } =
      ⟨fun j => if j = id then (absFlat s).entries j ++ [v'] else (absFlat s).entries j,
       (absFlat s).deleted⟩ := by
  unfold absFlat
  congr 1
  funext j
  by_cases hj : j = id
  · subst hj; simp [List.filter_append]
  · simp [List.filter_append, hj, Ne.symm hj]

/-- Add commutes with the abstraction, with the same outcome -/
theorem absFlat_add (m : Metric V S) (s : Flat.State V) (id : Id) (v : V) :
    absFlat (Flat.step m s (.add id v)).1 = ((absFlat s).add (flatVpre m s.dim) id v).1 ∧
    (Flat.step m s (.add id v)).2 = ((absFlat s).add (flatVpre m s.dim) id v).2 := by
  by_cases hd : m.dimOf v = s.dim
  · cases hp : m.pre v with
    | none =>
      rw [Flat.step_add_zero m s id v hd hp]
      simp only [VecIdx.add, flatVpre, hd, hp, ne_eq, not_true_eq_false, if_false, and_self]
    | some v' =>
      have hc : (absFlat s).deleted id = decide (id ∈ s.deleted) := List.contains_eq_mem ..
      by_cases hdel : id ∈ s.deleted
      · rw [Flat.step_add_purge m s id v hd hp hdel,
          Flat.step_add_ok m (Flat.flushed s) id v hd hp List.not_mem_nil, absFlat_append,
          absFlat_flushed]
        simp only [VecIdx.add, flatVpre, hd, hp, hc, hdel, ne_eq, not_true_eq_false, if_false,
          decide_true, if_true, and_self]
      · rw [Flat.step_add_ok m s id v hd hp hdel, absFlat_append]
        simp only [VecIdx.add, flatVpre, hd, hp, hc, hdel, ne_eq, not_true_eq_false, if_false,
          decide_false, Bool.false_eq_true, and_self]
  · rw [Flat.step_add_dim m s id v hd]
    simp only [VecIdx.add, flatVpre, hd, ne_eq, not_false_eq_true, if_true, and_self]

/-- Remove commutes with the abstraction -/
theorem absFlat_remove (m : Metric V S) (s : Flat.State V) (id : Id) :
    absFlat (Flat.step m s (.remove id)).1 = ((absFlat s).remove id).1 ∧
    (Flat.step m s (.remove id)).2 = ((absFlat s).remove id).2 := by
  have hany : ((absFlat s).entries id).isEmpty = !s.vecs.any (·.1 == id) := by
    rw [Bool.eq_iff_iff]
    simp [absFlat, List.filter_eq_nil_iff]
  have hc : (absFlat s).deleted id = decide (id ∈ s.deleted) := List.contains_eq_mem ..
  cases h : s.vecs.any (·.1 == id) with
  | false =>
    rw [Flat.step_remove_unknown m s id h]
    simp only [VecIdx.remove, hany, h, Bool.not_false, if_true, and_self]
  | true =>
    by_cases hdel : id ∈ s.deleted
    · rw [Flat.step_remove_deleted m s id h hdel]
      simp only [VecIdx.remove, hany, h, hc, hdel, Bool.not_true, Bool.false_eq_true, if_false,
        decide_true, if_true, and_self]
    · rw [Flat.step_remove_ok m s id h hdel]
      simp only [VecIdx.remove, hany, h, hc, hdel, Bool.not_true, Bool.false_eq_true, if_false,
        decide_false, and_true]
      unfold absFlat
      congr 1
      funext j
      by_cases hj : j = id
      · subst hj; simp
      · simp [hj]

/-- Flush commutes with the abstraction -/
theorem absFlat_flush (m : Metric V S) (s : Flat.State V) :
    absFlat (Flat.step m s .flush).1 = (absFlat s).flush := by
  rw [Flat.step_flush]
  exact absFlat_flushed s

def vecStep (vpre : V → Except Err V) (x : VecIdx V) : Flat.Op V → VecIdx V
  | .add id v => (x.add vpre id v).1
  | .remove id => (x.remove id).1
  | .flush => x.flush

theorem absFlat_step (m : Metric V S) (s : Flat.State V) (op : Flat.Op V) :
    absFlat (Flat.step m s op).1 = vecStep (flatVpre m s.dim) (absFlat s) op := by
  cases op with
  | add id v => exact (absFlat_add m s id v).1
  | remove id => exact (absFlat_remove m s id).1
  | flush => exact absFlat_flush m s

/-- **refinement, every history**: the abstraction of the flat model after any history is the
    visibility model run on the same history -/
theorem absFlat_run (m : Metric V S) (s : Flat.State V) (ops : List (Flat.Op V)) :
    absFlat (Flat.run m s ops) = ops.foldl (vecStep (flatVpre m s.dim)) (absFlat s) := by
  induction ops generalizing s with
  | nil => rfl
  | cons op t ih =>
    simp only [Flat.run, List.foldl_cons] at ih ⊢
    rw [ih, Flat.step_dim, absFlat_step]

end Comet.Hybrid
