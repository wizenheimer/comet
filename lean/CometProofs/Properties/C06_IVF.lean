/-
  C06's vector-side visibility abstraction for the IVF index, as a corollary of two
  theorems proved elsewhere: C13's `ivf_refines_flat` (after any history the trained IVF
  model holds, over all its lists, exactly the flat model's entries, with the same
  soft-delete set) and `absFlat_*` (the flat model refines `Hybrid.VecIdx`).  Hence after
  every history the IVF model's visible content under each id is — up to the order of
  several entries under one id, which live in different lists — the visible content of
  the visibility model's state reached through the flat index on the same history.
-/
import CometProofs.Properties.C06_Flat
import CometProofs.Properties.C13
namespace Comet.Hybrid

variable {V S : Type}

def absIVF (s : IVF.State V) : VecIdx V :=
  ⟨fun j => (s.lists.flatten.filter (fun p => p.1 == j)).map (·.2), fun j => s.deleted.contains j⟩

/-- after `Train` and any Add / Remove / Flush history, the IVF model and the flat model
    present the same tombstones and, under every id, the same stored vectors (as a multiset) -/
theorem absIVF_eq_absFlat (m : Metric V S) (inf : S) (dim nlist n : Nat) (cs : List V)
    (hpos : 0 < nlist) (hn : nlist ≤ n) (hcs : cs.length = nlist) (ops : List (Flat.Op V)) (j : Id) :
    ((absIVF (IVF.trainedRun m inf dim nlist n cs ops)).entries j).Perm
      ((absFlat (Flat.run m (Flat.init dim) ops)).entries j) ∧
    (absIVF (IVF.trainedRun m inf dim nlist n cs ops)).deleted j =
      (absFlat (Flat.run m (Flat.init dim) ops)).deleted j := by
  obtain ⟨hp, hd, _⟩ := IVF.ivf_refines_flat m inf dim nlist n cs hpos hn hcs ops
  constructor
  · exact (hp.filter _).map _
  · simp only [absIVF, absFlat, hd]

/-- **IVF refines the visibility model, every history**: what the trained IVF model shows
    under each id is what `Hybrid.VecIdx`, run on the same Add / Remove / Flush history,
    shows (as a multiset) -/
theorem absIVF_refines_vecIdx (m : Metric V S) (inf : S) (dim nlist n : Nat) (cs : List V)
    (hpos : 0 < nlist) (hn : nlist ≤ n) (hcs : cs.length = nlist) (ops : List (Flat.Op V)) (j : Id) :
    ((absIVF (IVF.trainedRun m inf dim nlist n cs ops)).visible j).Perm
      ((ops.foldl (vecStep (flatVpre m dim)) VecIdx.empty).visible j) := by
  obtain ⟨hp, hd⟩ := absIVF_eq_absFlat m inf dim nlist n cs hpos hn hcs ops j
  have h := VecIdx.visible_perm hp hd
  rw [absFlat_run] at h
  exact h

end Comet.Hybrid
