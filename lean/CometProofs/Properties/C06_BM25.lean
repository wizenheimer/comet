/-
  C06's text-side visibility abstraction `Hybrid.TxtIdx` is a THEOREM about the detailed
  model of bm25_index.go (Comet/BM25.lean, the one C03 is proved about): every Add /
  Remove / Flush step of the BM25 model commutes with the abstraction `absBM25` (the token
  list stored under each id, which ids are tombstoned).  Together with C03's
  `bm25_match_set` this says what C06's "findable by text" means on the real index: an id
  is returned by an unrestricted text search exactly when it is visible in the
  abstraction and shares a token with the query.
-/
import Comet.Hybrid
import Comet.BM25
import CometProofs.BM25
import CometProofs.Properties.C03
namespace Comet.Hybrid
open Comet.BM25

variable {Tok : Type} [DecidableEq Tok]

def absBM25 (s : BM25.State Tok) : TxtIdx (List Tok) :=
  ⟨fun j => aget s.docTokens j, fun j => decide (j ∈ s.deleted)⟩

omit [DecidableEq Tok] in
theorem absBM25_init : absBM25 (BM25.init : BM25.State Tok) = TxtIdx.empty := rfl

/-- Add (fresh id or replacement) commutes with the abstraction -/
theorem absBM25_add (s : BM25.State Tok) (id : Id) (toks : List Tok) :
    absBM25 (BM25.add s id toks) = (absBM25 s).add id toks := by
  unfold absBM25 TxtIdx.add
  simp only [TxtIdx.mk.injEq]
  constructor
  · funext j
    rw [add_docTokens, aget_aerase_append]
  · funext j
    rw [add_deleted]
    by_cases hj : j = id <;> simp [mem_bmRemove, hj]

omit [DecidableEq Tok] in
theorem absBM25_remove (s : BM25.State Tok) (id : Id) :
    absBM25 (BM25.remove s id) = (absBM25 s).remove id := by
  unfold BM25.remove TxtIdx.remove
  have e1 : ((absBM25 s).docs id).isNone = (aget s.docTokens id).isNone := rfl
  have e2 : (absBM25 s).deleted id = decide (id ∈ s.deleted) := rfl
  rw [e1, e2]
  by_cases h1 : (aget s.docTokens id).isNone = true
  · rw [if_pos h1, if_pos h1]
  · rw [if_neg h1, if_neg h1]
    by_cases h2 : id ∈ s.deleted
    · rw [if_pos h2, if_pos (by simpa using h2)]
    · rw [if_neg h2, if_neg (by simpa using h2)]
      unfold absBM25
      simp only [TxtIdx.mk.injEq, true_and]
      funext j
      by_cases hj : j = id <;> simp [hj]

theorem absBM25_flush (s : BM25.State Tok) :
    absBM25 (BM25.flush s) = (absBM25 s).flush := by
  unfold absBM25 TxtIdx.flush
  simp only [TxtIdx.mk.injEq]
  constructor
  · funext j
    rw [flush_docTokens, aget_filter_key s.docTokens (fun d => decide (d ∉ s.deleted)) j]
    by_cases hj : j ∈ s.deleted <;> simp [hj]
  · funext j
    rw [flush_deleted]; simp

def txtStep (x : TxtIdx (List Tok)) : BM25.Op Tok → TxtIdx (List Tok)
  | .add id toks => x.add id toks
  | .remove id => x.remove id
  | .flush => x.flush

theorem absBM25_step (s : BM25.State Tok) (op : BM25.Op Tok) :
    absBM25 (BM25.step s op) = txtStep (absBM25 s) op := by
  cases op with
  | add id toks => exact absBM25_add s id toks
  | remove id => exact absBM25_remove s id
  | flush => exact absBM25_flush s

/-- the abstraction of any reachable BM25 state is the visibility model run on the same ops -/
theorem absBM25_run (s : BM25.State Tok) (ops : List (BM25.Op Tok)) :
    absBM25 (BM25.run s ops) = ops.foldl txtStep (absBM25 s) :=
  (List.foldl_hom absBM25 fun s op => (absBM25_step s op).symm).symm

/-- what the abstraction calls visible is exactly what C03's specification calls live -/
theorem absBM25_visible (h : List (BM25.Op Tok)) (d : Id) (toks : List Tok) :
    (absBM25 (BM25.run BM25.init h)).visible d = some toks ↔
      (d, toks) ∈ (BM25.spec h).corpus ∧ d ∉ (BM25.spec h).tomb := by
  have i := inv_run h
  unfold TxtIdx.visible absBM25
  simp only [i.corpus, i.tomb]
  by_cases hd : d ∈ (BM25.spec h).tomb
  · simp [hd]
  · simp only [hd, decide_false, Bool.false_eq_true, if_false, not_false_eq_true, and_true]
    exact aget_iff_mem (i.corpus ▸ i.keys) d toks

/-- **text findability = visibility + a shared token**: on every reachable state of the BM25
    model, an unrestricted (k = 0, no id restriction) search returns `d` iff `d` is visible
    in C06's abstraction with a token list sharing a token with the query. -/
theorem txt_findable_iff_visible {R S : Type} (sc : Scoring R S) (leS : S → S → Bool)
    (ord : sc.Ordered leS) (h : List (BM25.Op Tok)) (q : List Tok) (d : Id) :
    d ∈ (searchSingle sc (BM25.run BM25.init h) q 0 []).map (·.id) ↔
      ∃ toks, (absBM25 (BM25.run BM25.init h)).visible d = some toks ∧ shares q toks = true := by
  rw [(bm25_match_set sc leS ord h q 0 (Int.le_refl 0) []).2 d]
  constructor
  · rintro ⟨toks, hc, ht, _, hs⟩
    exact ⟨toks, (absBM25_visible h d toks).2 ⟨hc, ht⟩, shares_iff.2 hs⟩
  · rintro ⟨toks, hv, hs⟩
    obtain ⟨hc, ht⟩ := (absBM25_visible h d toks).1 hv
    exact ⟨toks, hc, ht, rfl, shares_iff.1 hs⟩

/-- the abstraction on a concrete history: replace, remove, flush, re-add -/
example :
    let h : List (BM25.Op Nat) := [.add 1 [7, 8], .add 2 [8], .add 1 [9], .remove 2, .flush, .add 2 [5]]
    (absBM25 (BM25.run BM25.init h)).visible 1 = some [9] ∧
    (absBM25 (BM25.run BM25.init h)).visible 2 = some [5] ∧
    (absBM25 (BM25.run BM25.init h)).visible 3 = none := by decide

end Comet.Hybrid
