/-
  C14 — PQ and IVFPQ rank by the exact asymmetric distance to the quantised form.

  Helper lemmas are in CometProofs/{PQ,IVFPQ,ADC,ADCReal}.lean.  Models:
  Comet/Vector/{PQ,IVFPQ}.lean.

  * `encodeRaw o lt inf dsub cbs v` is the list of per-subspace arg-min indexes of `v`
    against the codebooks `cbs` ([subspace][codeword][component]); `encode` is what the
    index stores: the same list through `uint8(·)` (`trunc8`).
  * `tables o dsub cbs q` are the per-subspace tables of squared distances of `q`;
    `adcSum o tabs code = some s` says `s = Σ_m tabs[m][code[m]]` (no lookup out of
    range); the reported score of an entry is `A.sqrt s` (`PQ.adcScore`, `PQ.scan`).
  * `recon cbs code` is the reconstruction (chosen codewords, concatenated);
    `sqDist o a c = Σ (aᵢ − cᵢ)²` summed left to right.
  * `PQ.lift m A trunc8 dsub cbs` / `IVFPQ.lift … cents cbs` is the metric of the *stored
    form* `⟨preprocessed vector, assigned list, code⟩`: `pre` = preprocess (then assign to
    the nearest centroid and take the residual) and encode; `dist` = the ADC score.
    `Flat.live (lift …) dim history` is the specification of C01 over that metric: the
    stored forms of the vectors added successfully and not removed since.
  * `Flat.cands … live q' thr F` / `IVFPQ.cands … live probed q' thr F`: live entries (of
    the probed lists), eligible under the id restriction `F` (`[]` = none), within the
    threshold when it is positive, scored by the ADC score.
  * `IsTopK le k cands res`: `res` is sorted, is the best `sanitizeK k |cands|` part of
    `cands` as a multiset (any tie-break), nothing outside is better.
  * Threshold, id restriction and `k` act on the candidates exactly as in C01: the theorems
    `flat_filter_threshold_only_remove`, `flat_threshold_nonpos_no_effect`,
    `flat_k_nonpos_returns_all`, `flat_answers_same_scores` of Properties/C01.lean are
    generic in the metric and apply verbatim to the lifted metric.
  * Quantifier: EVERY Add / Remove / Flush history after ONE successful `Train` (re-adding a
    removed id included: `Add` purges the tombstones first, as in C01); the trained
    codebooks / centroids are arbitrary well-formed inputs (`cbWF`, `centsWF`: the shapes
    `Train` allocates).
-/
import CometProofs.IVFPQ
import CometProofs.ADCReal
namespace Comet.PQ

variable {S : Type}

/-! ## 1. each stored vector is represented by the nearest codeword of every subspace -/

/-- Before the `uint8` conversion, the code entry of subspace `mi` is the LEAST index
    minimising the squared distance between the sub-vector and the codewords of that subspace
    (for any total preorder on scores; `hfin`: some codeword is at a distance below the `+Inf`
    the loop starts from). -/
theorem pq_encode_argmin {sc : Scalar S} (ord : sc.Ordered) (o : Ops S) (inf : S) (dsub : Nat)
    (cbs : List (List (List S))) (v : List S) (mi : Nat) (hm : mi < cbs.length)
    (hfin : ∃ w ∈ cbs[mi], sc.lt (sqDist o (subvec dsub mi v) w) inf = true) :
    ∃ hlen : mi < (encodeRaw o sc.lt inf dsub cbs v).length,
    ∃ hc : (encodeRaw o sc.lt inf dsub cbs v)[mi] < cbs[mi].length,
      (∀ k (hk : k < cbs[mi].length),
        sc.lt (sqDist o (subvec dsub mi v) cbs[mi][k])
          (sqDist o (subvec dsub mi v) (cbs[mi][(encodeRaw o sc.lt inf dsub cbs v)[mi]])) = false) ∧
      (∀ k (hk : k < (encodeRaw o sc.lt inf dsub cbs v)[mi]),
        sc.lt (sqDist o (subvec dsub mi v) (cbs[mi][(encodeRaw o sc.lt inf dsub cbs v)[mi]]))
          (sqDist o (subvec dsub mi v) (cbs[mi]'hm)[k]) = true) := by
  have h := argmin_spec ord inf (sqDist o (subvec dsub mi v)) cbs[mi] hfin
  rw [← encodeRaw_getElem o sc.lt inf dsub cbs v mi hm] at h
  exact ⟨_, h⟩

/-- For every code size the constructors accept (`newOk`: `Nbits` in
    1..8) and codebooks of the trained shape, the stored code IS the arg-min index list —
    the `uint8` conversion loses nothing. -/
theorem code_fits (dim M nbits : Int) (hok : newOk dim M nbits = true) (o : Ops S)
    (lt : S → S → Bool) (inf : S) (dsub : Nat) (cbs : List (List (List S)))
    (hwf : cbWF M.toNat (2 ^ nbits.toNat) dsub cbs = true) (v : List S) :
    encode o lt inf dsub cbs v = encodeRaw o lt inf dsub cbs v := by
  rw [encode, map_trunc8_encodeRaw hwf (Nat.two_pow_pos _) (newOk_ksub_le hok), List.map_id]

/-- The same for the IVFPQ constructor (it has the same `Nbits` check). -/
theorem ivfpq_code_fits (dim nlist M nbits : Int) (hok : IVFPQ.newOk dim nlist M nbits = true)
    (o : Ops S) (lt : S → S → Bool) (inf : S) (dsub : Nat) (cbs : List (List (List S)))
    (hwf : cbWF M.toNat (2 ^ nbits.toNat) dsub cbs = true) (v : List S) :
    encode o lt inf dsub cbs v = encodeRaw o lt inf dsub cbs v :=
  code_fits dim M nbits (IVFPQ.newOk_pq hok).2 o lt inf dsub cbs hwf v

/-! ## 2. the reported score is the distance between the query and the reconstruction -/

/-- Over any commutative ring: with `dim = M·dsub` and codebooks of the
    trained shape, the table sum of a code is `‖q − recon code‖²` — about the model's own
    `tables` / `adcSum` / `recon` / `sqDist` instantiated at the ring. -/
theorem adc_identity (R : Type) [CommRing R] (M ksub dsub : Nat) (cbs : List (List (List R)))
    (hwf : cbWF M ksub dsub cbs = true) (q : List R) (hq : q.length = M * dsub)
    (code : List Nat) (s : R)
    (h : adcSum (Ops.ofRing R) (tables (Ops.ofRing R) dsub cbs q) code = some s) :
    ∃ r, recon cbs code = some r ∧ s = sqDist (Ops.ofRing R) q r :=
  adcSum_eq_sqDist_recon (Ops.ofRing_laws R) M ksub dsub cbs hwf q hq code s h

/-- … and the table sum of a stored code is always defined (no lookup out of range), so
    the score of a PQ entry with code `encode … v` is `√‖q' − recon (encode … v)‖²`. -/
theorem pq_score_is_recon_distance (M ksub dsub : Nat) (hk : 0 < ksub)
    (cbs : List (List (List ℝ))) (hwf : cbWF M ksub dsub cbs = true)
    (lt : ℝ → ℝ → Bool) (inf : ℝ) (q' v : List ℝ) (hq : q'.length = M * dsub) :
    ∃ s r, adcSum (Ops.ofRing ℝ) (tables (Ops.ofRing ℝ) dsub cbs q')
        (encode (Ops.ofRing ℝ) lt inf dsub cbs v) = some s ∧
      recon cbs (encode (Ops.ofRing ℝ) lt inf dsub cbs v) = some r ∧
      Real.sqrt s = Real.sqrt (sqDist (Ops.ofRing ℝ) q' r) := by
  obtain ⟨s, hs⟩ := adcSum_encoded_isSome (Ops.ofRing ℝ) lt inf dsub cbs
    (cbWF_ne_nil hwf hk) trunc8 trunc8_le q' v
  obtain ⟨r, hr, he⟩ := adc_identity ℝ M ksub dsub cbs hwf q' hq _ s hs
  exact ⟨s, r, hs, hr, by rw [he]⟩

/-- Over ℝ the reported score `√s` differs from the true Euclidean
    distance `‖q − x‖` by at most the quantisation error `‖x − x̂‖` of the vector, whatever
    code it carries. -/
theorem adc_error_bound (M ksub dsub : Nat) (cbs : List (List (List ℝ)))
    (hwf : cbWF M ksub dsub cbs = true) (q x : List ℝ) (hq : q.length = M * dsub)
    (hx : x.length = M * dsub) (code : List Nat) (s : ℝ)
    (h : adcSum (Ops.ofRing ℝ) (tables (Ops.ofRing ℝ) dsub cbs q) code = some s) :
    ∃ xhat, recon cbs code = some xhat ∧
      |Real.sqrt s - Real.sqrt (sqDist (Ops.ofRing ℝ) q x)| ≤
        Real.sqrt (sqDist (Ops.ofRing ℝ) x xhat) := by
  obtain ⟨r, hr, he⟩ := adc_identity ℝ M ksub dsub cbs hwf q hq code s h
  refine ⟨r, hr, ?_⟩
  obtain ⟨hlen, hall⟩ := (cbWF_iff M ksub dsub cbs).1 hwf
  have hrl : r.length = M * dsub := by
    rw [recon_length dsub cbs (fun cb h => (hall cb h).2) code r hr, hlen]
  rw [he, sqrt_sqDist_eq_dist q r _ hq hrl, sqrt_sqDist_eq_dist q x _ hq hx,
    sqrt_sqDist_eq_dist x r _ hx hrl, dist_comm (toE _ q) (toE _ r),
    dist_comm (toE _ q) (toE _ x), dist_comm (toE _ x) (toE _ r)]
  exact abs_dist_sub_le _ _ _

/-- Over ℝ a vector that coincides with its own reconstruction is
    reported at its true distance. -/
theorem adc_exact_when_fixed (M ksub dsub : Nat) (cbs : List (List (List ℝ)))
    (hwf : cbWF M ksub dsub cbs = true) (q x : List ℝ) (hq : q.length = M * dsub)
    (code : List Nat) (s : ℝ)
    (h : adcSum (Ops.ofRing ℝ) (tables (Ops.ofRing ℝ) dsub cbs q) code = some s)
    (hfix : recon cbs code = some x) :
    Real.sqrt s = Real.sqrt (sqDist (Ops.ofRing ℝ) q x) := by
  obtain ⟨r, hr, he⟩ := adc_identity ℝ M ksub dsub cbs hwf q hq code s h
  rw [hfix] at hr
  injection hr with hr
  rw [he, hr]

/-- IVFPQ: the same bound in residual form.  `q' − c` and `x' − c` are the residuals of the
    preprocessed query and vector to the centroid `c` of the (assigned = probed) list; the
    score `√s` differs from the TRUE distance `‖q' − x'‖` by at most the quantisation error
    of the residual. -/
theorem ivfpq_error_bound (M ksub dsub : Nat) (cbs : List (List (List ℝ)))
    (hwf : cbWF M ksub dsub cbs = true) (q' x' c : List ℝ) (hq : q'.length = M * dsub)
    (hx : x'.length = M * dsub) (hc : c.length = M * dsub) (code : List Nat) (s : ℝ)
    (h : adcSum (Ops.ofRing ℝ)
      (tables (Ops.ofRing ℝ) dsub cbs (vsub (Ops.ofRing ℝ) q' c)) code = some s) :
    ∃ rhat, recon cbs code = some rhat ∧
      |Real.sqrt s - Real.sqrt (sqDist (Ops.ofRing ℝ) q' x')| ≤
        Real.sqrt (sqDist (Ops.ofRing ℝ) (vsub (Ops.ofRing ℝ) x' c) rhat) := by
  have hql : (vsub (Ops.ofRing ℝ) q' c).length = M * dsub := by simp [vsub, hq, hc]
  have hxl : (vsub (Ops.ofRing ℝ) x' c).length = M * dsub := by simp [vsub, hx, hc]
  obtain ⟨r, hr, hb⟩ := adc_error_bound M ksub dsub cbs hwf _ _ hql hxl code s h
  refine ⟨r, hr, ?_⟩
  rw [sqDist_vsub_vsub q' x' c (by rw [hq, hc]) (by rw [hx, hc])] at hb
  exact hb

/-! ## 3. the result is the exact top-k by that score over the live vectors -/

/-- After a successful `Train` (any well-formed codebooks) and ANY
    Add / Remove / Flush history, every search with a query of the
    right dimension that preprocesses returns — without panicking — an exact top-k of the
    live, eligible, within-threshold entries scored by the ADC score. -/
theorem pq_topk (m : Metric (List S) S) (A : Arith S) (ord : m.sc.Ordered)
    (dim M nbits n : Nat) (cbs : List (List (List S))) (s0 : State S)
    (htrain : train (init dim M nbits) n true cbs = (s0, .ok))
    (hwf : cbWF M (2 ^ nbits) (dim / M) cbs = true)
    (ops : List (Flat.Op (List S)))
    (q q' : List S) (hq : q.length = dim) (hpre : m.pre q = some q')
    (k : Int) (thr : S) (F : List Id) :
    ∃ res, searchSingle m A (run m A s0 ops) q k thr F = .ok res ∧
      IsTopK m.sc.le k
        (Flat.cands (lift m A trunc8 (dim / M) cbs)
          (Flat.live (lift m A trunc8 (dim / M) cbs) dim (ops.map liftOp)) (inject q') thr F)
        res := by
  have htr : s0.trained = true := train_ok_eq htrain ▸ rfl
  cases train_ok_eq htrain
  obtain ⟨hrun, hsame⟩ := run_toFlat m A _ ops htr
  have hmm : mm m A (run m A _ ops) = lift m A trunc8 (dim / M) cbs := hsame.mm_eq m A
  have := searchSingle_topk m A ord (run m A _ ops) (hsame.cbs ▸ cbWF_ne_nil hwf (Nat.two_pow_pos _))
    hsame.trained _ (hrun ▸ Flat.eff_run_init _ dim _) (hmm ▸ Flat.live_mem_pre _ _ _)
    q q' (hq.trans hsame.dim.symm) hpre k thr F
  rw [hmm] at this
  exact this

/-- The same, read with the property's own words —
    for every code size the constructor accepts, the live entries carry the plain arg-min
    indexes (`lift … id …`: no `uint8` conversion in the specification). -/
theorem pq_topk_nearest_codeword (m : Metric (List S) S) (A : Arith S) (ord : m.sc.Ordered)
    (dim M nbits n : Nat) (hok : newOk dim M nbits = true)
    (cbs : List (List (List S))) (s0 : State S)
    (htrain : train (init dim M nbits) n true cbs = (s0, .ok))
    (hwf : cbWF M (2 ^ nbits) (dim / M) cbs = true)
    (ops : List (Flat.Op (List S)))
    (q q' : List S) (hq : q.length = dim) (hpre : m.pre q = some q')
    (k : Int) (thr : S) (F : List Id) :
    ∃ res, searchSingle m A (run m A s0 ops) q k thr F = .ok res ∧
      IsTopK m.sc.le k
        (Flat.cands (lift m A id (dim / M) cbs)
          (Flat.live (lift m A id (dim / M) cbs) dim (ops.map liftOp)) (inject q') thr F)
        res := by
  rw [← lift_trunc8_eq m A hwf (Nat.two_pow_pos _) (newOk_ksub_le hok)]
  exact pq_topk m A ord dim M nbits n cbs s0 htrain hwf ops q q' hq hpre k thr F

/-- No operation of a PQ index panics (the model has no panicking branch outside the table
    lookups of the search, which `pq_topk` excludes) … -/
theorem pq_step_never_panics (m : Metric (List S) S) (A : Arith S) (s : State S)
    (op : Flat.Op (List S)) : (step m A s op).2 ≠ .panic := by
  cases op with
  | add id v => exact snd_ite_ne nofun (snd_ite_ne nofun (by cases m.pre v <;> nofun))
  | remove id => exact snd_ite_ne nofun (snd_ite_ne nofun nofun)
  | flush => nofun

/-- … and searches on an untrained index … -/
theorem pq_search_untrained (m : Metric (List S) S) (A : Arith S) (s : State S)
    (h : s.trained = false) (q : List S) (k : Int) (thr : S) (F : List Id) :
    searchSingle m A s q k thr F = .error (.err .untrained) := by
  simp [searchSingle, h]

/-- … or with a query of the wrong dimension are errors. -/
theorem pq_search_wrong_dim (m : Metric (List S) S) (A : Arith S) (s : State S)
    (h : s.trained = true) (q : List S) (hq : q.length ≠ s.dim) (k : Int) (thr : S) (F : List Id) :
    searchSingle m A s q k thr F = .error (.err .dim) := by
  simp [searchSingle, h, hq]

/-- What the live entries are: the stored form of a vector `x` added by the history —
    its preprocessed form `v'` and the code `encode … v'` (by `code_fits` and
    `pq_encode_argmin`: the nearest codeword of every subspace). -/
theorem pq_live_entries_encoded (m : Metric (List S) S) (A : Arith S) (dim dsub : Nat)
    (cbs : List (List (List S))) (ops : List (Flat.Op (List S))) :
    ∀ p ∈ Flat.live (lift m A trunc8 dsub cbs) dim (ops.map liftOp),
      ∃ x v', Flat.Op.add p.1 x ∈ ops ∧ m.pre x = some v' ∧
        p.2 = ⟨v', 0, encode (A.ops m.sc) m.sc.lt A.inf dsub cbs v'⟩ := by
  intro p hp
  obtain ⟨x, hx1, hx2⟩ := Flat.live_mem_add _ dim _ p hp
  obtain ⟨v, hop, rfl⟩ := mem_map_liftOp hx1
  obtain ⟨v', hv, he⟩ := lift_pre_some m A trunc8 dsub cbs _ p.2 hx2
  exact ⟨v, v', hop, hv, he⟩

/-- `PQIndex.Train` accepts every training set with at least `Ksub` vectors of the right
    dimension … -/
theorem pq_train_ok (s : State S) (n : Nat) (cbs : List (List (List S)))
    (hn : 2 ^ s.nbits ≤ n) :
    (train s n true cbs).2 = .ok ∧ (train s n true cbs).1.trained = true ∧
      (train s n true cbs).1.cbs = cbs := by
  have : ¬ n < s.ksub := Nat.not_lt.2 hn
  rw [train, if_neg this]
  exact ⟨rfl, rfl, rfl⟩

/-- … and rejects every smaller one, leaving the index untouched. -/
theorem pq_train_small_rejected (s : State S) (n : Nat) (dimsOK : Bool)
    (cbs : List (List (List S))) (hn : n < 2 ^ s.nbits) :
    train s n dimsOK cbs = (s, .err .other) := by
  have : n < s.ksub := hn
  rw [train, if_pos this]

end Comet.PQ

namespace Comet.IVFPQ
open Comet.PQ

variable {S : Type}

/-- After a successful `Train` (any well-formed centroids and codebooks) and ANY history,
    every search with a query of the right dimension that preprocesses returns — without
    panicking — an exact top-k of the live, eligible, within-threshold entries OF THE PROBED
    LISTS, scored by the residual ADC score; the probed lists are an exact top-`nprobes`
    choice of the lists by metric distance between the preprocessed query and the centroids
    (`nprobes ≤ 0` or `> nlist`: all lists). -/
theorem ivfpq_topk (m : Metric (List S) S) (A : Arith S) (ord : m.sc.Ordered)
    (dim M nbits nlist n : Nat) (hnl : 0 < nlist) (cents : List (List S))
    (cbs : List (List (List S))) (s0 : State S)
    (htrain : train (init dim M nbits nlist) n true cents cbs = (s0, .ok))
    (hcw : centsWF nlist dim cents = true)
    (hwf : cbWF M (2 ^ nbits) (dim / M) cbs = true)
    (ops : List (Flat.Op (List S)))
    (q q' : List S) (hq : q.length = dim) (hpre : m.pre q = some q')
    (k nprobes : Int) (thr : S) (F : List Id) :
    ∃ probed res, searchSingle m A (run m A s0 ops) q k nprobes thr F = .ok res ∧
      IsTopK m.sc.le nprobes (centroidHits m q' cents) probed ∧
      IsTopK m.sc.le k
        (cands (lift m A trunc8 (dim / M) cents cbs)
          (Flat.live (lift m A trunc8 (dim / M) cents cbs) dim (ops.map liftOp))
          probed (inject q') thr F)
        res := by
  obtain ⟨hrel0, htr, hcl, hn⟩ := train_premises hnl htrain hcw
  cases train_ok_eq htrain
  obtain ⟨hrel, hsame⟩ := run_rel m A _ _ ops hrel0 htr hcl hn
  have hmm : mm m A (run m A _ ops) = lift m A trunc8 (dim / M) cents cbs := hsame.mm_eq m A
  have := searchSingle_topk m A hrel (hsame.cbs ▸ cbWF_ne_nil hwf (Nat.two_pow_pos _))
    (Flat.eff_run_init _ dim _) (hmm ▸ Flat.live_mem_pre _ _ _) ord
    (by rw [hsame.cents, hsame.nlist]; exact hcl) (hsame.trained.trans htr)
    q q' (hq.trans hsame.dim.symm) hpre k nprobes thr F
  rw [hmm, hsame.cents] at this
  exact this

/-- The same with plain arg-min codes in the
    specification, for every code size the constructor accepts. -/
theorem ivfpq_topk_nearest_codeword (m : Metric (List S) S) (A : Arith S) (ord : m.sc.Ordered)
    (dim M nbits nlist n : Nat) (hok : newOk dim nlist M nbits = true) (cents : List (List S))
    (cbs : List (List (List S))) (s0 : State S)
    (htrain : train (init dim M nbits nlist) n true cents cbs = (s0, .ok))
    (hcw : centsWF nlist dim cents = true)
    (hwf : cbWF M (2 ^ nbits) (dim / M) cbs = true)
    (ops : List (Flat.Op (List S)))
    (q q' : List S) (hq : q.length = dim) (hpre : m.pre q = some q')
    (k nprobes : Int) (thr : S) (F : List Id) :
    ∃ probed res, searchSingle m A (run m A s0 ops) q k nprobes thr F = .ok res ∧
      IsTopK m.sc.le nprobes (centroidHits m q' cents) probed ∧
      IsTopK m.sc.le k
        (cands (lift m A id (dim / M) cents cbs)
          (Flat.live (lift m A id (dim / M) cents cbs) dim (ops.map liftOp))
          probed (inject q') thr F)
        res := by
  obtain ⟨hnl, hpq⟩ := newOk_pq hok
  rw [← lift_trunc8_eq m A hwf (Nat.two_pow_pos _) (newOk_ksub_le hpq)]
  exact ivfpq_topk m A ord dim M nbits nlist n (Int.natCast_pos.1 hnl) cents cbs s0 htrain hcw hwf ops
    q q' hq hpre k nprobes thr F

/-- After a successful `Train` with `nlist` centroids, NO
    Add / Remove / Flush history (re-adds included) makes an operation panic: the assigned
    list index is always a valid index of `centroids` and `lists`. -/
theorem ivfpq_never_panics (m : Metric (List S) S) (A : Arith S)
    (dim M nbits nlist n : Nat) (hnl : 0 < nlist) (cents : List (List S))
    (cbs : List (List (List S))) (s0 : State S)
    (htrain : train (init dim M nbits nlist) n true cents cbs = (s0, .ok))
    (hcw : centsWF nlist dim cents = true)
    (ops : List (Flat.Op (List S))) (op : Flat.Op (List S)) :
    (step m A (run m A s0 ops) op).2 ≠ .panic := by
  obtain ⟨hrel0, htr, hcl, hn⟩ := train_premises hnl htrain hcw
  obtain ⟨hrel, hsame⟩ := run_rel m A s0 _ ops hrel0 htr hcl hn
  exact (step_sim m A _ _ op hrel (hsame.trained.trans htr) (hsame.cents ▸ hsame.nlist ▸ hcl)
    (hsame.nlist ▸ hn)).2.2

theorem ivfpq_search_untrained (m : Metric (List S) S) (A : Arith S) (s : State S)
    (h : s.trained = false) (q : List S) (k nprobes : Int) (thr : S) (F : List Id) :
    searchSingle m A s q k nprobes thr F = .error (.err .untrained) := by
  simp [searchSingle, h]

theorem ivfpq_search_wrong_dim (m : Metric (List S) S) (A : Arith S) (s : State S)
    (h : s.trained = true) (q : List S) (hq : q.length ≠ s.dim) (k nprobes : Int) (thr : S)
    (F : List Id) :
    searchSingle m A s q k nprobes thr F = .error (.err .dim) := by
  simp [searchSingle, h, hq]

/-- What the live entries are: for a vector `x` added by the history, its preprocessed form
    `v'`, the list of the FIRST nearest centroid (`assign`, metric distance), and the code of
    the residual `v' − centroid` to that centroid. -/
theorem ivfpq_live_entries_encoded (m : Metric (List S) S) (A : Arith S) (dim dsub : Nat)
    (cents : List (List S)) (cbs : List (List (List S))) (ops : List (Flat.Op (List S))) :
    ∀ p ∈ Flat.live (lift m A trunc8 dsub cents cbs) dim (ops.map liftOp),
      ∃ x v' c, Flat.Op.add p.1 x ∈ ops ∧ m.pre x = some v' ∧
        cents[assign m A cents v']? = some c ∧
        p.2 = ⟨v', assign m A cents v',
          encode (A.ops m.sc) m.sc.lt A.inf dsub cbs (vsub (A.ops m.sc) v' c)⟩ := by
  intro p hp
  obtain ⟨x, hx1, hx2⟩ := Flat.live_mem_add _ dim _ p hp
  obtain ⟨v, hop, rfl⟩ := mem_map_liftOp hx1
  obtain ⟨v', c, hv, hc, he⟩ := lift_pre_some m A trunc8 dsub cents cbs _ p.2 hx2
  exact ⟨v, v', c, hop, hv, hc, he⟩

/-- `Train` succeeds on every training set with at least
    `max (10·nlist) Ksub` vectors of the right dimension … -/
theorem ivfpq_train_ok (s : State S) (n : Nat) (cents : List (List S))
    (cbs : List (List (List S))) (hn : max (s.nlist * 10) (2 ^ s.nbits) ≤ n) :
    (train s n true cents cbs).2 = .ok ∧ (train s n true cents cbs).1.trained = true ∧
      (train s n true cents cbs).1.cents = cents ∧ (train s n true cents cbs).1.cbs = cbs := by
  have h1 : ¬ n < s.nlist * 10 := Nat.not_lt.2 (Nat.le_trans (Nat.le_max_left ..) hn)
  have h2 : ¬ n < s.ksub := Nat.not_lt.2 (Nat.le_trans (Nat.le_max_right ..) hn)
  rw [train, if_neg h1, if_neg h2]
  exact ⟨rfl, rfl, rfl, rfl⟩

/-- … rejects (with an error, leaving the index untouched) every smaller one — in particular
    the sets with `10·nlist ≤ n < Ksub` on which the codebook copy loop would run out of
    centroids … -/
theorem ivfpq_train_small_rejected (s : State S) (n : Nat) (dimsOK : Bool)
    (cents : List (List S)) (cbs : List (List (List S)))
    (hn : n < max (s.nlist * 10) (2 ^ s.nbits)) :
    train s n dimsOK cents cbs = (s, .err .other) := by
  by_cases h1 : n < s.nlist * 10
  · rw [train, if_pos h1]
  · have h2 : n < s.ksub := (lt_max_iff.1 hn).resolve_left h1
    rw [train, if_neg h1, if_pos h2]

/-- … and never panics. -/
theorem ivfpq_train_never_panics (s : State S) (n : Nat) (dimsOK : Bool) (cents : List (List S))
    (cbs : List (List (List S))) : (train s n dimsOK cents cbs).2 ≠ .panic := by
  exact snd_ite_ne nofun (snd_ite_ne nofun (snd_ite_ne nofun nofun))

end Comet.IVFPQ

/-! ## 4. remark: why the constructors must reject `Nbits > 8`, and non-vacuity -/

namespace Comet.PQ.Example

def toyOps : Ops Int := ⟨0, (· + ·), (· - ·), (· * ·)⟩
def toyLt (a b : Int) : Bool := decide (a < b)

/-- 512 one-component codewords `[0], [1], …, [511]`: the codebook of a 9-bit code, a size
    the constructors reject -/
def ramp : List (List (List Int)) := [(List.range 512).map fun k => [(k : Int)]]

def toy : Metric (List Int) Int where
  dimOf := List.length
  pre v := if v.all (· == 0) then none else some v      -- "zero vector" rejected
  dist a c := sqDist toyOps a c
  sc := { zero := 0, add := (· + ·), divNat := fun a n => a / n,
          le := fun a b => decide (a ≤ b), lt := toyLt }

/-- squared distances: "sqrt" = identity; `+Inf` = 10⁹ -/
def toyA : Arith Int := ⟨(· - ·), (· * ·), 1000000000, id⟩

theorem toy_ordered : toy.sc.Ordered where
  total a b := by simp only [toy, Bool.or_eq_true, decide_eq_true_eq]; exact Int.le_total a b
  trans a b c := by simp only [toy, decide_eq_true_eq]; exact Int.le_trans
  lt_iff a b := by simp only [toy, toyLt, ← Int.not_le, decide_not]

/-- Defect D10, which the constructors exclude by rejecting `Nbits > 8`: for a code size of
    9 bits the `uint8` conversion does lose the index — codeword 300 is stored as 44. -/
theorem trunc8_loses_index_above_8_bits :
    cbWF 1 (2 ^ 9) 1 ramp = true ∧
    encodeRaw toyOps toyLt 1000000000 1 ramp [300] = [300] ∧
    encode toyOps toyLt 1000000000 1 ramp [300] = [44] := by
  -- `List.range 512` is never unfolded: facts about it come from `length_range` / `getElem_range`
  have hramp : ramp = [(List.range 512).map fun k : Nat => [(k : Int)]] := by
    rw [ramp, bind_pure_comp, List.map_eq_map, List.map_map]; rfl
  -- the distance of `[300]` to codeword `k` is `(300 − k)²`: zero at 300 only
  have hraw : encodeRaw toyOps toyLt 1000000000 1 ramp [300] = [300] := by
    have := argmin_eq_of_strict_min toy_ordered 1000000000
      (fun k : Nat => 0 + (300 - (k : Int)) * (300 - k)) (List.range 512) 300
      (by rw [List.length_range]; decide) (by rw [List.getElem_range]; decide)
      (fun i hi hne => by
        rw [List.getElem_range, List.getElem_range]
        refine decide_eq_true (lt_of_eq_of_lt (b := 0) rfl ?_)
        rw [Int.zero_add]
        exact mul_self_pos.2 (by omega))
    rw [hramp]
    simp only [encodeRaw, tables, tablesFrom, List.map_map, List.map_cons, List.map_nil]
    exact congrArg (· :: []) this
  refine ⟨?_, hraw, by rw [encode, hraw]; rfl⟩
  rw [hramp]
  refine (cbWF_iff ..).2 ⟨rfl, fun cb hcb => ?_⟩
  rw [List.mem_singleton.1 hcb, List.length_map, List.length_range]
  refine ⟨rfl, fun w hw => ?_⟩
  obtain ⟨k, _, rfl⟩ := List.mem_map.1 hw
  rfl

/-- dim 2, M 2, 1 bit: two codewords per subspace -/
def cb2 : List (List (List Int)) := [[[0], [10]], [[0], [10]]]

def hist : List (Flat.Op (List Int)) :=
  [.add 1 [1, 9], .add 2 [9, 9], .add 3 [0, 0], .add 4 [4, 4], .remove 2, .add 5 [10, 0],
   .remove 4, .add 4 [4, 4], .flush]

-- `pq_topk` on an instance: its hypotheses (and the constructor check `newOk`) hold
example : newOk 2 2 1 = true := by decide
example : cbWF 2 (2 ^ 1) (2 / 2) cb2 = true := by decide
example : (train (init 2 2 1 : State Int) 2 true cb2).2 = .ok := by decide
example : ∃ res, searchSingle toy toyA (run toy toyA (train (init 2 2 1) 2 true cb2).1 hist)
      [1, 8] 2 0 [] = .ok res ∧
    IsTopK toy.sc.le 2
      (Flat.cands (lift toy toyA trunc8 (2 / 2) cb2)
        (Flat.live (lift toy toyA trunc8 (2 / 2) cb2) 2 (hist.map liftOp)) (inject [1, 8]) 0 [])
      res :=
  pq_topk toy toyA toy_ordered 2 2 1 2 cb2 _ rfl (by decide) hist [1, 8] [1, 8] rfl (by decide) 2 0 []
-- the live entries: id 2 removed, id 3 rejected (zero vector), id 4 removed and re-added
-- (now last); codes are the nearest codewords
example : Flat.live (lift toy toyA trunc8 1 cb2) 2 (hist.map liftOp) =
    [(1, ⟨[1, 9], 0, [0, 1]⟩), (5, ⟨[10, 0], 0, [1, 0]⟩), (4, ⟨[4, 4], 0, [0, 0]⟩)] := by decide +kernel
-- the candidates of query [1, 8]: scores are the squared distances to the reconstructions
-- [0,10], [10,0], [0,0] — not to the vectors themselves
example : Flat.cands (lift toy toyA trunc8 1 cb2)
    (Flat.live (lift toy toyA trunc8 1 cb2) 2 (hist.map liftOp)) (inject [1, 8]) 0 [] =
    [⟨1, 5⟩, ⟨5, 145⟩, ⟨4, 65⟩] := by decide +kernel
-- `adc_identity` on this instance: the table sum equals the distance to the reconstruction
example : adcSum toyOps (tables toyOps 1 cb2 [1, 8]) [0, 1] = some 5 ∧
    recon cb2 [0, 1] = some [0, 10] ∧ sqDist toyOps [1, 8] [0, 10] = 5 := by decide +kernel
-- a vector that is its own reconstruction is reported at its true distance
example : encode toyOps toyLt 1000000000 1 cb2 [10, 0] = [1, 0] ∧ recon cb2 [1, 0] = some [10, 0] ∧
    adcSum toyOps (tables toyOps 1 cb2 [1, 8]) [1, 0] = some (sqDist toyOps [1, 8] [10, 0]) := by
  decide +kernel
-- a correct and an incorrect answer for k = 2
example : IsTopK toy.sc.le 2 [⟨1, 5⟩, ⟨4, 65⟩, ⟨5, 145⟩] [⟨1, 5⟩, ⟨4, 65⟩] :=
  checkTopK_sound _ _ _ _ (by decide)
example : ¬ IsTopK toy.sc.le 2 [⟨1, 5⟩, ⟨4, 65⟩, ⟨5, 145⟩] [⟨1, 5⟩, ⟨5, 145⟩] :=
  fun h => absurd (checkTopK_complete _ _ _ _ h) (by decide)

/-! IVFPQ: two lists with centroids [0,0] and [10,10] -/
def cents2 : List (List Int) := [[0, 0], [10, 10]]
/-- residual codebooks: codewords −1 / +1 per subspace -/
def cbR : List (List (List Int)) := [[[-1], [1]], [[-1], [1]]]

example : IVFPQ.newOk 2 2 2 1 = true := by decide
example : IVFPQ.centsWF 2 2 cents2 = true := by decide
example : (IVFPQ.train (IVFPQ.init 2 2 1 2 : IVFPQ.State Int) 20 true cents2 cbR).2 = .ok := by decide
-- 10·nlist ≤ n < Ksub is rejected, not a panic (model state with 6 bits: Ksub = 64)
example : (IVFPQ.train (IVFPQ.init 2 2 6 2 : IVFPQ.State Int) 20 true cents2 cbR).2 = .err .other := by
  decide
example : ∃ probed res,
    IVFPQ.searchSingle toy toyA
      (IVFPQ.run toy toyA (IVFPQ.train (IVFPQ.init 2 2 1 2) 20 true cents2 cbR).1 hist)
      [1, 8] 2 1 0 [] = .ok res ∧
    IsTopK toy.sc.le 1 (IVFPQ.centroidHits toy [1, 8] cents2) probed ∧
    IsTopK toy.sc.le 2
      (IVFPQ.cands (IVFPQ.lift toy toyA trunc8 (2 / 2) cents2 cbR)
        (Flat.live (IVFPQ.lift toy toyA trunc8 (2 / 2) cents2 cbR) 2 (hist.map liftOp))
        probed (inject [1, 8]) 0 [])
      res :=
  IVFPQ.ivfpq_topk toy toyA toy_ordered 2 2 1 2 20 (by decide) cents2 cbR _ rfl (by decide)
    (by decide) hist [1, 8] [1, 8] rfl (by decide) 2 1 0 []
-- live entries with their lists and residual codes; [1,9] is equally far from both centroids
-- (1+81 = 81+1): a tie, the first centroid wins
/-- the live entries of the IVFPQ instance -/
theorem live_cbR : Flat.live (IVFPQ.lift toy toyA trunc8 1 cents2 cbR) 2 (hist.map liftOp) =
    [(1, ⟨[1, 9], 0, [1, 1]⟩), (5, ⟨[10, 0], 0, [1, 0]⟩), (4, ⟨[4, 4], 0, [1, 1]⟩)] := by decide +kernel
example : Flat.live (IVFPQ.lift toy toyA trunc8 1 cents2 cbR) 2 (hist.map liftOp) =
    [(1, ⟨[1, 9], 0, [1, 1]⟩), (5, ⟨[10, 0], 0, [1, 0]⟩), (4, ⟨[4, 4], 0, [1, 1]⟩)] := live_cbR
-- probing only the list of centroid [10,10] finds nothing; probing [0,0] finds all three
example : IVFPQ.cands (IVFPQ.lift toy toyA trunc8 1 cents2 cbR)
    (Flat.live (IVFPQ.lift toy toyA trunc8 1 cents2 cbR) 2 (hist.map liftOp))
    [⟨1, 85⟩] (inject [1, 8]) 0 [] = [] := by rw [live_cbR]; decide +kernel
example : IVFPQ.cands (IVFPQ.lift toy toyA trunc8 1 cents2 cbR)
    (Flat.live (IVFPQ.lift toy toyA trunc8 1 cents2 cbR) 2 (hist.map liftOp))
    [⟨0, 65⟩] (inject [1, 8]) 0 [] = [⟨1, 49⟩, ⟨5, 81⟩, ⟨4, 49⟩] := by rw [live_cbR]; decide +kernel

end Comet.PQ.Example
