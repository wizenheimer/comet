/-
  What follows from `Scalar.Ordered`: `le` is a total preorder and `lt` its strict part.
-/
import Comet.Scalar

namespace Comet.Scalar.Ordered
variable {S : Type} {sc : Scalar S} (ord : sc.Ordered)
include ord

theorem le_refl (a : S) : sc.le a a = true := by
  simpa using ord.total a a

theorem lt_false_iff {a b : S} : sc.lt a b = false ↔ sc.le b a = true := by
  rw [ord.lt_iff, Bool.not_eq_false']

theorem lt_irrefl (a : S) : sc.lt a a = false :=
  ord.lt_false_iff.2 (ord.le_refl a)

theorem not_le_of_lt {a b : S} (h : sc.lt a b = true) : sc.le b a = false := by
  rwa [ord.lt_iff, Bool.not_eq_true'] at h

theorem le_of_lt {a b : S} (h : sc.lt a b = true) : sc.le a b = true := by
  simpa [ord.not_le_of_lt h] using ord.total b a

theorem lt_asymm {a b : S} (h : sc.lt a b = true) : sc.lt b a = false :=
  ord.lt_false_iff.2 (ord.le_of_lt h)

theorem lt_of_lt_of_le {a b c : S} (h1 : sc.lt a b = true) (h2 : sc.le b c = true) :
    sc.lt a c = true := by
  cases h : sc.lt a c
  · rw [ord.lt_false_iff.2 (ord.trans b c a h2 (ord.lt_false_iff.1 h))] at h1
    exact h1
  · rfl

theorem lt_trans {a b c : S} (h1 : sc.lt a b = true) (h2 : sc.lt b c = true) :
    sc.lt a c = true :=
  ord.lt_of_lt_of_le h1 (ord.le_of_lt h2)

end Comet.Scalar.Ordered
