/-
  Helpers for C12 (HNSW): the `toy` metric of the witnesses, the invariant of the
  reachability checker `dfs`, lemmas on `IdMap`.
-/
import Comet.Vector.HNSW
import Mathlib.Data.List.Perm.Subperm
import Mathlib.Data.List.Nodup
namespace Comet.HNSW

/-! ### the toy instance used by witnesses and non-vacuity examples:
    points on the integer line, distance |a − b| ∈ ℕ -/

def toy : Metric Int Nat where
  dimOf _ := 1
  pre v := some v
  dist a b := (a - b).natAbs
  sc := { zero := 0, add := (· + ·), divNat := fun a n => a / n,
          le := fun a b => decide (a ≤ b), lt := fun a b => decide (a < b) }

theorem toy_ordered : toy.sc.Ordered where
  total a b := by simp only [toy, Bool.or_eq_true, decide_eq_true_eq]; exact Nat.le_total a b
  trans a b c := by simp only [toy, decide_eq_true_eq]; exact Nat.le_trans
  lt_iff a b := by simp only [toy, ← decide_not, Nat.not_le]

theorem Reach.trans {succ : Id → List Id} {e u v : Id}
    (h1 : Reach succ e u) (h2 : Reach succ u v) : Reach succ e v := by
  induction h2 with
  | refl => exact h1
  | step _ hv ih => exact Reach.step ih hv

/-- invariant of `dfs`; `hcl`: every successor of a visited vertex is visited or on the stack -/
theorem dfs_spec (succ : Id → List Id) (e : Id) (fuel : Nat) (st vis r : List Id)
    (h : dfs succ fuel st vis = some r)
    (hst : ∀ x ∈ st, Reach succ e x) (hvis : ∀ x ∈ vis, Reach succ e x)
    (hcl : ∀ u ∈ vis, ∀ w ∈ succ u, w ∈ vis ∨ w ∈ st) :
    (∀ x ∈ r, Reach succ e x) ∧ (∀ u ∈ r, ∀ w ∈ succ u, w ∈ r) ∧
    (∀ x ∈ vis, x ∈ r) ∧ (∀ x ∈ st, x ∈ r) := by
  induction fuel, st, vis using dfs.induct succ with
  | case1 fuel vis =>
    simp only [dfs, Option.some.injEq] at h; subst h
    exact ⟨hvis, fun u hu w hw => (hcl u hu w hw).resolve_right (by simp), fun x hx => hx, by simp⟩
  | case2 a t vis => simp [dfs] at h
  | case3 fuel a t vis hmem ih =>
    rw [dfs, if_pos hmem] at h
    obtain ⟨h1, h2, h3, h4⟩ := ih h (fun x hx => hst x (List.mem_cons_of_mem _ hx)) hvis
      (fun u hu w hw => (hcl u hu w hw).elim Or.inl fun h =>
        (List.mem_cons.1 h).elim (fun h => Or.inl (h ▸ hmem)) Or.inr)
    exact ⟨h1, h2, h3, fun x hx => (List.mem_cons.1 hx).elim (fun h => h ▸ h3 _ hmem) (h4 x)⟩
  | case4 fuel a t vis hmem ih =>
    rw [dfs, if_neg hmem] at h
    have ha : Reach succ e a := hst a (by simp)
    obtain ⟨h1, h2, h3, h4⟩ := ih h
      (fun x hx => (List.mem_append.1 hx).elim (Reach.step ha) fun hx => hst x (List.mem_cons_of_mem _ hx))
      (fun x hx => (List.mem_cons.1 hx).elim (fun h => h ▸ ha) (hvis x))
      (by
        intro u hu w hw
        rcases List.mem_cons.1 hu with rfl | hu
        · exact Or.inr (List.mem_append.2 (Or.inl hw))
        · rcases hcl u hu w hw with h | h
          · exact Or.inl (List.mem_cons_of_mem _ h)
          · rcases List.mem_cons.1 h with rfl | h
            · exact Or.inl (by simp)
            · exact Or.inr (List.mem_append.2 (Or.inr h)))
    exact ⟨h1, h2, fun x hx => h3 x (List.mem_cons_of_mem _ hx), fun x hx =>
      (List.mem_cons.1 hx).elim (fun h => h ▸ h3 _ (by simp)) fun hx => h4 x (List.mem_append.2 (Or.inr hx))⟩

end Comet.HNSW

namespace Comet.HNSW.IdMap
variable {α : Type}

theorem get?_eq (m : IdMap α) (i : Id) : m.get? i = (m.arr[i]?).getD none := by
  simp [get?, Array.getD_eq_getD_getElem?]

@[simp] theorem get?_empty (i : Id) : (empty : IdMap α).get? i = none := by
  simp [get?_eq, empty]

theorem get?_set (m : IdMap α) (i j : Id) (a : α) :
    (m.set i a).get? j = if i = j then some a else m.get? j := by
  by_cases h : i < m.arr.size
  · simp only [set, h, if_true, get?_eq, Array.getElem?_setIfInBounds]
    split <;> simp
  · have h' : m.arr.size ≤ i := Nat.le_of_not_lt h
    simp only [set, h, if_false, get?_eq, Array.getElem?_push, Array.size_append, Array.size_replicate,
      Nat.add_sub_cancel' h', Array.getElem?_append, Array.getElem?_replicate]
    by_cases hij : i = j
    · subst hij; simp
    · have : ¬ j = i := fun h => hij h.symm
      simp only [this, if_false, hij]
      split
      · rfl
      · next h2 => split <;> simp [Array.getElem?_eq_none (Nat.le_of_not_lt h2)]

theorem get?_erase (m : IdMap α) (i j : Id) :
    (m.erase i).get? j = if i = j then none else m.get? j := by
  simp only [erase, get?_eq, Array.getElem?_setIfInBounds]
  split
  · split <;> simp
  · rfl

theorem lt_bound_of_get? {m : IdMap α} {i : Id} {a : α} (h : m.get? i = some a) : i < m.bound := by
  rw [get?_eq] at h
  unfold bound
  by_cases hlt : i < m.arr.size
  · exact hlt
  · have : m.arr.size ≤ i := Nat.le_of_not_lt hlt
    simp [Array.getElem?_eq_none this] at h

theorem mem_keys {m : IdMap α} {i : Id} : i ∈ m.keys ↔ m.contains i = true := by
  simp only [keys, List.mem_filter, List.mem_range, and_iff_right_iff_imp]
  intro h
  simp only [contains, Option.isSome_iff_exists] at h
  obtain ⟨a, ha⟩ := h
  exact lt_bound_of_get? ha

theorem contains_iff {m : IdMap α} {i : Id} : m.contains i = true ↔ ∃ a, m.get? i = some a := by
  simp [contains, Option.isSome_iff_exists]

theorem keys_nodup (m : IdMap α) : m.keys.Nodup :=
  (List.nodup_range).sublist List.filter_sublist

theorem get?_eq_none {m : IdMap α} {i : Id} (h : m.contains i = false) : m.get? i = none := by
  simpa [contains] using h

@[simp] theorem contains_empty (i : Id) : (empty : IdMap α).contains i = false := by
  simp [contains]

theorem contains_set (m : IdMap α) (i j : Id) (a : α) :
    (m.set i a).contains j = (decide (i = j) || m.contains j) := by
  simp only [contains, get?_set]
  by_cases h : i = j <;> simp [h]

theorem contains_set_self (m : IdMap α) (i : Id) (a : α) : (m.set i a).contains i = true := by
  simp [contains_set]

theorem contains_set_of (m : IdMap α) (i : Id) (a : α) {j : Id} (h : m.contains j = true) :
    (m.set i a).contains j = true := by
  simp [contains_set, h]

theorem count_eq_zero_iff (m : IdMap α) : m.count = 0 ↔ ∀ j, m.contains j = false := by
  simp only [count, List.length_eq_zero_iff, List.eq_nil_iff_forall_not_mem, mem_keys,
    Bool.not_eq_true]

theorem count_ne_zero {m : IdMap α} {i : Id} (h : m.contains i = true) : m.count ≠ 0 :=
  fun h0 => by simp [(count_eq_zero_iff m).1 h0 i] at h

theorem keys_perm {β : Type} {m : IdMap α} {m' : IdMap β} (h : ∀ j, m'.contains j = m.contains j) :
    m'.keys.Perm m.keys :=
  (List.perm_ext_iff_of_nodup (keys_nodup _) (keys_nodup _)).2 fun j => by simp [mem_keys, h]

theorem count_set_new (m : IdMap α) (i : Id) (a : α) (h : m.contains i = false) :
    (m.set i a).count = m.count + 1 := by
  have hp : (m.set i a).keys.Perm (i :: m.keys) := by
    rw [List.perm_ext_iff_of_nodup (keys_nodup _)
      (List.nodup_cons.2 ⟨fun hh => by simp [mem_keys.1 hh] at h, keys_nodup _⟩)]
    intro j
    simp only [mem_keys, contains_set, Bool.or_eq_true, decide_eq_true_eq, List.mem_cons,
      eq_comm (a := i)]
  simpa [count] using hp.length_eq

end Comet.HNSW.IdMap
