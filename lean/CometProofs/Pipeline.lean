/- Helper lemmas for C02: `keep` unpacked, candidate ids are a sublist of the live ids, and the
   introduction rule `Sound.of_pool`. -/
import Comet.Vector.Pipeline
import CometProofs.Flat
namespace Comet.Pipeline

variable {V S : Type}

theorem keep_eq_some {sc : Scalar S} {deleted filter : List Id} {thr : S} {c : Id × V × S}
    {h : Hit S} : keep sc deleted filter thr c = some h ↔
      c.1 ∉ deleted ∧ Flat.eligible filter c.1 = true ∧ Flat.thrSkip sc thr c.2.2 = false ∧
        h = ⟨c.1, c.2.2⟩ := by
  unfold keep
  by_cases hd : c.1 ∈ deleted
  · simp [hd]
  · cases Flat.eligible filter c.1 <;> cases Flat.thrSkip sc thr c.2.2 <;> simp [hd, eq_comm]

theorem filterMap_key_sublist {α : Type} (key : α → Id) (f : α → Option (Hit S))
    (hf : ∀ c h, f c = some h → h.id = key c) (l : List α) :
    ((l.filterMap f).map (·.id)).Sublist (l.map key) := by
  induction l with
  | nil => exact .slnil
  | cons c t ih =>
    simp only [List.filterMap_cons, List.map_cons]
    cases hc : f c with
    | none => exact ih.cons _
    | some h => exact hf c h hc ▸ ih.cons_cons _

theorem cands_ids_sublist (m : Metric V S) (l : List (Id × V)) (q' : V) (thr : S) (F : List Id) :
    ((Flat.cands m l q' thr F).map (·.id)).Sublist (l.map (·.1)) :=
  filterMap_key_sublist _ _ (fun p h hp => by
    obtain ⟨p', hp', _, _, rfl⟩ :=
      Flat.mem_cands.1 (List.mem_filterMap.2 ⟨p, List.mem_singleton_self p, hp⟩)
    exact congrArg Prod.fst (List.mem_singleton.1 hp')) l

/-- the route by which every index kind reaches C02's contract -/
theorem Sound.of_pool {sc : Scalar S} {scoreOK : V → S → Bool} {live : List (Id × V)}
    {F : List Id} {thr : S} {k : Int} {res rest pool : List (Hit S)}
    (hperm : (res ++ rest).Perm pool) (hn : (pool.map (·.id)).Nodup)
    (hpool : ∀ h ∈ pool, (∃ v, (h.id, v) ∈ live ∧ scoreOK v h.score = true) ∧
      Flat.eligible F h.id = true ∧ Flat.thrSkip sc thr h.score = false)
    (hs : res.Pairwise fun a b => sc.le a.score b.score = true)
    (hk : 0 < k → (res.length : Int) ≤ k) : Sound sc scoreOK live F thr k res :=
  have hmem : ∀ h ∈ res, h ∈ pool := fun _ hh => hperm.subset (List.mem_append_left _ hh)
  ⟨fun h hh => (hpool h (hmem h hh)).1, fun h hh => (hpool h (hmem h hh)).2.1,
    fun h hh => (hpool h (hmem h hh)).2.2,
    ((List.sublist_append_left res rest).map _).nodup ((hperm.map _).nodup_iff.2 hn), hs, hk⟩

end Comet.Pipeline
