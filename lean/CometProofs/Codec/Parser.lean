/-
  Helper lemmas for Comet/Codec/Parser.lean.  Decoder side, each predicate with its closure
  lemmas under the parser combinators:

    * `Good p`  — whenever `p` succeeds it consumed a prefix `u` of its input, it
      returns the same value on `u ++ r'` for every other continuation `r'`
      (`Stable`), and it fails on every strict prefix of `u` (`Strict`);
    * `Exact p` — the byte count a counting parser reports equals what it consumed
      (`Consumes p k`: the plain parser `p` eats exactly `k` bytes);
    * `Sound p` — both; closed under every combinator the decoders are written with;
    * `Reads p u a` — `p` reads exactly the bytes `u` and returns `a` (round trips);
    * `Fails p u o` — `p` reads `u` up to a check that fails with the error `o` names
      (mismatched streams); `Rejects p u` — `p` fails on every input that starts with `u`;
    * `ChecksPreamble magic d` — `d` fails on another magic and on another version
      (`preamble`: the magic / version test every `ReadFrom` starts with).

  Encoder side: the bytes (`flat_*`, `w*_data`) and the reported length (`reported_*`) of the
  item lists the writers build; `mkMap_of_nodup`.
-/
import Comet.Codec.Parser
namespace Comet.Codec

def IsErr {β : Type} (x : Except Err β) : Prop := ∃ e, x = .error e

theorem IsErr.error {β : Type} (e : Err) : IsErr (Except.error e : Except Err β) := ⟨e, rfl⟩

def Stable (p : Parser α) : Prop :=
  ∀ u r v, p (u ++ r) = .ok (v, r) → ∀ r', p (u ++ r') = .ok (v, r')

def Strict (p : Parser α) : Prop :=
  ∀ u r v, p (u ++ r) = .ok (v, r) → ∀ u', u' <+: u → u' ≠ u → IsErr (p u')

structure Good (p : Parser α) : Prop where
  split : ∀ inp v rest, p inp = .ok (v, rest) →
    ∃ u, inp = u ++ rest ∧ (∀ r', p (u ++ r') = .ok (v, r')) ∧
      (∀ u', u' <+: u → u' ≠ u → IsErr (p u'))

theorem Good.stable {p : Parser α} (h : Good p) : Stable p := by
  intro u r v hp r'
  obtain ⟨u0, he, hs, _⟩ := h.split _ _ _ hp
  have : u = u0 := List.append_cancel_right he
  subst this
  exact hs r'

theorem Good.strict {p : Parser α} (h : Good p) : Strict p := by
  intro u r v hp u' hpre hne
  obtain ⟨u0, he, _, hs⟩ := h.split _ _ _ hp
  have : u = u0 := List.append_cancel_right he
  subst this
  exact hs u' hpre hne

theorem Good.suffix {p : Parser α} (h : Good p) {inp v rest} (hp : p inp = .ok (v, rest)) :
    ∃ u, inp = u ++ rest := by
  obtain ⟨u, he, _, _⟩ := h.split _ _ _ hp
  exact ⟨u, he⟩

theorem Good.pure (a : α) : Good (Parser.pure a) := by
  constructor
  intro inp v rest h
  obtain ⟨rfl, rfl⟩ := h
  refine ⟨[], rfl, fun r' => rfl, ?_⟩
  intro u' hpre hne
  exact absurd (List.prefix_nil.1 hpre) hne

theorem Good.fail (e : Err) : Good (Parser.fail e : Parser α) := by
  constructor
  intro inp v rest h
  simp [Parser.fail] at h

theorem bind_ok {p : Parser α} {f : α → Parser β} {inp a mid}
    (h : p inp = .ok (a, mid)) : (p.bind f) inp = f a mid := by
  simp [Parser.bind, h]

theorem bind_err {p : Parser α} {f : α → Parser β} {inp}
    (h : IsErr (p inp)) : IsErr ((p.bind f) inp) := by
  obtain ⟨e, he⟩ := h
  exact ⟨e, by simp [Parser.bind, he]⟩

theorem bind_inv {p : Parser α} {f : α → Parser β} {inp w rest}
    (h : (p.bind f) inp = .ok (w, rest)) :
    ∃ a mid, p inp = .ok (a, mid) ∧ f a mid = .ok (w, rest) := by
  unfold Parser.bind at h
  split at h
  · cases h
  · next a mid hp => exact ⟨a, mid, hp, h⟩

theorem Good.bind {p : Parser α} {f : α → Parser β} (hp : Good p) (hf : ∀ a, Good (f a)) :
    Good (p.bind f) := by
  constructor
  intro inp w rest h
  obtain ⟨a, mid, h1, h2⟩ := bind_inv h
  obtain ⟨u1, e1, s1, t1⟩ := hp.split _ _ _ h1
  obtain ⟨u2, e2, s2, t2⟩ := (hf a).split _ _ _ h2
  refine ⟨u1 ++ u2, by rw [e1, e2, List.append_assoc], ?_, ?_⟩
  · intro r'
    rw [List.append_assoc, bind_ok (s1 _)]
    exact s2 r'
  · intro u' hpre hne
    -- u' = u1 ++ u2' with u2' a strict prefix of u2 (`f a` fails), or u' a strict prefix of u1
    by_cases hu : u1 <+: u'
    · obtain ⟨u2', rfl⟩ := hu
      rw [bind_ok (s1 _)]
      exact t2 u2' ((List.prefix_append_right_inj u1).1 hpre) fun h0 => hne (h0 ▸ rfl)
    · exact bind_err (t1 u'
        ((List.prefix_or_prefix_of_prefix hpre (List.prefix_append u1 u2)).resolve_right hu)
        fun h0 => hu (h0 ▸ List.prefix_refl _))

theorem Good.map (f : α → β) {p : Parser α} (hp : Good p) : Good (Parser.map f p) :=
  Good.bind hp fun a => Good.pure (f a)

theorem bytes_append (b rest : Bytes) : bytes b.length (b ++ rest) = .ok (b, rest) := by
  unfold bytes
  rw [if_neg (by simp)]
  simp

theorem Good.bytes (n : Nat) : Good (bytes n) := by
  constructor
  intro inp v rest h
  unfold Comet.Codec.bytes at h
  split at h
  · cases h
  · next hlen =>
    obtain ⟨rfl, rfl⟩ := h
    have hl : (inp.take n).length = n := List.length_take_of_le (Nat.le_of_not_lt hlen)
    refine ⟨inp.take n, (List.take_append_drop n inp).symm, fun r' => ?_, fun u' hpre hne => ?_⟩
    · have := bytes_append (inp.take n) r'
      rwa [hl] at this
    · have : u'.length < n :=
        hl ▸ Nat.lt_of_le_of_ne hpre.length_le fun he => hne (hpre.eq_of_length he)
      exact ⟨.eof, if_pos this⟩

theorem Good.u8 : Good u8 := Good.map _ (Good.bytes 1)
theorem Good.u32le : Good u32le := Good.map _ (Good.bytes 4)
theorem Good.u64le : Good u64le := Good.map _ (Good.bytes 8)
theorem Good.i32le : Good i32le := Good.map _ Good.u32le
theorem Good.f32bits : Good f32bits := Good.u32le
theorem Good.f64bits : Good f64bits := Good.u64le
theorem Good.lenPrefixedBytes : Good lenPrefixedBytes := Good.bind Good.u32le Good.bytes

theorem Good.guard (c : Bool) (e : Err) : Good (guard c e) := by
  unfold Comet.Codec.guard
  split
  · exact Good.pure ()
  · exact Good.fail e

theorem Good.eqCheck [BEq α] (x want : α) (e : Err) : Good (eqCheck x want e) := Good.guard _ _

theorem Good.ite {c : Prop} [Decidable c] {p q : Parser α} (hp : Good p) (hq : Good q) :
    Good (if c then p else q) := by
  split
  · exact hp
  · exact hq

theorem Good.ofOption (o : Option α) (e : Err) : Good (ofOption o e) := by
  unfold Comet.Codec.ofOption
  split
  · exact Good.pure _
  · exact Good.fail _

theorem Good.ofExcept (o : Except Err α) : Good (ofExcept o) := by
  unfold Comet.Codec.ofExcept
  split
  · exact Good.pure _
  · exact Good.fail _

theorem Good.repeat (n : Nat) {p : Parser α} (hp : Good p) : Good («repeat» n p) := by
  induction n with
  | zero => exact Good.pure []
  | succ n ih => exact Good.bind hp fun a => Good.bind ih fun as => Good.pure _

theorem Good.cp_run {p : CP α} (hp : Good p) : Good (CP.run p) := Good.map _ hp

theorem Good.cp_ofOption (o : Option α) (e : Err) : Good (CP.ofOption o e) := by
  unfold CP.ofOption
  split
  · exact Good.pure _
  · exact Good.fail _

def Exact (p : CP α) : Prop :=
  ∀ inp v n rest, p inp = .ok ((v, n), rest) → inp.length = n + rest.length

theorem Exact.pure (a : α) : Exact (CP.pure a) := by
  intro inp v n rest h
  obtain ⟨⟨_, rfl⟩, rfl⟩ := h
  simp

theorem Exact.fail (e : Err) : Exact (CP.fail e : CP α) := by
  intro inp v n rest h
  simp [CP.fail, Parser.fail] at h

theorem Exact.bind {p : CP α} {f : α → CP β} (hp : Exact p) (hf : ∀ a, Exact (f a)) :
    Exact (CP.bind p f) := by
  intro inp w n rest h
  obtain ⟨an, mid, h1, h2⟩ := bind_inv h
  obtain ⟨bm, mid2, h3, h4⟩ := bind_inv h2
  simp only [Parser.pure, Except.ok.injEq, Prod.mk.injEq] at h4
  obtain ⟨⟨rfl, rfl⟩, rfl⟩ := h4
  have e1 := hp inp an.1 an.2 mid (by simpa using h1)
  have e2 := hf an.1 mid bm.1 bm.2 mid2 (by simpa using h3)
  omega

def Consumes (p : Parser α) (k : Nat) : Prop :=
  ∀ inp v rest, p inp = .ok (v, rest) → inp.length = k + rest.length

theorem Consumes.bytes (n : Nat) : Consumes (bytes n) n := by
  intro inp v rest h
  unfold Comet.Codec.bytes at h
  split at h
  · cases h
  · simp only [Except.ok.injEq, Prod.mk.injEq] at h
    obtain ⟨_, rfl⟩ := h
    simp only [List.length_drop]
    omega

theorem Consumes.map (f : α → β) {p : Parser α} {k} (hp : Consumes p k) :
    Consumes (Parser.map f p) k := by
  intro inp v rest h
  obtain ⟨_, mid, h1, h2⟩ := bind_inv h
  obtain ⟨_, rfl⟩ := h2
  exact hp _ _ _ h1

theorem Exact.of_consumes {p : Parser α} {k : Nat} (hp : Consumes p k) :
    Exact (Parser.map (fun v => (v, k)) p) := by
  intro inp v n rest h
  obtain ⟨a, mid, h1, h2⟩ := bind_inv h
  obtain ⟨⟨_, rfl⟩, rfl⟩ := h2
  exact hp _ _ _ h1

theorem Exact.ofOption (o : Option α) (e : Err) : Exact (CP.ofOption o e) := by
  unfold CP.ofOption
  split
  · exact Exact.pure _
  · exact Exact.fail _

theorem Exact.ite {c : Prop} [Decidable c] {p q : CP α} (hp : Exact p) (hq : Exact q) :
    Exact (if c then p else q) := by
  split
  · exact hp
  · exact hq

theorem Exact.repeat (n : Nat) {p : CP α} (hp : Exact p) : Exact (CP.repeat n p) := by
  induction n with
  | zero => exact Exact.pure []
  | succ n ih => exact Exact.bind hp fun a => Exact.bind ih fun as => Exact.pure _

/-! ### do-notation normal forms -/

@[simp] theorem CP.bind_eq (p : CP α) (f : α → CP β) : (p >>= f) = CP.bind p f := rfl
@[simp] theorem CP.pure_eq (a : α) : (Pure.pure a : CP α) = CP.pure a := rfl
@[simp] theorem CP.seq_eq (p : CP PUnit) (q : CP β) : (do p; q) = CP.bind p fun _ => q := rfl

theorem length_encLE (w n : Nat) : (encLE w n).length = w := by
  induction w generalizing n with
  | zero => rfl
  | succ w ih => simp [encLE, ih]

@[simp] theorem length_encU8 (n : Nat) : (encU8 n).length = 1 := length_encLE 1 n
@[simp] theorem length_encU32 (n : Nat) : (encU32 n).length = 4 := length_encLE 4 n
@[simp] theorem length_encU64 (n : Nat) : (encU64 n).length = 8 := length_encLE 8 n
@[simp] theorem length_encI32 (z : Int) : (encI32 z).length = 4 := length_encLE 4 _

theorem leNat_encLE (w n : Nat) : leNat (encLE w n) = n % 256 ^ w := by
  induction w generalizing n with
  | zero => simp [encLE, leNat, Nat.mod_one]
  | succ w ih =>
    simp only [encLE, leNat, ih]
    have h1 : (UInt8.ofNat (n % 256)).toNat = n % 256 := by
      simp [UInt8.toNat_ofNat']
    rw [h1, Nat.pow_succ, Nat.mul_comm (256 ^ w) 256, Nat.mod_mul]

theorem leNat_encLE_of_lt {w n : Nat} (h : n < 256 ^ w) : leNat (encLE w n) = n := by
  rw [leNat_encLE, Nat.mod_eq_of_lt h]

theorem toI32_enc {z : Int} (h1 : -2147483648 ≤ z) (h2 : z < 2147483648) :
    toI32 ((z % 4294967296).toNat) = z := by
  unfold toI32
  split <;> omega

def Reads (p : CP α) (u : Bytes) (a : α) : Prop :=
  ∀ rest, ∃ n, p (u ++ rest) = .ok ((a, n), rest)

theorem Reads.pure (a : α) : Reads (CP.pure a) [] a := fun _ => ⟨0, rfl⟩

theorem Reads.pure_of_eq {a b : α} (h : a = b) : Reads (CP.pure a) [] b := h ▸ Reads.pure a

theorem Reads.bind {p : CP α} {f : α → CP β} {u w a b}
    (hp : Reads p u a) (hf : Reads (f a) w b) : Reads (CP.bind p f) (u ++ w) b := by
  intro rest
  obtain ⟨n, h1⟩ := hp (w ++ rest)
  obtain ⟨m, h2⟩ := hf rest
  refine ⟨n + m, ?_⟩
  unfold CP.bind
  rw [List.append_assoc, bind_ok h1]
  rw [bind_ok h2]
  rfl

theorem Reads.bind' {p : CP α} {f : α → CP β} {u w uw a b}
    (hp : Reads p u a) (hf : Reads (f a) w b) (h : uw = u ++ w) : Reads (CP.bind p f) uw b :=
  h ▸ Reads.bind hp hf

theorem Reads.of_eq {p : CP α} {u uw a} (h : Reads p u a) (e : uw = u) : Reads p uw a := e ▸ h

theorem Reads.map (f : α → β) {p : CP α} {u a} (hp : Reads p u a) : Reads (CP.map f p) u (f a) := by
  exact Reads.bind' (f := fun a => CP.pure (f a)) hp (Reads.pure (f a)) (List.append_nil u).symm

theorem pmap_ok {p : Parser α} {f : α → β} {inp a rest} (h : p inp = .ok (a, rest)) :
    (Parser.map f p) inp = .ok (f a, rest) := by
  unfold Parser.map
  rw [bind_ok h]
  rfl

theorem Reads.rd (sw : Switch) (t : Ty) {p : Parser α} {u a}
    (hp : ∀ rest, p (u ++ rest) = .ok (a, rest)) : Reads (CP.rd sw t p) u a :=
  fun rest => ⟨sw t, pmap_ok (hp rest)⟩

theorem le_enc {w n : Nat} (h : n < 256 ^ w) (rest : Bytes) :
    Parser.map leNat (bytes w) (encLE w n ++ rest) = .ok (n, rest) := by
  have hb := bytes_append (encLE w n) rest
  rw [length_encLE] at hb
  have := pmap_ok (f := leNat) hb
  rwa [leNat_encLE_of_lt h] at this

theorem u8_enc {n : Nat} (h : n < 256) (rest : Bytes) : u8 (encU8 n ++ rest) = .ok (n, rest) :=
  le_enc (w := 1) h rest

theorem u32le_enc {n : Nat} (h : n < 4294967296) (rest : Bytes) :
    u32le (encU32 n ++ rest) = .ok (n, rest) :=
  le_enc (w := 4) h rest

theorem u64le_enc {n : Nat} (h : n < 18446744073709551616) (rest : Bytes) :
    u64le (encU64 n ++ rest) = .ok (n, rest) :=
  le_enc (w := 8) h rest

theorem i32le_enc {z : Int} (h1 : -2147483648 ≤ z) (h2 : z < 2147483648) (rest : Bytes) :
    i32le (encI32 z ++ rest) = .ok (z, rest) := by
  have hlt : (z % 4294967296).toNat < 4294967296 := by omega
  have := pmap_ok (f := toI32) (u32le_enc hlt rest)
  rwa [toI32_enc h1 h2] at this

theorem Reads.rU8 (sw : Switch) {n : Nat} (h : n < 256) : Reads (CP.rU8 sw) (encU8 n) n :=
  Reads.rd sw _ (u8_enc h)
theorem Reads.rU32 (sw : Switch) {n : Nat} (h : n < 4294967296) : Reads (CP.rU32 sw) (encU32 n) n :=
  Reads.rd sw _ (u32le_enc h)
theorem Reads.rF32 (sw : Switch) {n : Nat} (h : n < 4294967296) : Reads (CP.rF32 sw) (encU32 n) n :=
  Reads.rd sw _ (u32le_enc h)
theorem Reads.rF64 (sw : Switch) {n : Nat} (h : n < 18446744073709551616) :
    Reads (CP.rF64 sw) (encU64 n) n :=
  Reads.rd sw _ (u64le_enc h)
theorem Reads.rI32 (sw : Switch) {z : Int} (h1 : -2147483648 ≤ z) (h2 : z < 2147483648) :
    Reads (CP.rI32 sw) (encI32 z) z :=
  Reads.rd sw _ (i32le_enc h1 h2)

theorem Reads.rRaw (b : Bytes) : Reads (CP.rRaw b.length) b b :=
  fun rest => ⟨b.length, pmap_ok (bytes_append b rest)⟩

theorem Reads.rRaw_of {n : Nat} (b : Bytes) (h : b.length = n) : Reads (CP.rRaw n) b b :=
  h ▸ Reads.rRaw b

theorem Reads.rLenBytes (sw : Switch) {b : Bytes} (h : b.length < 4294967296) :
    Reads (CP.rLenBytes sw) (encU32 b.length ++ b) b :=
  Reads.bind (Reads.rU32 sw h) (Reads.rRaw b)

theorem Reads.guard_true (e : Err) : Reads (CP.guard true e) [] () := Reads.pure ()

theorem Reads.guard {c : Bool} (h : c = true) (e : Err) : Reads (CP.guard c e) [] () := by
  subst h; exact Reads.pure ()

theorem Reads.guard_bind {c : Bool} {e : Err} {f : Unit → CP β} {w b} (h : c = true)
    (hf : Reads (f ()) w b) : Reads (CP.bind (CP.guard c e) f) w b :=
  Reads.bind (u := []) (Reads.guard h e) hf

theorem Reads.ofOption {o : Option α} {a : α} (h : o = some a) (e : Err) :
    Reads (CP.ofOption o e) [] a := by
  subst h; exact Reads.pure a

theorem Reads.ofExcept {o : Except Err α} {a : α} (h : o = .ok a) :
    Reads (CP.ofExcept o) [] a := by
  subst h; exact Reads.pure a

theorem Reads.repeat_map {p : CP β} (enc : α → Bytes) {g : α → β} (l : List α)
    (h : ∀ a ∈ l, Reads p (enc a) (g a)) :
    Reads (CP.repeat l.length p) (l.flatMap enc) (l.map g) := by
  induction l with
  | nil => exact Reads.pure []
  | cons a l ih =>
    exact Reads.bind (h a List.mem_cons_self)
      (Reads.bind' (ih fun b hb => h b (List.mem_cons_of_mem _ hb)) (Reads.pure _)
        (List.append_nil _).symm)

theorem Reads.repeat {p : CP α} (enc : α → Bytes) (l : List α)
    (h : ∀ a ∈ l, Reads p (enc a) a) : Reads (CP.repeat l.length p) (l.flatMap enc) l := by
  simpa using Reads.repeat_map (g := id) enc l h

theorem Reads.counted {sw : Switch} {p : CP α} (enc : α → Bytes) {l : List α}
    (hl : l.length < 4294967296) (h : ∀ a ∈ l, Reads p (enc a) a) :
    Reads (CP.bind (CP.rU32 sw) fun n => CP.repeat n p) (encU32 l.length ++ l.flatMap enc) l :=
  Reads.bind (Reads.rU32 sw hl) (Reads.repeat enc l h)

theorem Reads.sub {p : CP α} {u a} (h : Reads p u a) : Reads (CP.sub p) u a := by unfold CP.sub; exact h

theorem Reads.cond_true {p : CP α} {u a} (h : Reads p u a) (d : α) : Reads (CP.cond true p d) u a := h
theorem Reads.cond_false (p : CP α) (d : α) : Reads (CP.cond false p d) [] d := Reads.pure d

/-- a Bool written as one byte (the `trained` flag of IVF / PQ / IVFPQ) -/
theorem Reads.rFlag (sw : Switch) (t : Bool) :
    Reads (CP.rU8 sw) (encU8 (if t then 1 else 0)) (if t then 1 else 0) :=
  Reads.rU8 sw (by cases t <;> decide)

/-- the section that is written only when that flag is set; the condition is spelled as
    the decoders' `tb == 1` becomes after `Reads.rFlag` -/
theorem Reads.cond_flag {t : Bool} {q : CP α} {u : Bytes} {x d : α}
    (hq : t = true → Reads q u x) (hd : t = false → x = d) :
    Reads (CP.cond ((if t then 1 else 0 : Nat) == 1) q d) (if t then u else []) x := by
  cases t
  · exact hd rfl ▸ Reads.cond_false q d
  · exact Reads.cond_true (hq rfl) d

theorem Reads.opt_some {b : β} {p : β → CP α} {u a} (h : Reads (p b) u a) :
    Reads (CP.opt (some b) p) u (some a) := Reads.map some h
theorem Reads.opt_none (p : β → CP α) : Reads (CP.opt (none : Option β) p) [] none := Reads.pure none

def Rejects (p : CP α) (u : Bytes) : Prop := ∀ rest, IsErr (p (u ++ rest))

theorem Rejects.bind_left {p : CP α} {f : α → CP β} {u} (h : Rejects p u) (w : Bytes) :
    Rejects (CP.bind p f) (u ++ w) := by
  intro rest
  rw [List.append_assoc]
  exact bind_err (h _)

theorem Rejects.bind_right {p : CP α} {f : α → CP β} {u w a}
    (hp : Reads p u a) (hf : Rejects (f a) w) : Rejects (CP.bind p f) (u ++ w) := by
  intro rest
  obtain ⟨n, h1⟩ := hp (w ++ rest)
  unfold CP.bind
  rw [List.append_assoc, bind_ok h1]
  exact bind_err (hf rest)

theorem Rejects.guard_false {c : Bool} (h : c = false) (e : Err) : Rejects (CP.guard c e) [] := by
  subst h
  intro _
  exact IsErr.error _

/-- `p`, given `u` and whatever follows, fails with the error `o` names; `none` claims
    nothing (the decoder got past every check the statement is about) -/
def Fails (p : CP α) (u : Bytes) (o : Option Err) : Prop :=
  ∀ e ∈ o, ∀ rest, p (u ++ rest) = .error e

theorem Fails.none (p : CP α) (u : Bytes) : Fails p u none := fun _ h => nomatch h

theorem Fails.bind {p : CP α} {f : α → CP β} {u w a o}
    (hp : Reads p u a) (hf : Fails (f a) w o) : Fails (CP.bind p f) (u ++ w) o := by
  intro e he rest
  obtain ⟨n, h1⟩ := hp (w ++ rest)
  unfold CP.bind
  rw [List.append_assoc, bind_ok h1, Parser.bind, hf e he rest]

theorem Fails.guard {c : Bool} {e : Err} {f : Unit → CP β} {w o} (hf : Fails (f ()) w o) :
    Fails (CP.bind (CP.guard c e) f) w (if c then o else some e) := by
  cases c
  · intro e' he' rest
    cases he'
    rfl
  · exact Fails.bind (u := []) (Reads.guard_true e) hf

theorem Fails.guard_true {c : Bool} {e : Err} {f : Unit → CP β} {w o} (h : c = true)
    (hf : Fails (f ()) w o) : Fails (CP.bind (CP.guard c e) f) w o :=
  Fails.bind (u := []) (Reads.guard h e) hf

theorem Fails.guard_false {c : Bool} {f : Unit → CP β} {w} (h : c = false) (e : Err) :
    Fails (CP.bind (CP.guard c e) f) w (some e) := by
  subst h
  exact Fails.guard (Fails.none _ w)

theorem Fails.left {p : CP α} {f : α → CP β} {u o} (h : Fails p u o) : Fails (CP.bind p f) u o :=
  fun e he rest => by unfold CP.bind; rw [Parser.bind, h e he rest]

theorem Fails.apply {p : CP α} {u : Bytes} {e : Err} {inp rest : Bytes} (h : Fails p u (some e))
    (hi : inp = u ++ rest) : p inp = .error e :=
  hi ▸ h e rfl rest

theorem Fails.fail (e : Err) (u : Bytes) : Fails (CP.fail e : CP α) u (some e) :=
  fun _ h _ => Option.mem_some_iff.1 h ▸ rfl

theorem Fails.of_eq {p : CP α} {u u' o} (h : Fails p u o) (hu : u' = u) : Fails p u' o := hu ▸ h

/-! ### what every `ReadFrom` starts with: a 4-byte magic and the format version 1
    No model decoder calls `preamble`: after `unfold decodeC` the first four binds of each
    decoder unify with it by unfolding. -/

def preamble (magic : Bytes) (sw : Switch) (f : Unit → CP β) : CP β :=
  CP.bind (CP.rRaw 4) fun m => CP.bind (CP.guard (m == magic) .magic) fun _ =>
    CP.bind (CP.rU32 sw) fun ver => CP.bind (CP.guard (ver == 1) .version) f

theorem Reads.preamble {magic : Bytes} (hm : magic.length = 4) (sw : Switch) {f : Unit → CP β}
    {w b} (hf : Reads (f ()) w b) :
    Reads (preamble magic sw f) (magic ++ (encU32 1 ++ w)) b :=
  Reads.bind (Reads.rRaw_of magic hm) (Reads.guard_bind (beq_self_eq_true magic)
    (Reads.bind (Reads.rU32 sw (by decide)) (Reads.guard_bind rfl hf)))

theorem Fails.preamble {magic : Bytes} (hm : magic.length = 4) (sw : Switch) {f : Unit → CP β}
    {w o} (hf : Fails (f ()) w o) : Fails (preamble magic sw f) (magic ++ (encU32 1 ++ w)) o :=
  Fails.bind (Reads.rRaw_of magic hm) (Fails.guard_true (beq_self_eq_true magic)
    (Fails.bind (Reads.rU32 sw (by decide)) (Fails.guard_true rfl hf)))

def ChecksPreamble (magic : Bytes) (d : CP α) : Prop :=
  (∀ inp, inp.take 4 ≠ magic → IsErr (d inp)) ∧
  ∀ v rest, v ≠ 1 → v < 4294967296 → IsErr (d (magic ++ (encU32 v ++ rest)))

theorem ChecksPreamble.preamble {magic : Bytes} (hm : magic.length = 4) (sw : Switch)
    (f : Unit → CP β) : ChecksPreamble magic (preamble magic sw f) := by
  refine ⟨fun inp h => ?_, fun v rest hv hlt => ⟨.version, ?_⟩⟩
  · unfold Comet.Codec.preamble CP.bind CP.rRaw Parser.map Parser.bind bytes
    by_cases hl : inp.length < 4
    · exact ⟨.eof, by simp [hl]⟩
    · have hb : (inp.take 4 == magic) = false := beq_false_of_ne h
      exact ⟨.magic, by simp [hl, Parser.pure, hb, CP.guard, CP.fail, Parser.fail]⟩
  · exact Fails.apply (rest := rest) (Fails.bind (Reads.rRaw_of magic hm)
      (Fails.guard_true (beq_self_eq_true magic) (Fails.bind (Reads.rU32 sw hlt)
      (Fails.guard_false (w := []) (beq_false_of_ne hv) _)))) (by simp)

theorem ChecksPreamble.bind {magic : Bytes} {d : CP α} (h : ChecksPreamble magic d)
    (k : α → CP β) : ChecksPreamble magic (CP.bind d k) :=
  ⟨fun inp hne => bind_err (h.1 inp hne), fun v rest hv hlt => bind_err (h.2 v rest hv hlt)⟩

@[simp] theorem flat_append (a b : List Item) : flat (a ++ b) = flat a ++ flat b := by
  simp [flat, List.flatMap_append]
@[simp] theorem flat_nil : flat [] = [] := rfl
@[simp] theorem flat_cons (it : Item) (its : List Item) : flat (it :: its) = it.data ++ flat its := by
  simp [flat]
@[simp] theorem flat_flatMap (l : List α) (f : α → List Item) :
    flat (l.flatMap f) = l.flatMap fun a => flat (f a) := by
  induction l with
  | nil => rfl
  | cons a l ih => simp [List.flatMap_cons, ih]
@[simp] theorem wU8_data (n : Nat) : (wU8 n).data = encU8 n := rfl
@[simp] theorem wU32_data (n : Nat) : (wU32 n).data = encU32 n := rfl
@[simp] theorem wI32_data (z : Int) : (wI32 z).data = encI32 z := rfl
@[simp] theorem wF32_data (n : Nat) : (wF32 n).data = encU32 n := rfl
@[simp] theorem wF64_data (n : Nat) : (wF64 n).data = encU64 n := rfl
@[simp] theorem wRaw_data (b : Bytes) : (wRaw b).data = b := rfl
@[simp] theorem flat_wLenBytes (b : Bytes) : flat (wLenBytes b) = encU32 b.length ++ b := by
  simp [wLenBytes]
@[simp] theorem flat_map_wF32 (l : List Nat) : flat (l.map wF32) = l.flatMap encU32 := by
  induction l with
  | nil => rfl
  | cons a l ih => simp [ih, List.flatMap_cons]
@[simp] theorem flat_map_wU32 (l : List Nat) : flat (l.map wU32) = l.flatMap encU32 := by
  induction l with
  | nil => rfl
  | cons a l ih => simp [ih, List.flatMap_cons]

theorem reported_append (sw : Switch) (a b : List Item) :
    reported sw (a ++ b) = reported sw a + reported sw b := by
  simp [reported, List.map_append, List.sum_append]

theorem reported_eq_length (sw : Switch) (its : List Item)
    (h : ∀ it ∈ its, it.counted sw = it.data.length) : reported sw its = (flat its).length := by
  induction its with
  | nil => rfl
  | cons it its ih =>
    have h1 := h it (List.mem_cons_self)
    have h2 := ih fun x hx => h x (List.mem_cons_of_mem _ hx)
    simp only [reported, List.map_cons, List.sum_cons, flat, List.flatMap_cons,
      List.length_append] at *
    omega

theorem mkMap_of_nodup [BEq κ] [LawfulBEq κ] (l : List (κ × ν)) (h : (l.map (·.1)).Nodup) :
    mkMap l = l := by
  unfold mkMap
  suffices ∀ (acc : List (κ × ν)), (∀ e ∈ acc, ∀ kv ∈ l, ¬ e.1 = kv.1) → (l.map (·.1)).Nodup →
      l.foldl (fun m kv => m.filter (fun e => !(e.1 == kv.1)) ++ [kv]) acc = acc ++ l by
    simpa using this [] (by simp) h
  clear h
  induction l with
  | nil => intro acc _ _; simp
  | cons kv l ih =>
    intro acc hacc hnd
    simp only [List.map_cons, List.nodup_cons] at hnd
    simp only [List.foldl_cons]
    have hf : acc.filter (fun e => !(e.1 == kv.1)) = acc := by
      apply List.filter_eq_self.2
      intro e he
      have := hacc e he kv (List.mem_cons_self)
      simp [this]
    rw [hf, ih (acc ++ [kv]) ?_ hnd.2]
    · simp
    · intro e he kv' hkv'
      rcases List.mem_append.1 he with h1 | h1
      · exact hacc e h1 kv' (List.mem_cons_of_mem _ hkv')
      · simp only [List.mem_singleton] at h1
        subst h1
        intro heq
        apply hnd.1
        rw [heq]
        exact List.mem_map_of_mem hkv'

/-- what every decoder is shown to be: `Good`, and reporting what it consumed.  The
    leaves of a decoder are found as instances; along its spine of `CP.bind`s the proof
    is `Sound.bind` once per bind (a single instance query for a whole decoder exceeds
    the default instance size bound). -/
class Sound (p : CP α) : Prop where
  good : Good p
  exact : Exact p

namespace Sound

instance pure (a : α) : Sound (CP.pure a) := ⟨Good.pure _, Exact.pure a⟩
instance fail (e : Err) : Sound (CP.fail e : CP α) := ⟨Good.fail e, Exact.fail e⟩

theorem bind {p : CP α} {f : α → CP β} [hp : Sound p] (hf : ∀ a, Sound (f a)) :
    Sound (CP.bind p f) :=
  ⟨Good.bind hp.good fun an => Good.bind (hf an.1).good fun _ => Good.pure _,
    Exact.bind hp.exact fun a => (hf a).exact⟩

instance map (f : α → β) {p : CP α} [Sound p] : Sound (CP.map f p) := bind fun _ => pure _
instance guard (c : Bool) (e : Err) : Sound (CP.guard c e) := by
  cases c
  · exact fail e
  · exact pure ()
instance ofExcept (o : Except Err α) : Sound (CP.ofExcept o) := by
  cases o
  · exact fail _
  · exact pure _
instance cond (c : Bool) {p : CP α} [hp : Sound p] (d : α) : Sound (CP.cond c p d) := by
  cases c
  · exact pure d
  · exact hp
instance opt (o : Option β) {p : β → CP α} [∀ b, Sound (p b)] : Sound (CP.opt o p) := by
  cases o
  · exact pure none
  · exact map some
instance sub {p : CP α} [hp : Sound p] : Sound (CP.sub p) := by unfold CP.sub; exact hp
instance rRaw (n : Nat) : Sound (CP.rRaw n) :=
  ⟨Good.map _ (Good.bytes n), Exact.of_consumes (Consumes.bytes n)⟩
instance «repeat» (n : Nat) {p : CP α} [Sound p] : Sound (CP.repeat n p) := by
  induction n with
  | zero => exact pure []
  | succ n ih => exact bind fun _ => bind fun _ => pure _

/-! the typed reads are sound for a switch that counts the type with its width: each
    kind states this of its own `swR` -/
theorem rd {sw : Switch} {t : Ty} {p : Parser α} {k : Nat} (hg : Good p) (hc : Consumes p k)
    (h : sw t = k) : Sound (CP.rd sw t p) :=
  ⟨Good.map _ hg, by subst h; exact Exact.of_consumes hc⟩
theorem rU8 {sw : Switch} (h : sw .u8 = 1) : Sound (CP.rU8 sw) :=
  rd Good.u8 (.map _ (.bytes 1)) h
theorem rU32 {sw : Switch} (h : sw .u32 = 4) : Sound (CP.rU32 sw) :=
  rd Good.u32le (.map _ (.bytes 4)) h
theorem rI32 {sw : Switch} (h : sw .i32 = 4) : Sound (CP.rI32 sw) :=
  rd Good.i32le (.map _ (.map _ (.bytes 4))) h
theorem rF32 {sw : Switch} (h : sw .f32 = 4) : Sound (CP.rF32 sw) :=
  rd Good.f32bits (.map _ (.bytes 4)) h
theorem rF64 {sw : Switch} (h : sw .f64 = 8) : Sound (CP.rF64 sw) :=
  rd Good.f64bits (.map _ (.bytes 8)) h
instance rLenBytes {sw : Switch} [Sound (CP.rU32 sw)] : Sound (CP.rLenBytes sw) :=
  bind fun _ => inferInstance

theorem preamble (magic : Bytes) {sw : Switch} [Sound (CP.rU32 sw)] {f : Unit → CP β}
    (hf : ∀ u, Sound (f u)) : Sound (Codec.preamble magic sw f) :=
  bind fun _ => bind fun _ => bind fun _ => bind hf

end Sound

/-! ### what a round trip gives for a sound decoder -/

theorem strict_prefix_of_reads {p : CP α} [hs : Sound p] {u : Bytes} {a : α} (hr : Reads p u a)
    (n : Nat) (hn : n < u.length) : IsErr (p (u.take n)) := by
  obtain ⟨c, h⟩ := hr []
  refine hs.good.strict u [] (a, c) h (u.take n) (List.take_prefix n u) fun he => ?_
  have := congrArg List.length he
  simp only [List.length_take] at this
  omega

theorem count_of_reads {p : CP α} [hs : Sound p] {u : Bytes} {a : α} (hr : Reads p u a)
    (rest : Bytes) : p (u ++ rest) = .ok ((a, u.length), rest) := by
  obtain ⟨c, h⟩ := hr rest
  have := hs.exact _ _ _ _ h
  simp only [List.length_append] at this
  have hc : c = u.length := by omega
  rw [h, hc]

end Comet.Codec
