/-
  Helper lemmas for the flat codec (Comet/Codec/Flat.lean): the decoder is `Sound` and
  reads back what the encoder printed.  Also `BlobCodec.Lawful`, shared by all kinds.
-/
import CometProofs.Codec.Parser
import Comet.Codec.Flat
namespace Comet.Codec

/-- the assumed behaviour of the roaring library on the bitmaps in `dom`:
    `UnmarshalBinary(ToBytes b) = b`, and a blob is shorter than 4 GiB -/
structure BlobCodec.Lawful (bm : BlobCodec) (dom : List Nat → Prop) : Prop where
  rt : ∀ b, dom b → bm.dec (bm.enc b) = .ok b
  small : ∀ b, dom b → (bm.enc b).length < 4294967296

theorem Reads.blob {bm : BlobCodec} {dom : List Nat → Prop} (hbm : bm.Lawful dom) {sw : Switch}
    {b : List Nat} (hb : dom b) {f : List Nat → CP β} {w x} (hf : Reads (f b) w x) :
    Reads (CP.bind (CP.rLenBytes sw) fun blob => CP.bind (CP.ofExcept (bm.dec blob)) f)
      (encU32 (bm.enc b).length ++ bm.enc b ++ w) x :=
  Reads.bind (Reads.rLenBytes sw (hbm.small b hb)) (Reads.bind (Reads.ofExcept (hbm.rt b hb)) hf)

namespace Flat

instance : Sound (CP.rU32 swR) := .rU32 rfl
instance : Sound (CP.rF32 swR) := .rF32 rfl

instance sound_decVec (dim : Nat) : Sound (decVec dim) := by
  unfold decVec
  exact .bind fun _ => .bind fun _ => .bind fun _ => .bind fun _ => .pure _

instance sound_decodeC (bm : BlobCodec) (p : Params) : Sound (decodeC bm p) := by
  unfold decodeC
  exact .preamble _ fun _ => .bind fun _ => .bind fun _ => .bind fun _ => .bind fun _ =>
    .bind fun _ => .bind fun _ => .bind fun _ => .bind fun _ => .pure _

theorem good_decVec (dim : Nat) : Good (decVec dim) := (sound_decVec dim).good

theorem exact_decVec (dim : Nat) : Exact (decVec dim) := (sound_decVec dim).exact

theorem reads_decVec (dim : Nat) (p : Nat × List Nat) (h1 : p.1 < 4294967296)
    (h2 : p.2.length = dim) (hd : dim < 4294967296) (h3 : ∀ x ∈ p.2, x < 4294967296) :
    Reads (decVec dim) (flat (vecItems p)) p := by
  subst h2
  unfold decVec
  refine Reads.of_eq
    (Reads.bind (Reads.rU32 _ h1)
    (Reads.bind (Reads.rU32 _ hd)
    (Reads.guard_bind (beq_self_eq_true _)
    (Reads.bind (Reads.repeat encU32 p.2 fun x hx => Reads.rF32 _ (h3 x hx))
    (Reads.pure _))))) ?_
  simp [vecItems]

theorem reads_decodeC (bm : BlobCodec) (dom : List Nat → Prop) (hbm : bm.Lawful dom)
    (s : State) (hwf : wf s = true) (hdel : dom s.deleted) :
    Reads (decodeC bm s.params) (encodeRaw bm s) s := by
  simp only [wf, Bool.and_eq_true, decide_eq_true_eq, List.all_eq_true] at hwf
  obtain ⟨⟨⟨hdim, hmk⟩, hn⟩, hv⟩ := hwf
  unfold decodeC
  refine Reads.of_eq
    (Reads.preamble rfl _
    (Reads.bind (Reads.rU32 _ hdim)
    (Reads.guard_bind (beq_self_eq_true _)
    (Reads.bind (Reads.rLenBytes _ hmk)
    (Reads.guard_bind (beq_self_eq_true _)
    (Reads.bind (Reads.rU32 _ hn)
    (Reads.bind (Reads.repeat _ s.vecs fun p hp =>
        reads_decVec s.dim p (hv p hp).1.1 (hv p hp).1.2 hdim (hv p hp).2)
    (Reads.blob hbm hdel
    (Reads.pure _))))))))) ?_
  simp [encodeRaw, items]

theorem flush_params (s : State) : (flush s).params = s.params := by
  unfold flush; split <;> rfl

theorem flush_deleted (s : State) : (flush s).deleted = [] := by
  unfold flush
  split
  · next h => simpa using h
  · rfl

theorem wf_flush (s : State) (h : wf s = true) : wf (flush s) = true := by
  unfold flush
  split
  · exact h
  · simp only [wf, Bool.and_eq_true, decide_eq_true_eq, List.all_eq_true] at h ⊢
    exact ⟨⟨h.1.1, Nat.lt_of_le_of_lt (List.length_filter_le _ _) h.1.2⟩,
      fun p hp => h.2 p (List.mem_filter.1 hp).1⟩

theorem flush_of_nil (s : State) (h : s.deleted = []) : flush s = s := by
  unfold flush; simp [h]

theorem flush_flush (s : State) : flush (flush s) = flush s :=
  flush_of_nil _ (flush_deleted s)

theorem removed_absent (s : State) : ∀ id ∈ s.deleted, id ∉ streamIds (flush s) := by
  intro id hid
  unfold flush streamIds
  split
  · next h => simp [List.isEmpty_iff.1 h] at hid
  · simp only [List.mem_map, List.mem_filter, not_exists, not_and]
    intro p hp hpid
    subst hpid
    simp [hid] at hp

/-- `WriteTo`'s stream read back by a receiver constructed like the source -/
theorem reads_encode (bm : BlobCodec) (dom : List Nat → Prop) (hbm : bm.Lawful dom) (h0 : dom [])
    (s : State) (hwf : wf s = true) : Reads (decodeC bm s.params) (encode bm s) (flush s) := by
  have := reads_decodeC bm dom hbm (flush s) (wf_flush s hwf) (flush_deleted s ▸ h0)
  rwa [flush_params] at this

end Flat
end Comet.Codec
