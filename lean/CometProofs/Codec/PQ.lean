/- Helper lemmas for the PQ and IVFPQ codecs (Comet/Codec/PQ.lean, IVFPQ.lean).  Their
   float-list and entry decoders are definitionally those of IVF resp. PQ, whose facts
   are used as they are. -/
import CometProofs.Codec.IVF
import Comet.Codec.PQ
import Comet.Codec.IVFPQ
namespace Comet.Codec.PQ
open Comet.Codec

instance : Sound (CP.rU32 swR) := .rU32 rfl
instance : Sound (CP.rU8 swR) := .rU8 rfl

instance sound_decCodebook : Sound decCodebook := IVF.sound_decCentroid

instance sound_decEntry (m : Nat) : Sound (decEntry m) := by
  unfold decEntry
  exact .bind fun _ => .bind fun _ => .pure _

instance sound_decodeC (bm : BlobCodec) (p : Params) : Sound (decodeC bm p) := by
  unfold decodeC
  exact .preamble _ fun _ => .bind fun _ => .bind fun _ => .bind fun _ => .bind fun _ =>
    .bind fun _ => .bind fun _ => .bind fun _ => .bind fun _ => .bind fun _ => .bind fun _ =>
    .bind fun _ => .bind fun _ => .bind fun _ => .bind fun _ => .bind fun _ => .bind fun _ =>
    .bind fun _ => .bind fun _ => .pure _

theorem reads_decEntry (m : Nat) (e : Entry) (h1 : e.id < 4294967296) (h2 : e.code.length = m) :
    Reads (decEntry m) (flat (entryItems e)) { e with vec := none } := by
  subst h2
  unfold decEntry
  refine Reads.of_eq
    (Reads.bind (Reads.rU32 _ h1)
    (Reads.bind (Reads.rRaw e.code)
    (Reads.pure _))) ?_
  simp [entryItems]

theorem reads_decodeC (bm : BlobCodec) (dom : List Nat → Prop) (hbm : bm.Lawful dom)
    (s : State) (hwf : wf s = true) (hdel : dom s.deleted) :
    Reads (decodeC bm s.params) (encodeRaw bm s) (forget s) := by
  simp only [wf, Bool.and_eq_true, decide_eq_true_eq, List.all_eq_true] at hwf
  obtain ⟨⟨⟨⟨⟨⟨⟨⟨⟨hdim, hmk⟩, hm⟩, hnb⟩, hks⟩, hds⟩, htr⟩, hc⟩, hel⟩, he⟩ := hwf
  unfold decodeC
  refine Reads.of_eq
    (Reads.preamble rfl _
    (Reads.bind (Reads.rU32 _ hdim)
    (Reads.guard_bind (beq_self_eq_true _)
    (Reads.bind (Reads.rLenBytes _ hmk)
    (Reads.guard_bind (beq_self_eq_true _)
    (Reads.bind (Reads.rU32 _ hm)
    (Reads.bind (Reads.rU32 _ hnb)
    (Reads.bind (Reads.rU32 _ hks)
    (Reads.bind (Reads.rU32 _ hds)
    (Reads.guard_bind (beq_self_eq_true _)
    (Reads.guard_bind (beq_self_eq_true _)
    (Reads.guard_bind (beq_self_eq_true _)
    (Reads.guard_bind (beq_self_eq_true _)
    (Reads.bind (Reads.rFlag _ s.trained)
    (Reads.bind (Reads.cond_flag
      (fun ht => by
        have := Reads.repeat (fun c => flat (codebookItems c)) s.codebooks fun c hc' =>
          IVF.reads_decCentroid c (hc c hc').1 (hc c hc').2
        rwa [show s.codebooks.length = s.m by simpa [ht] using htr] at this)
      (fun ht => by simpa [ht] using htr))
    (Reads.bind (Reads.rU32 _ hel)
    (Reads.bind (Reads.repeat_map _ s.entries fun e he' => reads_decEntry _ e (he e he').1 (he e he').2)
    (Reads.blob hbm hdel
    (Reads.pure_of_eq ?_))))))))))))))))))) ?_
  · cases s with | mk d mk m nb ks ds tr c e del => cases tr <;> rfl
  · simp [encodeRaw, items, apply_ite flat]

theorem flush_params (s : State) : (flush s).params = s.params := by
  unfold flush; split <;> rfl

theorem flush_deleted (s : State) : (flush s).deleted = [] := by
  unfold flush
  split
  · next h => simpa using h
  · rfl

theorem flush_of_nil (s : State) (h : s.deleted = []) : flush s = s := by
  unfold flush; simp [h]

theorem flush_flush (s : State) : flush (flush s) = flush s :=
  flush_of_nil _ (flush_deleted s)

theorem forget_params (s : State) : (forget s).params = s.params := rfl

theorem streamIds_forget (s : State) : streamIds (forget s) = streamIds s := by
  simp [streamIds, forget, List.map_map, Function.comp_def]

theorem wf_flush (s : State) (h : wf s = true) : wf (flush s) = true := by
  unfold flush
  split
  · exact h
  · simp only [wf, Bool.and_eq_true, decide_eq_true_eq, List.all_eq_true] at h ⊢
    exact ⟨⟨h.1.1, Nat.lt_of_le_of_lt (List.length_filter_le _ _) h.1.2⟩,
      fun e he => h.2 e (List.mem_filter.1 he).1⟩

theorem removed_absent (s : State) : ∀ id ∈ s.deleted, id ∉ streamIds (flush s) := by
  intro id hid
  unfold flush streamIds
  split
  · next h => simp [List.isEmpty_iff.1 h] at hid
  · simp only [List.mem_map, List.mem_filter, not_exists, not_and]
    intro e he heid
    subst heid
    simp [hid] at he

/-- `WriteTo`'s stream read back by a receiver constructed like the source -/
theorem reads_encode (bm : BlobCodec) (dom : List Nat → Prop) (hbm : bm.Lawful dom) (h0 : dom [])
    (s : State) (hwf : wf s = true) : Reads (decodeC bm s.params) (encode bm s) (forget (flush s)) := by
  have := reads_decodeC bm dom hbm (flush s) (wf_flush s hwf) (flush_deleted s ▸ h0)
  rwa [flush_params] at this

end Comet.Codec.PQ

namespace Comet.Codec.IVFPQ
open Comet.Codec
open Comet.Codec.PQ (Entry)

instance : Sound (CP.rU32 swR) := .rU32 rfl
instance : Sound (CP.rU8 swR) := .rU8 rfl

instance sound_decF32List : Sound decF32List := IVF.sound_decCentroid

instance sound_decEntry (m : Nat) : Sound (decEntry m) := PQ.sound_decEntry m

instance sound_decList (m : Nat) : Sound (decList m) := by
  unfold decList
  exact .bind fun _ => inferInstance

instance sound_decTrained (p : Params) : Sound (decTrained p) := by
  unfold decTrained
  exact .bind fun _ => .bind fun _ => .pure _

instance sound_decodeC (bm : BlobCodec) (p : Params) (cb : List (List Nat)) : Sound (decodeC bm p cb) := by
  unfold decodeC
  exact .preamble _ fun _ => .bind fun _ => .bind fun _ => .bind fun _ => .bind fun _ =>
    .bind fun _ => .bind fun _ => .bind fun _ => .bind fun _ => .bind fun _ => .bind fun _ =>
    .bind fun _ => .bind fun _ => .bind fun _ => .bind fun _ => .bind fun _ => .bind fun _ =>
    .bind fun _ => .bind fun _ => .bind fun _ => .bind fun _ => .pure _

theorem reads_decList (m : Nat) (l : List Entry) (h1 : l.length < 4294967296)
    (h2 : ∀ e ∈ l, e.id < 4294967296 ∧ e.code.length = m) :
    Reads (decList m) (flat (listItems l)) (l.map fun e => { e with vec := none }) := by
  unfold decList
  refine Reads.of_eq
    (Reads.bind (Reads.rU32 _ h1)
      (Reads.repeat_map (fun e => flat (entryItems e)) l
        fun e he => PQ.reads_decEntry m e (h2 e he).1 (h2 e he).2)) ?_
  simp [listItems]

theorem reads_decodeC (bm : BlobCodec) (dom : List Nat → Prop) (hbm : bm.Lawful dom)
    (s : State) (hwf : wf s = true) (hdel : dom s.deleted) :
    Reads (decodeC bm s.params []) (encodeRaw bm s) (forget s) := by
  simp only [wf, Bool.and_eq_true, decide_eq_true_eq, List.all_eq_true] at hwf
  obtain ⟨⟨⟨⟨⟨⟨⟨⟨⟨⟨⟨hdim, hmk⟩, hnl⟩, hm⟩, hnb⟩, hks⟩, hds⟩, htr⟩, hc⟩, hcb⟩, hll⟩, hl⟩ := hwf
  have hlists (cs : List (List Nat)) (h : ∀ c ∈ cs, c.length < 4294967296 ∧ f32s c = true) :=
    Reads.repeat (fun c => flat (f32ListItems c)) cs fun c hc' =>
      IVF.reads_decCentroid c (h c hc').1 (h c hc').2
  unfold decodeC
  refine Reads.of_eq
    (Reads.preamble rfl _
    (Reads.bind (Reads.rU32 _ hdim)
    (Reads.guard_bind (beq_self_eq_true _)
    (Reads.bind (Reads.rLenBytes _ hmk)
    (Reads.guard_bind (beq_self_eq_true _)
    (Reads.bind (Reads.rU32 _ hnl)
    (Reads.bind (Reads.rU32 _ hm)
    (Reads.bind (Reads.rU32 _ hnb)
    (Reads.bind (Reads.rU32 _ hks)
    (Reads.bind (Reads.rU32 _ hds)
    (Reads.guard_bind (beq_self_eq_true _)
    (Reads.guard_bind (beq_self_eq_true _)
    (Reads.guard_bind (beq_self_eq_true _)
    (Reads.guard_bind (beq_self_eq_true _)
    (Reads.guard_bind (beq_self_eq_true _)
    (Reads.bind (Reads.rFlag _ s.trained)
    (Reads.bind (Reads.cond_flag
      (fun ht => by
        have hlen : s.centroids.length = s.nlist ∧ s.codebooks.length = s.m := by
          simpa [ht] using htr
        have h1 := hlists s.centroids hc
        have h2 := hlists s.codebooks hcb
        rw [hlen.1] at h1
        rw [hlen.2] at h2
        unfold decTrained
        exact Reads.bind h1 (Reads.bind h2 (Reads.pure _)))
      (fun ht => by
        have : s.centroids = [] ∧ s.codebooks = [] := by simpa [ht] using htr
        rw [this.1, this.2]))
    (Reads.bind (Reads.rU32 _ hll)
    (Reads.bind (Reads.repeat_map _ s.lists fun l hl' =>
        reads_decList _ l (hl l hl').1 (hl l hl').2)
    (Reads.blob hbm hdel
    (Reads.pure_of_eq ?_))))))))))))))))))))) ?_
  · cases s with | mk d mk nl m nb ks ds tr c cb l del => cases tr <;> rfl
  · simp [encodeRaw, items, apply_ite flat]

theorem flush_params (s : State) : (flush s).params = s.params := by
  unfold flush; split <;> rfl

theorem flush_deleted (s : State) : (flush s).deleted = [] := by
  unfold flush
  split
  · next h => simpa using h
  · rfl

theorem flush_of_nil (s : State) (h : s.deleted = []) : flush s = s := by
  unfold flush; simp [h]

theorem flush_flush (s : State) : flush (flush s) = flush s :=
  flush_of_nil _ (flush_deleted s)

theorem forget_params (s : State) : (forget s).params = s.params := rfl

theorem streamIds_forget (s : State) : streamIds (forget s) = streamIds s := by
  simp [streamIds, forget, List.flatMap_map, List.map_map, Function.comp_def]

theorem wf_flush (s : State) (h : wf s = true) : wf (flush s) = true := by
  unfold flush
  split
  · exact h
  · simp only [wf, Bool.and_eq_true, decide_eq_true_eq, List.all_eq_true, List.length_map,
      List.mem_map, forall_exists_index, and_imp, forall_apply_eq_imp_iff₂] at h ⊢
    exact ⟨h.1, fun l hl => ⟨Nat.lt_of_le_of_lt (List.length_filter_le _ _) (h.2 l hl).1,
      fun e he => (h.2 l hl).2 e (List.mem_filter.1 he).1⟩⟩

theorem removed_absent (s : State) : ∀ id ∈ s.deleted, id ∉ streamIds (flush s) := by
  intro id hid
  unfold flush streamIds
  split
  · next h => simp [List.isEmpty_iff.1 h] at hid
  · simp only [List.mem_flatMap, List.mem_map, not_exists, not_and]
    intro l' hl e he heid
    obtain ⟨l, _, rfl⟩ := hl
    subst heid
    simp [hid] at he

/-- `WriteTo`'s stream read back by a receiver constructed like the source -/
theorem reads_encode (bm : BlobCodec) (dom : List Nat → Prop) (hbm : bm.Lawful dom) (h0 : dom [])
    (s : State) (hwf : wf s = true) : Reads (decodeC bm s.params []) (encode bm s) (forget (flush s)) := by
  have := reads_decodeC bm dom hbm (flush s) (wf_flush s hwf) (flush_deleted s ▸ h0)
  rwa [flush_params] at this

end Comet.Codec.IVFPQ
