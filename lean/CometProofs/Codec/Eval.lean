/-
  What the round trips and the writers' item lists give at the level of `decode`
  (`CP.run`) and of the reported counts.
-/
import CometProofs.Codec.Parser
namespace Comet.Codec

theorem CP.run_ok {p : CP α} {inp a n rest} (h : p inp = .ok ((a, n), rest)) :
    CP.run p inp = .ok (a, rest) :=
  pmap_ok h

theorem CP.run_isErr {p : CP α} {inp} (h : IsErr (p inp)) : IsErr (CP.run p inp) :=
  bind_err h

theorem CP.pure_apply {α : Type} (a : α) (inp : Bytes) : CP.pure a inp = .ok ((a, 0), inp) := rfl
theorem CP.fail_apply {α : Type} (e : Err) (inp : Bytes) : (CP.fail e : CP α) inp = .error e := rfl
theorem CP.repeat_zero {α : Type} (p : CP α) : CP.repeat 0 p = CP.pure [] := rfl
theorem CP.repeat_one {α : Type} (p : CP α) :
    CP.repeat 1 p = CP.bind p fun a => CP.bind (CP.pure []) fun as => CP.pure (a :: as) := rfl

theorem CP.guard_true_apply (e : Err) (inp : Bytes) : CP.guard true e inp = .ok (((), 0), inp) := rfl

theorem run_of_reads {p : CP α} {u : Bytes} {a : α} (hr : Reads p u a) (rest : Bytes) :
    CP.run p (u ++ rest) = .ok (a, rest) := by
  obtain ⟨n, h⟩ := hr rest
  exact CP.run_ok h

theorem strict_prefix_run {p : CP α} [Sound p] {u : Bytes} {a : α} (hr : Reads p u a)
    (n : Nat) (hn : n < u.length) : IsErr (CP.run p (u.take n)) :=
  CP.run_isErr (strict_prefix_of_reads hr n hn)

def itemOk (sw : Switch) (it : Item) : Bool :=
  match it.ty with
  | some t => sw t == it.data.length
  | none => true

theorem all_ite {α : Type} (c : Prop) [Decidable c] (a b : List α) (f : α → Bool) :
    (if c then a else b).all f = if c then a.all f else b.all f := by
  split <;> rfl

theorem reported_of_all (sw : Switch) (its : List Item) (h : its.all (itemOk sw) = true) :
    reported sw its = (flat its).length := by
  apply reported_eq_length
  intro it hit
  have := List.all_eq_true.1 h it hit
  unfold itemOk at this
  unfold Item.counted
  split at this
  · next t ht => rw [ht]; exact beq_iff_eq.1 this
  · next ht => rw [ht]

@[simp] theorem itemOk_wU32 (sw : Switch) (n : Nat) : itemOk sw (wU32 n) = (sw .u32 == 4) := by
  simp [itemOk, wU32]
@[simp] theorem itemOk_wU8 (sw : Switch) (n : Nat) : itemOk sw (wU8 n) = (sw .u8 == 1) := by
  simp [itemOk, wU8]
@[simp] theorem itemOk_wF32 (sw : Switch) (n : Nat) : itemOk sw (wF32 n) = (sw .f32 == 4) := by
  simp [itemOk, wF32]
@[simp] theorem itemOk_wF64 (sw : Switch) (n : Nat) : itemOk sw (wF64 n) = (sw .f64 == 8) := by
  simp [itemOk, wF64]
@[simp] theorem itemOk_wI32 (sw : Switch) (z : Int) : itemOk sw (wI32 z) = (sw .i32 == 4) := by
  simp [itemOk, wI32]
@[simp] theorem itemOk_wRaw (sw : Switch) (b : Bytes) : itemOk sw (wRaw b) = true := rfl

end Comet.Codec
