/-
  A lawful blob codec (length-prefixed list of u32) showing that the hypotheses
  `BlobCodec.Lawful` / `Meta.NonEmpty` of the C07 / C16 theorems are satisfiable on a
  non-trivial domain, and small concrete states used by the non-vacuity examples.
-/
import CometProofs.Codec.Eval
import CometProofs.Codec.Hybrid
namespace Comet.Codec.Example
open Comet.Codec

def sw : Switch := fun t => t.width

def listP : CP (List Nat) := CP.bind (CP.rU32 sw) fun n => CP.repeat n (CP.rU32 sw)

def listCodec : BlobCodec where
  enc ids := encU32 ids.length ++ ids.flatMap encU32
  dec b := match CP.run listP b with
    | .ok (ids, []) => .ok ids
    | _ => .error .blob

def dom (ids : List Nat) : Prop := ids.length ≤ 1000 ∧ ∀ x ∈ ids, x < 4294967296

instance : DecidablePred dom := fun ids => by unfold dom; infer_instance

theorem listCodec_lawful : listCodec.Lawful dom := by
  constructor
  · intro b ⟨hl, hb⟩
    have hr : Reads listP _ b :=
      Reads.counted encU32 (by omega) fun x hx => Reads.rU32 sw (hb x hx)
    have := run_of_reads hr []
    simp only [List.append_nil] at this
    simp [listCodec, this]
  · intro b ⟨hl, _⟩
    have : ∀ l : List Nat, (l.flatMap encU32).length = 4 * l.length := by
      intro l
      induction l with
      | nil => rfl
      | cons a l ih =>
        simp only [List.flatMap_cons, List.length_append, length_encU32, List.length_cons, ih]
        omega
    have := this b
    simp only [listCodec, List.length_append, length_encU32, this]
    omega

theorem listCodec_nonEmpty : Meta.NonEmpty listCodec dom := by
  constructor
  intro b _ h
  have := congrArg List.length h
  simp [listCodec] at this

theorem dom_nil : dom [] := ⟨by decide, by simp⟩

/-- a flat index with three vectors, one of them soft-deleted -/
def flat1 : Flat.State :=
  { dim := 2, metric := asciiBytes ['l', '2'], deleted := [7],
    vecs := [(3, [1065353216, 0]), (7, [0, 1065353216]), (9, [1073741824, 1073741824])] }

/-- a trained IVF index with a removed entry -/
def ivf1 : IVF.State :=
  { dim := 1, metric := asciiBytes ['l', '2'], nlist := 2, trained := true,
    centroids := [[0], [1065353216]], lists := [[(1, [0]), (2, [5])], [(4, [1065353216])]],
    deleted := [2] }

def pq1 : PQ.State :=
  { dim := 2, metric := asciiBytes ['l', '2'], m := 2, nbits := 1, ksub := 2, dsub := 1,
    trained := true, codebooks := [[0, 1065353216], [0, 1073741824]],
    entries := [⟨1, some [0, 0], [0, 1]⟩, ⟨2, some [1065353216, 0], [1, 0]⟩], deleted := [1] }

def ivfpq1 : IVFPQ.State :=
  { dim := 2, metric := asciiBytes ['l', '2'], nlist := 1, m := 2, nbits := 1, ksub := 2, dsub := 1,
    trained := true, centroids := [[0, 0]], codebooks := [[0, 1065353216], [0, 1073741824]],
    lists := [[⟨1, some [0, 0], [0, 1]⟩, ⟨2, some [1065353216, 0], [1, 0]⟩]], deleted := [2] }

/-- an HNSW graph with a soft-deleted entry point -/
def hnsw1 : HNSW.State :=
  { dim := 1, metric := asciiBytes ['l', '2'], m := 16, efC := 200, efS := 200,
    levelMult := 4599676419421066581, maxLevel := 1, entry := 5,
    nodes := [(5, ⟨1, [0], [[8], []]⟩), (8, ⟨0, [1065353216], [[5]]⟩)], deleted := [5] }

def bm25_1 : BM25.State :=
  { numDocs := 2, totalTokens := 3, avgDocLen := 4609434218613702656,
    docLengths := [(1, 2), (2, 1)],
    docTokens := [(2, [asciiBytes ['a']]), (1, [asciiBytes ['a'], asciiBytes ['b']])],
    postings := [(asciiBytes ['b'], [1]), (asciiBytes ['a'], [1, 2])],
    tf := [(asciiBytes ['a'], [(2, 1), (1, 1)]), (asciiBytes ['b'], [(1, 1)])],
    deleted := [2] }

def meta1 : Meta.State :=
  { allDocs := [1, 2], categorical := [(asciiBytes ['c', ':', 'x'], [1]), (asciiBytes ['c', ':', 'y'], [])],
    numeric := [(asciiBytes ['n'], [1, 2] :: [2] :: List.replicate 63 [])] }

def hybrid1 : Hybrid.State :=
  { docInfo := [(2, ⟨false, true, true⟩), (1, ⟨true, true, true⟩)],
    vec := some (.flat flat1), txt := some bm25_1, md := some meta1 }

end Comet.Codec.Example
