/-
  Helper lemmas for C16: what each decoder answers on a stream with a foreign magic,
  another version, or parameters that differ from the receiver's.
-/
import CometProofs.Codec.Eval
import CometProofs.Codec.Hybrid
import Comet.Codec.Any
namespace Comet.Codec

/-! ### a stream written with other parameters
    For each kind that compares a parameter (BM25 and metadata compare none): the receiver
    `p` reads the stream of a well-formed `s` up to the first parameter that differs, and
    fails naming it.  In each proof the stream is split into the header the chain reads and
    the rest, which the closing `rfl` fills in. -/

theorem Flat.header_fails (bm : BlobCodec) (p : Flat.Params) {s : Flat.State}
    (hwf : Flat.wf s = true) :
    Fails (Flat.decodeC bm p) (Flat.encodeRaw bm s)
      (if s.dim == p.dim then if s.metric == p.metric then none
        else some (.param "metric") else some (.param "dim")) := by
  simp only [Flat.wf, Bool.and_eq_true, decide_eq_true_eq] at hwf
  obtain ⟨⟨⟨hdim, hmk⟩, _⟩, _⟩ := hwf
  unfold Flat.decodeC
  refine Fails.of_eq
    (Fails.preamble rfl _
    (Fails.bind (Reads.rU32 _ hdim)
    (Fails.guard
    (Fails.bind (Reads.rLenBytes _ hmk)
    (Fails.guard (Fails.none _ ?w)))))) ?_
  rotate_left
  · simp [Flat.encodeRaw, Flat.items]
    rfl

theorem HNSW.header_fails (bm : BlobCodec) (p : HNSW.Params) {s : HNSW.State}
    (hwf : HNSW.wf s = true) :
    Fails (HNSW.decodeC bm p) (HNSW.encodeRaw bm s)
      (if s.dim == p.dim then if s.metric == p.metric then if s.m == p.m then
        if s.efC == p.efC then if s.efS == p.efS then none
        else some (.param "efSearch") else some (.param "efConstruction") else some (.param "M")
        else some (.param "metric") else some (.param "dim")) := by
  simp only [HNSW.wf, Bool.and_eq_true, decide_eq_true_eq] at hwf
  obtain ⟨⟨⟨⟨⟨⟨⟨⟨⟨⟨hdim, hmk⟩, hm⟩, hefc⟩, hefs⟩, _⟩, _⟩, _⟩, _⟩, _⟩, _⟩ := hwf
  unfold HNSW.decodeC
  refine Fails.of_eq
    (Fails.preamble rfl _
    (Fails.bind (Reads.rU32 _ hdim)
    (Fails.guard
    (Fails.bind (Reads.rLenBytes _ hmk)
    (Fails.guard
    (Fails.bind (Reads.rU32 _ hm)
    (Fails.bind (Reads.rU32 _ hefc)
    (Fails.bind (Reads.rU32 _ hefs)
    (Fails.guard (Fails.guard (Fails.guard (Fails.none _ ?w)))))))))))) ?_
  rotate_left
  · simp [HNSW.encodeRaw, HNSW.items]
    rfl

theorem IVF.header_fails (bm : BlobCodec) (p : IVF.Params) {s : IVF.State}
    (hwf : IVF.wf s = true) :
    Fails (IVF.decodeC bm p) (IVF.encodeRaw bm s)
      (if s.dim == p.dim then if s.metric == p.metric then if s.nlist == p.nlist then none
        else some (.param "nlist") else some (.param "metric") else some (.param "dim")) := by
  simp only [IVF.wf, Bool.and_eq_true, decide_eq_true_eq] at hwf
  obtain ⟨⟨⟨⟨⟨⟨hdim, hmk⟩, hnl⟩, _⟩, _⟩, _⟩, _⟩ := hwf
  unfold IVF.decodeC
  refine Fails.of_eq
    (Fails.preamble rfl _
    (Fails.bind (Reads.rU32 _ hdim)
    (Fails.guard
    (Fails.bind (Reads.rLenBytes _ hmk)
    (Fails.guard
    (Fails.bind (Reads.rU32 _ hnl)
    (Fails.guard (Fails.none _ ?w)))))))) ?_
  rotate_left
  · simp [IVF.encodeRaw, IVF.items]
    rfl

theorem PQ.header_fails (bm : BlobCodec) (p : PQ.Params) {s : PQ.State}
    (hwf : PQ.wf s = true) :
    Fails (PQ.decodeC bm p) (PQ.encodeRaw bm s)
      (if s.dim == p.dim then if s.metric == p.metric then if s.m == p.m then
        if s.nbits == p.nbits then if s.ksub == p.ksub then if s.dsub == p.dsub then none
        else some (.param "dsub") else some (.param "Ksub") else some (.param "Nbits")
        else some (.param "M") else some (.param "metric") else some (.param "dim")) := by
  simp only [PQ.wf, Bool.and_eq_true, decide_eq_true_eq] at hwf
  obtain ⟨⟨⟨⟨⟨⟨⟨⟨⟨hdim, hmk⟩, hm⟩, hnb⟩, hks⟩, hds⟩, _⟩, _⟩, _⟩, _⟩ := hwf
  unfold PQ.decodeC
  refine Fails.of_eq
    (Fails.preamble rfl _
    (Fails.bind (Reads.rU32 _ hdim)
    (Fails.guard
    (Fails.bind (Reads.rLenBytes _ hmk)
    (Fails.guard
    (Fails.bind (Reads.rU32 _ hm)
    (Fails.bind (Reads.rU32 _ hnb)
    (Fails.bind (Reads.rU32 _ hks)
    (Fails.bind (Reads.rU32 _ hds)
    (Fails.guard (Fails.guard (Fails.guard (Fails.guard (Fails.none _ ?w)))))))))))))) ?_
  rotate_left
  · simp [PQ.encodeRaw, PQ.items]
    rfl

theorem IVFPQ.header_fails (bm : BlobCodec) (p : IVFPQ.Params) (cb : List (List Nat))
    {s : IVFPQ.State} (hwf : IVFPQ.wf s = true) :
    Fails (IVFPQ.decodeC bm p cb) (IVFPQ.encodeRaw bm s)
      (if s.dim == p.dim then if s.metric == p.metric then if s.nlist == p.nlist then
        if s.m == p.m then if s.nbits == p.nbits then if s.ksub == p.ksub then
        if s.dsub == p.dsub then none
        else some (.param "dsub") else some (.param "Ksub") else some (.param "Nbits")
        else some (.param "M") else some (.param "nlist") else some (.param "metric")
        else some (.param "dim")) := by
  simp only [IVFPQ.wf, Bool.and_eq_true, decide_eq_true_eq] at hwf
  obtain ⟨⟨⟨⟨⟨⟨⟨⟨⟨⟨⟨hdim, hmk⟩, hnl⟩, hm⟩, hnb⟩, hks⟩, hds⟩, _⟩, _⟩, _⟩, _⟩, _⟩ := hwf
  unfold IVFPQ.decodeC
  refine Fails.of_eq
    (Fails.preamble rfl _
    (Fails.bind (Reads.rU32 _ hdim)
    (Fails.guard
    (Fails.bind (Reads.rLenBytes _ hmk)
    (Fails.guard
    (Fails.bind (Reads.rU32 _ hnl)
    (Fails.bind (Reads.rU32 _ hm)
    (Fails.bind (Reads.rU32 _ hnb)
    (Fails.bind (Reads.rU32 _ hks)
    (Fails.bind (Reads.rU32 _ hds)
    (Fails.guard (Fails.guard (Fails.guard (Fails.guard (Fails.guard
    (Fails.none _ ?w)))))))))))))))) ?_
  rotate_left
  · simp [IVFPQ.encodeRaw, IVFPQ.items]
    rfl

/-- hybrid compares the presence of each sub-index -/
theorem Hybrid.header_fails (bm : BlobCodec) (p : Hybrid.Params) (s : Hybrid.State) :
    Fails (Hybrid.decodeC bm p) (Hybrid.encodeRaw bm s)
      (if (Hybrid.b2n s.vec.isSome == 1) == p.vec.isSome then
        if (Hybrid.b2n s.txt.isSome == 1) == p.txt then
        if (Hybrid.b2n s.md.isSome == 1) == p.md then none
        else some (.param "hasMetadata") else some (.param "hasText")
        else some (.param "hasVector")) := by
  unfold Hybrid.decodeC Hybrid.decodeCWith Hybrid.headC
  refine Fails.of_eq
    (Fails.left
    (Fails.preamble rfl _
    (Fails.bind (Reads.rU8 _ (Hybrid.b2n_lt _))
    (Fails.bind (Reads.rU8 _ (Hybrid.b2n_lt _))
    (Fails.bind (Reads.rU8 _ (Hybrid.b2n_lt _))
    (Fails.guard (Fails.guard (Fails.guard (Fails.none _ ?w))))))))) ?_
  rotate_left
  · simp [Hybrid.encodeRaw, Hybrid.encode4Raw, Hybrid.headItems]
    rfl

theorem take4_flat {magic : Bytes} (hm : magic.length = 4) (its : List Item) (rest : Bytes) :
    (flat (wRaw magic :: its) ++ rest).take 4 = magic := by
  rw [flat_cons, wRaw_data, List.append_assoc]
  exact List.take_left' hm

theorem AnyState.take4 (bm : BlobCodec) (s : AnyState) (rest : Bytes) :
    (s.encodeRaw bm ++ rest).take 4 = s.kind.magic := by
  cases s <;> simp only [AnyState.encodeRaw, AnyState.kind, Kind.magic]
  case hybrid s => exact (List.append_assoc ..).symm ▸ take4_flat rfl _ _
  all_goals exact take4_flat rfl _ rest

theorem Recv.checksPreamble (bm : BlobCodec) (r : Recv) :
    ChecksPreamble r.kind.magic (r.decodeC bm) := by
  cases r <;> simp only [Recv.decodeC, Recv.kind, Kind.magic]
  case hybrid p =>
    unfold Hybrid.decodeC Hybrid.decodeCWith Hybrid.headC
    exact .bind (.bind (.preamble rfl _ _) _) _
  all_goals exact .bind (.preamble rfl _ _) _

theorem accepts_false_of_isErr (bm : BlobCodec) (r : Recv) (inp : Bytes)
    (h : IsErr (r.decodeC bm inp)) : r.accepts bm inp = false := by
  obtain ⟨e, he⟩ := CP.run_isErr h
  unfold Recv.accepts Recv.decode
  rw [he]

end Comet.Codec
