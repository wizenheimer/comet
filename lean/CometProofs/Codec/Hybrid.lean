/- Helper lemmas for the hybrid codec (Comet/Codec/Hybrid.lean). -/
import CometProofs.Codec.Flat
import CometProofs.Codec.HNSW
import CometProofs.Codec.IVF
import CometProofs.Codec.PQ
import CometProofs.Codec.BM25
import Comet.Codec.Hybrid
namespace Comet.Codec.Hybrid
open Comet.Codec

instance : Sound (CP.rU32 swR) := .rU32 rfl
instance : Sound (CP.rU8 swR) := .rU8 rfl

instance sound_vecDecodeC (bm : BlobCodec) (vp : VecParams) : Sound (vecDecodeC bm vp) := by
  cases vp <;> exact .map _

instance sound_decDocInfo : Sound decDocInfo := by
  unfold decDocInfo
  exact .bind fun _ => .bind fun _ => .bind fun _ => .bind fun _ => .pure _

instance sound_headC (p : Params) : Sound (headC p) := by
  unfold headC
  exact .preamble _ fun _ => .bind fun _ => .bind fun _ => .bind fun _ => .bind fun _ =>
    .bind fun _ => .bind fun _ => .bind fun _ => inferInstance

instance sound_decodeC (bm : BlobCodec) (p : Params) : Sound (decodeC bm p) := by
  unfold decodeC decodeCWith
  exact .bind fun _ => .bind fun _ => .bind fun _ => .bind fun _ => .pure _

theorem b2n_lt (b : Bool) : b2n b < 256 := by cases b <;> decide
theorem b2n_beq_one (b : Bool) : (b2n b == 1) = b := by cases b <;> rfl

theorem reads_vec (bm : BlobCodec) (dom : List Nat → Prop) (hbm : bm.Lawful dom)
    (v : VecState) (hwf : v.wf = true) (hdel : dom v.deleted) :
    Reads (vecDecodeC bm v.params) (flat (v.items bm)) v.forget := by
  cases v with
  | flat s => exact Reads.map VecState.flat (Flat.reads_decodeC bm dom hbm s hwf hdel)
  | hnsw s => exact Reads.map VecState.hnsw (HNSW.reads_decodeC bm dom hbm s hwf hdel)
  | ivf s => exact Reads.map VecState.ivf (IVF.reads_decodeC bm dom hbm s hwf hdel)
  | pq s => exact Reads.map VecState.pq (PQ.reads_decodeC bm dom hbm s hwf hdel)
  | ivfpq s => exact Reads.map VecState.ivfpq (IVFPQ.reads_decodeC bm dom hbm s hwf hdel)

theorem reads_decDocInfo (p : Nat × DocInfo) (h : p.1 < 4294967296) :
    Reads decDocInfo (flat (docInfoItems p)) p := by
  unfold decDocInfo
  refine Reads.of_eq
    (Reads.bind (Reads.rU32 _ h)
    (Reads.bind (Reads.rU8 _ (b2n_lt p.2.hasVector))
    (Reads.bind (Reads.rU8 _ (b2n_lt p.2.hasText))
    (Reads.bind (Reads.rU8 _ (b2n_lt p.2.hasMetadata))
    (Reads.pure_of_eq ?_))))) ?_
  · simp only [b2n_beq_one]
  · simp [docInfoItems]

theorem reads_headC (s : State) (hn : s.docInfo.length < 4294967296)
    (hid : ∀ p ∈ s.docInfo, p.1 < 4294967296) :
    Reads (headC s.params) (flat (headItems s)) s.docInfo := by
  unfold headC
  refine Reads.of_eq
    (Reads.preamble rfl _
    (Reads.bind (Reads.rU8 _ (b2n_lt s.vec.isSome))
    (Reads.bind (Reads.rU8 _ (b2n_lt s.txt.isSome))
    (Reads.bind (Reads.rU8 _ (b2n_lt s.md.isSome))
    (Reads.guard_bind (by simp [State.params, b2n_beq_one])
    (Reads.guard_bind (by simp [State.params, b2n_beq_one])
    (Reads.guard_bind (by simp [State.params, b2n_beq_one])
    (Reads.bind (Reads.rU32 _ hn)
    (Reads.repeat _ s.docInfo fun p hp =>
        reads_decDocInfo p (hid p hp)))))))))) ?_
  simp [headItems]

theorem reads_decodeC (bm : BlobCodec) (dom : List Nat → Prop) (hbm : bm.Lawful dom)
    (hne : Meta.NonEmpty bm dom) (s : State) (hwf : wf s = true) (hdom : ∀ b ∈ bitmaps s, dom b) :
    Reads (decodeC bm s.params) (encodeRaw bm s) (forget s) := by
  simp only [wf, Bool.and_eq_true, decide_eq_true_eq, List.all_eq_true, u32ok] at hwf
  obtain ⟨⟨⟨⟨⟨hn, hnd⟩, hid⟩, hv⟩, ht⟩, hm⟩ := hwf
  unfold decodeC decodeCWith
  obtain ⟨di, vec, txt, md⟩ := s
  have hvec : Reads (CP.opt (vec.map VecState.params) fun vp => CP.sub (vecDecodeC bm vp))
      (flat (optItems vec (VecState.items bm))) (vec.map VecState.forget) := by
    cases vec with
    | none => exact Reads.opt_none _
    | some v => exact Reads.opt_some (Reads.sub (reads_vec bm dom hbm v hv
        (hdom _ (by simp [bitmaps]))))
  have htxt : Reads
      (CP.opt (if txt.isSome then some () else none) fun _ => CP.sub (BM25.decodeC bm))
      (flat (optItems txt (BM25.items bm))) txt := by
    cases txt with
    | none => exact Reads.opt_none _
    | some t => exact Reads.opt_some (Reads.sub (BM25.reads_decodeC bm dom hbm t ht
        fun b hb => hdom _ (by simp only [bitmaps, List.mem_append]; exact Or.inl (Or.inr hb))))
  have hmd : Reads (CP.opt (if md.isSome then some () else none) fun _ => CP.sub (Meta.decodeC bm))
      (flat (optItems md (Meta.items bm))) md := by
    cases md with
    | none => exact Reads.opt_none _
    | some m => exact Reads.opt_some (Reads.sub (Meta.reads_decodeC bm dom hbm hne m hm
        fun b hb => hdom _ (by simp only [bitmaps, List.mem_append]; exact Or.inr hb)))
  refine Reads.of_eq
    (Reads.bind (reads_headC _ hn hid)
    (Reads.bind hvec
    (Reads.bind htxt
    (Reads.bind hmd
    (Reads.pure_of_eq ?_))))) ?_
  · rw [mkMap_of_nodup _ hnd]
    rfl
  · simp [encodeRaw, encode4Raw]

theorem vec_flush_params (v : VecState) : v.flush.params = v.params := by
  cases v <;> simp [VecState.flush, VecState.params, Flat.flush_params, HNSW.flush_params,
    IVF.flush_params, PQ.flush_params, IVFPQ.flush_params]

theorem vec_flush_flush (v : VecState) : v.flush.flush = v.flush := by
  cases v <;> simp [VecState.flush, Flat.flush_flush, HNSW.flush_flush, IVF.flush_flush,
    PQ.flush_flush, IVFPQ.flush_flush]

theorem vec_wf_flush (v : VecState) (h : v.wf = true) : v.flush.wf = true := by
  cases v
  · exact Flat.wf_flush _ h
  · exact HNSW.wf_flush _ h
  · exact IVF.wf_flush _ h
  · exact PQ.wf_flush _ h
  · exact IVFPQ.wf_flush _ h

theorem flush_params (avg : Nat → Nat → Nat) (s : State) : (flush avg s).params = s.params := by
  simp [flush, State.params, Option.map_map, Function.comp_def, vec_flush_params]

theorem flush_flush (avg : Nat → Nat → Nat) (s : State) : flush avg (flush avg s) = flush avg s := by
  simp [flush, Option.map_map, Function.comp_def, vec_flush_flush, BM25.flush_flush,
    show Meta.flush = id from rfl]

theorem wf_flush (avg : Nat → Nat → Nat) (havg : ∀ t n, avg t n < 18446744073709551616)
    (s : State) (h : wf s = true) : wf (flush avg s) = true := by
  simp only [wf, Bool.and_eq_true] at h ⊢
  obtain ⟨⟨⟨hdoc, hv⟩, ht⟩, hm⟩ := h
  obtain ⟨di, vec, txt, md⟩ := s
  refine ⟨⟨⟨hdoc, ?_⟩, ?_⟩, ?_⟩
  · cases vec with
    | none => rfl
    | some v => exact vec_wf_flush v hv
  · cases txt with
    | none => rfl
    | some t => exact BM25.wf_flush avg havg t ht
  · cases md with
    | none => rfl
    | some m => exact hm

/-- the concatenation of the four streams `WriteTo` produces, read back by a receiver
    constructed like the source -/
theorem reads_encode (avg : Nat → Nat → Nat) (havg : ∀ t n, avg t n < 18446744073709551616)
    (bm : BlobCodec) (dom : List Nat → Prop) (hbm : bm.Lawful dom) (hne : Meta.NonEmpty bm dom)
    (s : State) (hwf : wf s = true) (hdom : ∀ b ∈ bitmaps (flush avg s), dom b) :
    Reads (decodeC bm s.params) (encode avg bm s) (forget (flush avg s)) := by
  have := reads_decodeC bm dom hbm hne (flush avg s) (wf_flush avg havg s hwf) hdom
  rwa [flush_params] at this

end Comet.Codec.Hybrid
