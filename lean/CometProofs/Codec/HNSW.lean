/- Helper lemmas for the HNSW codec (Comet/Codec/HNSW.lean). -/
import CometProofs.Codec.Flat
import Comet.Codec.HNSW
namespace Comet.Codec.HNSW
open Comet.Codec

instance : Sound (CP.rU32 swR) := .rU32 rfl
instance : Sound (CP.rI32 swR) := .rI32 rfl
instance : Sound (CP.rF32 swR) := .rF32 rfl
instance : Sound (CP.rF64 swR) := .rF64 rfl

instance sound_decEdges : Sound (decEdges) := by
  unfold decEdges
  exact .bind fun _ => inferInstance

instance sound_decNode : Sound (decNode) := by
  unfold decNode
  exact .bind fun _ => .bind fun _ => .bind fun _ => .bind fun _ => .bind fun _ => .bind fun _ => .pure _

instance sound_decodeC (bm : BlobCodec) (p : Params) : Sound (decodeC bm p) := by
  unfold decodeC
  exact .preamble _ fun _ => .bind fun _ => .bind fun _ => .bind fun _ => .bind fun _ =>
    .bind fun _ => .bind fun _ => .bind fun _ => .bind fun _ => .bind fun _ => .bind fun _ =>
    .bind fun _ => .bind fun _ => .bind fun _ => .bind fun _ => .bind fun _ => .bind fun _ =>
    .bind fun _ => .pure _

theorem i32ok_iff (z : Int) : i32ok z = true ↔ -2147483648 ≤ z ∧ z < 2147483648 := by
  simp [i32ok]

theorem reads_decEdges (es : List Nat) (h1 : es.length < 4294967296)
    (h2 : ∀ e ∈ es, e < 4294967296) : Reads decEdges (flat (edgeItems es)) es :=
  (Reads.counted encU32 h1 fun x hx => Reads.rU32 _ (h2 x hx)).of_eq (by simp [edgeItems])

theorem reads_decNode (p : Nat × Node) (h : wfNode p = true) :
    Reads decNode (flat (nodeItems p)) p := by
  simp only [wfNode, Bool.and_eq_true, decide_eq_true_eq, List.all_eq_true, i32ok_iff] at h
  obtain ⟨⟨⟨⟨⟨hid, hlv⟩, hvl⟩, hv⟩, hel⟩, he⟩ := h
  unfold decNode
  refine Reads.of_eq
    (Reads.bind (Reads.rU32 _ hid)
    (Reads.bind (Reads.rI32 _ hlv.1 hlv.2)
    (Reads.bind (Reads.rU32 _ hvl)
    (Reads.bind (Reads.repeat encU32 p.2.vec fun x hx => Reads.rF32 _ (hv x hx))
    (Reads.bind (Reads.rU32 _ hel)
    (Reads.bind (Reads.repeat _ p.2.edges fun es hes =>
        reads_decEdges es (he es hes).1 (he es hes).2)
    (Reads.pure _))))))) ?_
  simp [nodeItems]

theorem reads_decodeC (bm : BlobCodec) (dom : List Nat → Prop) (hbm : bm.Lawful dom)
    (s : State) (hwf : wf s = true) (hdel : dom s.deleted) :
    Reads (decodeC bm s.params) (encodeRaw bm s) s := by
  simp only [wf, Bool.and_eq_true, decide_eq_true_eq, List.all_eq_true, i32ok_iff] at hwf
  obtain ⟨⟨⟨⟨⟨⟨⟨⟨⟨⟨hdim, hmk⟩, hm⟩, hefc⟩, hefs⟩, hlm⟩, hml⟩, hen⟩, hnl⟩, hnd⟩, hn⟩ := hwf
  unfold decodeC
  refine Reads.of_eq
    (Reads.preamble rfl _
    (Reads.bind (Reads.rU32 _ hdim)
    (Reads.guard_bind (beq_self_eq_true _)
    (Reads.bind (Reads.rLenBytes _ hmk)
    (Reads.guard_bind (beq_self_eq_true _)
    (Reads.bind (Reads.rU32 _ hm)
    (Reads.bind (Reads.rU32 _ hefc)
    (Reads.bind (Reads.rU32 _ hefs)
    (Reads.guard_bind (beq_self_eq_true _)
    (Reads.guard_bind (beq_self_eq_true _)
    (Reads.guard_bind (beq_self_eq_true _)
    (Reads.bind (Reads.rF64 _ hlm)
    (Reads.bind (Reads.rI32 _ hml.1 hml.2)
    (Reads.bind (Reads.rU32 _ hen)
    (Reads.bind (Reads.rU32 _ hnl)
    (Reads.bind (Reads.repeat _ s.nodes fun p hp =>
        reads_decNode p (hn p hp))
    (Reads.blob hbm hdel
    (Reads.pure_of_eq ?_)))))))))))))))))) ?_
  · rw [mkMap_of_nodup _ hnd]
    rfl
  · simp [encodeRaw, items]

theorem flush_params (s : State) : (flush s).params = s.params := by
  unfold flush; split <;> rfl

theorem flush_deleted (s : State) : (flush s).deleted = [] := by
  unfold flush
  split
  · next h => simpa using h
  · rfl

theorem flush_of_nil (s : State) (h : s.deleted = []) : flush s = s := by
  unfold flush; simp [h]

theorem flush_flush (s : State) : flush (flush s) = flush s :=
  flush_of_nil _ (flush_deleted s)

theorem removed_absent (s : State) : ∀ id ∈ s.deleted, id ∉ streamIds (flush s) := by
  intro id hid
  unfold flush streamIds
  split
  · next h => simp [List.isEmpty_iff.1 h] at hid
  · simp only [List.mem_map, List.mem_filter, not_exists, not_and]
    intro p hp hpid
    subst hpid
    simp [dead, hid] at hp

theorem wfNode_prune (f : Nat → Bool) (p : Nat × Node) (h : wfNode p = true) :
    wfNode (p.1, { p.2 with edges := p.2.edges.map (·.filter f) }) = true := by
  simp only [wfNode, Bool.and_eq_true, decide_eq_true_eq, List.all_eq_true, List.length_map,
    List.mem_map, forall_exists_index, and_imp, forall_apply_eq_imp_iff₂] at h ⊢
  exact ⟨h.1, fun es hes => ⟨Nat.lt_of_le_of_lt (List.length_filter_le _ _) (h.2 es hes).1,
    fun e he => (h.2 es hes).2 e (List.mem_filter.1 he).1⟩⟩

theorem pruned_keys (s : State) : (pruned s).map (·.1) = s.nodes.map (·.1) := by
  unfold pruned
  rw [List.map_map]
  apply List.map_congr_left
  intro x _
  simp only [Function.comp]
  split <;> rfl

theorem pruned_wf (s : State) (hn : ∀ p ∈ s.nodes, wfNode p = true) :
    ∀ p ∈ pruned s, wfNode p = true := by
  intro p hp
  simp only [pruned, List.mem_map] at hp
  obtain ⟨x, hx, rfl⟩ := hp
  split
  · exact hn x hx
  · exact wfNode_prune _ x (hn x hx)

theorem wfNode_id {p : Nat × Node} (h : wfNode p = true) : p.1 < 4294967296 := by
  simp only [wfNode, Bool.and_eq_true, decide_eq_true_eq] at h
  exact h.1.1.1.1.1

theorem wfNode_level {p : Nat × Node} (h : wfNode p = true) : i32ok p.2.level = true := by
  simp only [wfNode, Bool.and_eq_true] at h
  exact h.1.1.1.1.2

theorem elect_ok (s : State) (nodes1 : List (Nat × Node)) (hn : ∀ p ∈ nodes1, wfNode p = true)
    (he : s.entry < 4294967296) (hl : i32ok s.maxLevel = true) :
    (elect s nodes1).1 < 4294967296 ∧ i32ok (elect s nodes1).2 = true := by
  unfold elect
  split
  · split
    · next p hp => exact ⟨wfNode_id (hn p (List.mem_of_find?_eq_some hp)), hl⟩
    · have := List.foldlRecOn (motive := fun acc : Int × Nat => i32ok acc.1 = true ∧ acc.2 < 4294967296)
        nodes1 (fun (acc : Int × Nat) (p : Nat × Node) =>
          if (!dead s p.1 && decide (p.2.level > acc.1)) = true then (p.2.level, p.1) else acc)
        (b := ((-1 : Int), s.entry)) ⟨by simp [i32ok], he⟩ (by
          intro b hb a ha
          split
          · exact ⟨wfNode_level (hn a ha), wfNode_id (hn a ha)⟩
          · exact hb)
      simp only at this ⊢
      split
      · exact ⟨this.2, this.1⟩
      · exact ⟨by omega, by simp [i32ok]⟩
  · exact ⟨he, hl⟩

theorem wf_flush (s : State) (h : wf s = true) : wf (flush s) = true := by
  unfold flush
  split
  · exact h
  · simp only [wf, Bool.and_eq_true, decide_eq_true_eq, List.all_eq_true] at h
    obtain ⟨⟨⟨⟨⟨hpar, hml⟩, hen⟩, hnl⟩, hnd⟩, hn⟩ := h
    have hel := elect_ok s (pruned s) (pruned_wf s hn) hen hml
    have hlen : (pruned s).length = s.nodes.length := by
      simpa using congrArg List.length (pruned_keys s)
    simp only [wf, Bool.and_eq_true, decide_eq_true_eq, List.all_eq_true]
    refine ⟨⟨⟨⟨⟨hpar, hel.2⟩, hel.1⟩, ?_⟩, ?_⟩, ?_⟩
    · exact Nat.lt_of_le_of_lt (List.length_filter_le _ _) (hlen ▸ hnl)
    · have : ((pruned s).filter fun p => !dead s p.1).map (·.1) |>.Sublist ((pruned s).map (·.1)) :=
        List.Sublist.map _ (List.filter_sublist)
      rw [pruned_keys] at this
      exact this.nodup hnd
    · intro p hp
      exact pruned_wf s hn p (List.mem_filter.1 hp).1

/-- `WriteTo`'s stream read back by a receiver constructed like the source -/
theorem reads_encode (bm : BlobCodec) (dom : List Nat → Prop) (hbm : bm.Lawful dom) (h0 : dom [])
    (s : State) (hwf : wf s = true) : Reads (decodeC bm s.params) (encode bm s) (flush s) := by
  have := reads_decodeC bm dom hbm (flush s) (wf_flush s hwf) (flush_deleted s ▸ h0)
  rwa [flush_params] at this

end Comet.Codec.HNSW
