/- Helper lemmas for the BM25 and metadata codecs (Comet/Codec/BM25.lean, Meta.lean). -/
import CometProofs.Codec.Flat
import Comet.Codec.BM25
import Comet.Codec.Meta
namespace Comet.Codec

theorem Reads.lenBytesList (sw : Switch) (l : List Bytes) (h : ∀ b ∈ l, b.length < 4294967296) :
    Reads (CP.repeat l.length (CP.rLenBytes sw)) (l.flatMap fun b => flat (wLenBytes b)) l :=
  Reads.repeat _ l fun b hb => by simpa using Reads.rLenBytes sw (h b hb)

namespace BM25

instance : Sound (CP.rU32 swR) := .rU32 rfl
instance : Sound (CP.rF64 swR) := .rF64 rfl

instance sound_decPair : Sound (decPair) := by
  unfold decPair
  exact .bind fun _ => .bind fun _ => .pure _

instance sound_decDocTok : Sound (decDocTok) := by
  unfold decDocTok
  exact .bind fun _ => .bind fun _ => .bind fun _ => .pure _

instance sound_decPosting (bm : BlobCodec) : Sound (decPosting bm) := by
  unfold decPosting
  exact .bind fun _ => .bind fun _ => .bind fun _ => .pure _

instance sound_decTf : Sound (decTf) := by
  unfold decTf
  exact .bind fun _ => .bind fun _ => .bind fun _ => .pure _

instance sound_decodeC (bm : BlobCodec) : Sound (decodeC bm) := by
  unfold decodeC
  exact .preamble _ fun _ => .bind fun _ => .bind fun _ => .bind fun _ => .bind fun _ =>
    .bind fun _ => .bind fun _ => .bind fun _ => .bind fun _ => .bind fun _ => .bind fun _ =>
    .bind fun _ => .bind fun _ => .bind fun _ => .pure _

theorem u32ok_iff (n : Nat) : u32ok n = true ↔ n < 4294967296 := by simp [u32ok]
theorem keysNodup_iff [DecidableEq κ] (l : List (κ × ν)) :
    keysNodup l = true ↔ (l.map (·.1)).Nodup := by simp [keysNodup]

theorem reads_decPair (p : Nat × Nat) (h1 : p.1 < 4294967296) (h2 : p.2 < 4294967296) :
    Reads decPair (flat (docLenItems p)) p := by
  unfold decPair
  refine Reads.of_eq
    (Reads.bind (Reads.rU32 _ h1) (Reads.bind (Reads.rU32 _ h2) (Reads.pure _))) ?_
  simp [docLenItems]

theorem reads_decDocTok (p : Nat × List Bytes) (h1 : p.1 < 4294967296)
    (h2 : p.2.length < 4294967296) (h3 : ∀ t ∈ p.2, t.length < 4294967296) :
    Reads decDocTok (flat (docTokItems p)) p := by
  unfold decDocTok
  refine Reads.of_eq
    (Reads.bind (Reads.rU32 _ h1)
    (Reads.bind (Reads.rU32 _ h2)
    (Reads.bind (Reads.lenBytesList _ p.2 h3)
    (Reads.pure _)))) ?_
  simp [docTokItems]

theorem reads_decPosting (bm : BlobCodec) (dom : List Nat → Prop) (hbm : bm.Lawful dom)
    (p : Bytes × List Nat) (h1 : p.1.length < 4294967296) (h2 : dom p.2) :
    Reads (decPosting bm) (flat (postingItems bm p)) p := by
  unfold decPosting
  refine Reads.of_eq
    (Reads.bind (Reads.rLenBytes _ h1)
    (Reads.blob hbm h2
    (Reads.pure _))) ?_
  simp [postingItems]

theorem reads_decTf (p : Bytes × List (Nat × Nat)) (h1 : p.1.length < 4294967296)
    (h2 : p.2.length < 4294967296) (h3 : (p.2.map (·.1)).Nodup)
    (h4 : ∀ q ∈ p.2, q.1 < 4294967296 ∧ q.2 < 4294967296) :
    Reads decTf (flat (tfItems p)) p := by
  unfold decTf
  refine Reads.of_eq
    (Reads.bind (Reads.rLenBytes _ h1)
    (Reads.bind (Reads.rU32 _ h2)
    (Reads.bind (Reads.repeat _ p.2 fun q hq =>
        reads_decPair q (h4 q hq).1 (h4 q hq).2)
    (Reads.pure_of_eq ?_)))) ?_
  · rw [mkMap_of_nodup _ h3]
  · simp [tfItems]

theorem reads_decodeC (bm : BlobCodec) (dom : List Nat → Prop) (hbm : bm.Lawful dom)
    (s : State) (hwf : wf s = true) (hdom : ∀ b ∈ bitmaps s, dom b) :
    Reads (decodeC bm) (encodeRaw bm s) s := by
  simp only [wf, Bool.and_eq_true, decide_eq_true_eq, List.all_eq_true, u32ok_iff,
    keysNodup_iff] at hwf
  obtain ⟨⟨⟨⟨⟨⟨⟨⟨⟨⟨⟨⟨⟨⟨hnd, htt⟩, havg⟩, hdl1⟩, hdl2⟩, hdl3⟩, hdt1⟩, hdt2⟩, hdt3⟩, hp1⟩, hp2⟩, hp3⟩,
    htf1⟩, htf2⟩, htf3⟩ := hwf
  have hdel : dom s.deleted := hdom _ (by simp [bitmaps])
  unfold decodeC
  refine Reads.of_eq
    (Reads.preamble rfl _
    (Reads.bind (Reads.rU32 _ hnd)
    (Reads.bind (Reads.rU32 _ htt)
    (Reads.bind (Reads.rF64 _ havg)
    (Reads.bind (Reads.rU32 _ hdl1)
    (Reads.bind (Reads.repeat _ s.docLengths fun p hp =>
        reads_decPair p (hdl3 p hp).1 (hdl3 p hp).2)
    (Reads.bind (Reads.rU32 _ hdt1)
    (Reads.bind (Reads.repeat _ s.docTokens fun p hp =>
        reads_decDocTok p (hdt3 p hp).1.1 (hdt3 p hp).1.2 (hdt3 p hp).2)
    (Reads.bind (Reads.rU32 _ hp1)
    (Reads.bind (Reads.repeat _ s.postings fun p hp =>
        reads_decPosting bm dom hbm p (hp3 p hp)
          (hdom _ (by simp only [bitmaps, List.mem_cons, List.mem_map]; exact Or.inr ⟨p, hp, rfl⟩)))
    (Reads.bind (Reads.rU32 _ htf1)
    (Reads.bind (Reads.repeat _ s.tf fun p hp =>
        reads_decTf p (htf3 p hp).1.1.1 (htf3 p hp).1.1.2 (htf3 p hp).1.2 (htf3 p hp).2)
    (Reads.blob hbm hdel
    (Reads.pure_of_eq ?_)))))))))))))) ?_
  · rw [mkMap_of_nodup _ hdl2, mkMap_of_nodup _ hdt2, mkMap_of_nodup _ hp2, mkMap_of_nodup _ htf2]
  · simp [encodeRaw, items]

theorem flush_deleted (avg : Nat → Nat → Nat) (s : State) : (flush avg s).deleted = [] := by
  unfold flush
  split
  · next h => simpa using h
  · rfl

theorem flush_of_nil (avg : Nat → Nat → Nat) (s : State) (h : s.deleted = []) : flush avg s = s := by
  unfold flush; simp [h]

theorem flush_flush (avg : Nat → Nat → Nat) (s : State) : flush avg (flush avg s) = flush avg s :=
  flush_of_nil _ _ (flush_deleted avg s)

theorem sublist_keys_filterMap {κ ν : Type} (l : List (κ × ν)) (f : κ × ν → Option (κ × ν))
    (hf : ∀ a b, f a = some b → b.1 = a.1) :
    ((l.filterMap f).map (·.1)).Sublist (l.map (·.1)) := by
  induction l with
  | nil => simp
  | cons a l ih =>
    rw [List.filterMap_cons]
    cases h : f a with
    | none => simp only [List.map_cons]; exact List.Sublist.cons _ ih
    | some b =>
      simp only [List.map_cons]
      rw [hf a b h]
      exact List.Sublist.cons_cons _ ih

theorem nodup_keys_filter {κ ν : Type} (l : List (κ × ν)) (f : κ × ν → Bool)
    (h : (l.map (·.1)).Nodup) : ((l.filter f).map (·.1)).Nodup :=
  (List.Sublist.map _ List.filter_sublist).nodup h

/-- what `removeInternal` does to one entry of a term-keyed map: kept, pruned, or dropped -/
theorem prune_cases {κ ν : Type} {c : Bool} {k : κ} {x y : List ν} {b : κ × List ν}
    (h : (if c then (if y.isEmpty then none else some (k, y)) else some (k, x)) = some b) :
    b = (k, x) ∨ b = (k, y) := by
  split at h
  · split at h
    · cases h
    · exact Or.inr (Option.some.inj h).symm
  · exact Or.inl (Option.some.inj h).symm

theorem wf_removeInternal (avg : Nat → Nat → Nat) (havg : ∀ t n, avg t n < 18446744073709551616)
    (s : State) (id : Nat) (h : wf s = true) : wf (removeInternal avg s id) = true := by
  unfold removeInternal
  split
  · exact h
  · next tokens _ =>
    simp only [wf, Bool.and_eq_true, decide_eq_true_eq, List.all_eq_true, u32ok_iff,
      keysNodup_iff] at h ⊢
    obtain ⟨⟨⟨⟨⟨⟨⟨⟨⟨⟨⟨⟨⟨⟨hnd, htt⟩, hav⟩, hdl1⟩, hdl2⟩, hdl3⟩, hdt1⟩, hdt2⟩, hdt3⟩, hp1⟩, hp2⟩, hp3⟩,
      htf1⟩, htf2⟩, htf3⟩ := h
    refine ⟨⟨⟨⟨⟨⟨⟨⟨⟨⟨⟨⟨⟨⟨?_, ?_⟩, ?_⟩, ?_⟩, ?_⟩, ?_⟩, ?_⟩, ?_⟩, ?_⟩, ?_⟩, ?_⟩, ?_⟩, ?_⟩, ?_⟩, ?_⟩
    · exact Nat.mod_lt _ (by decide)
    · split <;> omega
    · split
      · exact havg _ _
      · decide
    · exact Nat.lt_of_le_of_lt (List.length_filter_le _ _) hdl1
    · exact nodup_keys_filter _ _ hdl2
    · intro p hp; exact hdl3 p (List.mem_filter.1 hp).1
    · exact Nat.lt_of_le_of_lt (List.length_filter_le _ _) hdt1
    · exact nodup_keys_filter _ _ hdt2
    · intro p hp; exact hdt3 p (List.mem_filter.1 hp).1
    · exact Nat.lt_of_le_of_lt (List.length_filterMap_le _ _) hp1
    · refine (sublist_keys_filterMap _ _ fun a b hab => ?_).nodup hp2
      rcases prune_cases hab with rfl | rfl <;> rfl
    · intro p hp
      obtain ⟨a, ha, hab⟩ := List.mem_filterMap.1 hp
      rcases prune_cases hab with rfl | rfl <;> exact hp3 a ha
    · exact Nat.lt_of_le_of_lt (List.length_filterMap_le _ _) htf1
    · refine (sublist_keys_filterMap _ _ fun a b hab => ?_).nodup htf2
      rcases prune_cases hab with rfl | rfl <;> rfl
    · intro p hp
      obtain ⟨a, ha, hab⟩ := List.mem_filterMap.1 hp
      have hA := htf3 a ha
      rcases prune_cases hab with rfl | rfl
      · exact hA
      · exact ⟨⟨⟨hA.1.1.1, Nat.lt_of_le_of_lt (List.length_filter_le _ _) hA.1.1.2⟩,
          nodup_keys_filter _ _ hA.1.2⟩, fun q hq => hA.2 q (List.mem_filter.1 hq).1⟩

theorem wf_flush (avg : Nat → Nat → Nat) (havg : ∀ t n, avg t n < 18446744073709551616)
    (s : State) (h : wf s = true) : wf (flush avg s) = true := by
  unfold flush
  split
  · exact h
  · exact List.foldlRecOn (motive := fun t => wf t = true) _ _ h fun t ht a _ =>
      wf_removeInternal avg havg t a ht

theorem reads_encode (avg : Nat → Nat → Nat) (havg : ∀ t n, avg t n < 18446744073709551616)
    (bm : BlobCodec) (dom : List Nat → Prop) (hbm : bm.Lawful dom) (s : State)
    (hwf : wf s = true) (hdom : ∀ b ∈ bitmaps (flush avg s), dom b) :
    Reads (decodeC bm) (encode avg bm s) (flush avg s) := by
  simp only [encode, writeTo]
  exact reads_decodeC bm dom hbm (flush avg s) (wf_flush avg havg s hwf) hdom

end BM25

namespace Meta

instance : Sound (CP.rU32 swR) := .rU32 rfl

instance sound_decCat (bm : BlobCodec) : Sound (decCat bm) := by
  unfold decCat
  exact .bind fun _ => .bind fun _ => .bind fun _ => .pure _

instance sound_decNum (bm : BlobCodec) : Sound (decNum bm) := by
  unfold decNum
  exact .bind fun _ => .bind fun _ => .bind fun _ => .bind fun _ => .pure _

instance sound_decodeC (bm : BlobCodec) : Sound (decodeC bm) := by
  unfold decodeC
  exact .preamble _ fun _ => .bind fun _ => .bind fun _ => .bind fun _ => .bind fun _ =>
    .bind fun _ => .bind fun _ => .pure _

theorem u32ok_iff (n : Nat) : u32ok n = true ↔ n < 4294967296 := by simp [u32ok]
theorem keysNodup_iff [DecidableEq κ] (l : List (κ × ν)) :
    keysNodup l = true ↔ (l.map (·.1)).Nodup := by simp [keysNodup]

/-- blobs are never empty (a roaring blob has at least a cookie) -/
structure NonEmpty (bm : BlobCodec) (dom : List Nat → Prop) : Prop where
  ne : ∀ b, dom b → bm.enc b ≠ []

section
variable (bm : BlobCodec) (dom : List Nat → Prop) (hbm : bm.Lawful dom)
include hbm

theorem reads_decCat (p : Bytes × List Nat) (h1 : p.1.length < 4294967296) (h2 : dom p.2) :
    Reads (decCat bm) (flat (catItems bm p)) p := by
  unfold decCat
  refine Reads.of_eq
    (Reads.bind (Reads.rLenBytes _ h1)
    (Reads.blob hbm h2
    (Reads.pure _))) ?_
  simp [catItems]

variable (hne : NonEmpty bm dom)
include hne

theorem mapM_slices (sl : List (List Nat)) (h : ∀ b ∈ sl, dom b) :
    (sl.map bm.enc).mapM (fun b => if b.isEmpty then (.ok [] : Except Err (List Nat)) else bm.dec b)
      = .ok sl := by
  induction sl with
  | nil => rfl
  | cons b sl ih =>
    have hb := h b (List.mem_cons_self)
    have := ih fun x hx => h x (List.mem_cons_of_mem _ hx)
    have hn : (bm.enc b).isEmpty = false := by
      simpa [List.isEmpty_iff] using hne.ne b hb
    simp only [List.map_cons, List.mapM_cons, this, hn, hbm.rt b hb]
    rfl

theorem bsiDec_enc (b : BSI) (hlen : bsiSlices + 1 ≤ b.length) (h : ∀ x ∈ b, dom x) :
    bsiDec bm (bsiEnc bm b) = .ok b := by
  cases b with
  | nil => simp at hlen
  | cons e sl =>
    simp only [bsiEnc, List.map_cons, bsiDec]
    rw [mapM_slices bm dom hbm hne sl fun x hx => h x (List.mem_cons_of_mem _ hx),
      hbm.rt e (h e (List.mem_cons_self))]
    simp only [List.length_cons] at hlen
    have : bsiSlices - sl.length = 0 := by omega
    simp [this, bind, Except.bind]

theorem reads_decNum (p : Bytes × BSI) (h1 : p.1.length < 4294967296)
    (h2 : p.2.length < 4294967296) (h3 : bsiSlices + 1 ≤ p.2.length) (h4 : ∀ x ∈ p.2, dom x) :
    Reads (decNum bm) (flat (numItems bm p)) p := by
  unfold decNum
  have hl : (bsiEnc bm p.2).length = p.2.length := by simp [bsiEnc]
  refine Reads.of_eq
    (Reads.bind (Reads.rLenBytes _ h1)
    (Reads.bind (Reads.rU32 _ (by omega))
    (Reads.bind (Reads.lenBytesList _ (bsiEnc bm p.2) (by
        intro b hb
        simp only [bsiEnc, List.mem_map] at hb
        obtain ⟨x, hx, rfl⟩ := hb
        exact hbm.small _ (h4 x hx)))
    (Reads.bind (Reads.ofExcept (bsiDec_enc bm dom hbm hne p.2 h3 h4))
    (Reads.pure _))))) ?_
  simp [numItems]

theorem reads_decodeC (s : State) (hwf : wf s = true) (hdom : ∀ b ∈ bitmaps s, dom b) :
    Reads (decodeC bm) (encodeRaw bm s) s := by
  simp only [wf, Bool.and_eq_true, decide_eq_true_eq, List.all_eq_true, u32ok_iff,
    keysNodup_iff] at hwf
  obtain ⟨⟨⟨⟨⟨hc1, hc2⟩, hc3⟩, hn1⟩, hn2⟩, hn3⟩ := hwf
  have hall : dom s.allDocs := hdom _ (by simp [bitmaps])
  unfold decodeC
  refine Reads.of_eq
    (Reads.preamble rfl _
    (Reads.blob hbm hall
    (Reads.bind (Reads.rU32 _ hc1)
    (Reads.bind (Reads.repeat _ s.categorical fun p hp =>
        reads_decCat bm dom hbm p (hc3 p hp) (hdom _ (by
          simp only [bitmaps, List.mem_cons, List.mem_append, List.mem_map]
          exact Or.inr (Or.inl ⟨p, hp, rfl⟩))))
    (Reads.bind (Reads.rU32 _ hn1)
    (Reads.bind (Reads.repeat _ s.numeric fun p hp =>
        reads_decNum bm dom hbm hne p (hn3 p hp).1.1 (hn3 p hp).1.2 (hn3 p hp).2 (by
          intro x hx
          apply hdom
          simp only [bitmaps, List.mem_cons, List.mem_append, List.mem_flatMap]
          exact Or.inr (Or.inr ⟨p, hp, hx⟩)))
    (Reads.pure_of_eq ?_))))))) ?_
  · rw [mkMap_of_nodup _ hc2, mkMap_of_nodup _ hn2]
  · simp [encodeRaw, items]

/-- `Flush` is a no-op for the metadata index -/
theorem reads_encode (s : State) (hwf : wf s = true) (hdom : ∀ b ∈ bitmaps s, dom b) :
    Reads (decodeC bm) (encode bm s) s := by
  simp only [encode, writeTo, flush]
  exact reads_decodeC bm dom hbm hne s hwf hdom

end

end Meta
end Comet.Codec
