/- Helper lemmas for the IVF codec (Comet/Codec/IVF.lean). -/
import CometProofs.Codec.Flat
import Comet.Codec.IVF
namespace Comet.Codec.IVF
open Comet.Codec

instance : Sound (CP.rU32 swR) := .rU32 rfl
instance : Sound (CP.rU8 swR) := .rU8 rfl
instance : Sound (CP.rF32 swR) := .rF32 rfl

instance sound_decCentroid : Sound (decCentroid) := by
  unfold decCentroid
  exact .bind fun _ => inferInstance

instance sound_decEntry (dim : Nat) : Sound (decEntry dim) := by
  unfold decEntry
  exact .bind fun _ => .bind fun _ => .pure _

instance sound_decList (dim : Nat) : Sound (decList dim) := by
  unfold decList
  exact .bind fun _ => inferInstance

instance sound_decodeC (bm : BlobCodec) (p : Params) : Sound (decodeC bm p) := by
  unfold decodeC
  exact .preamble _ fun _ => .bind fun _ => .bind fun _ => .bind fun _ => .bind fun _ =>
    .bind fun _ => .bind fun _ => .bind fun _ => .bind fun _ => .bind fun _ => .bind fun _ =>
    .bind fun _ => .bind fun _ => .pure _

theorem f32s_iff (v : List Nat) : f32s v = true ↔ ∀ x ∈ v, x < 4294967296 := by
  simp [f32s]

theorem reads_decCentroid (c : List Nat) (h1 : c.length < 4294967296) (h2 : f32s c = true) :
    Reads decCentroid (flat (centroidItems c)) c :=
  (Reads.counted encU32 h1 fun x hx => Reads.rF32 _ ((f32s_iff c).1 h2 x hx)).of_eq
    (by simp [centroidItems])

theorem reads_decEntry (dim : Nat) (p : Nat × List Nat) (h1 : p.1 < 4294967296)
    (h2 : p.2.length = dim) (h3 : f32s p.2 = true) :
    Reads (decEntry dim) (flat (entryItems p)) p := by
  subst h2
  unfold decEntry
  refine Reads.of_eq
    (Reads.bind (Reads.rU32 _ h1)
    (Reads.bind (Reads.repeat encU32 p.2 fun x hx => Reads.rF32 _ ((f32s_iff p.2).1 h3 x hx))
    (Reads.pure _))) ?_
  simp [entryItems]

theorem reads_decList (dim : Nat) (l : List (Nat × List Nat)) (h1 : l.length < 4294967296)
    (h2 : ∀ p ∈ l, (p.1 < 4294967296 ∧ p.2.length = dim) ∧ f32s p.2 = true) :
    Reads (decList dim) (flat (listItems l)) l :=
  (Reads.counted _ h1 fun p hp =>
    reads_decEntry dim p (h2 p hp).1.1 (h2 p hp).1.2 (h2 p hp).2).of_eq (by simp [listItems])

theorem reads_decodeC (bm : BlobCodec) (dom : List Nat → Prop) (hbm : bm.Lawful dom)
    (s : State) (hwf : wf s = true) (hdel : dom s.deleted) :
    Reads (decodeC bm s.params) (encodeRaw bm s) s := by
  simp only [wf, Bool.and_eq_true, decide_eq_true_eq, List.all_eq_true] at hwf
  obtain ⟨⟨⟨⟨⟨⟨hdim, hmk⟩, hnl⟩, htr⟩, hc⟩, hll⟩, hl⟩ := hwf
  unfold decodeC
  refine Reads.of_eq
    (Reads.preamble rfl _
    (Reads.bind (Reads.rU32 _ hdim)
    (Reads.guard_bind (beq_self_eq_true _)
    (Reads.bind (Reads.rLenBytes _ hmk)
    (Reads.guard_bind (beq_self_eq_true _)
    (Reads.bind (Reads.rU32 _ hnl)
    (Reads.guard_bind (beq_self_eq_true _)
    (Reads.bind (Reads.rFlag _ s.trained)
    (Reads.bind (Reads.cond_flag
      (fun ht => by
        have := Reads.repeat _ s.centroids fun c hc' =>
          reads_decCentroid c (hc c hc').1 (hc c hc').2
        rwa [show s.centroids.length = s.nlist by simpa [ht] using htr] at this)
      (fun ht => by simpa [ht] using htr))
    (Reads.bind (Reads.rU32 _ hll)
    (Reads.bind (Reads.repeat _ s.lists fun l hl' =>
        reads_decList s.dim l (hl l hl').1 (hl l hl').2)
    (Reads.blob hbm hdel
    (Reads.pure_of_eq ?_))))))))))))) ?_
  · cases s with | mk d mk nl tr c l del => cases tr <;> rfl
  · simp [encodeRaw, items, apply_ite flat]

theorem flush_params (s : State) : (flush s).params = s.params := by
  unfold flush; split <;> rfl

theorem flush_deleted (s : State) : (flush s).deleted = [] := by
  unfold flush
  split
  · next h => simpa using h
  · rfl

theorem wf_flush (s : State) (h : wf s = true) : wf (flush s) = true := by
  unfold flush
  split
  · exact h
  · simp only [wf, Bool.and_eq_true, decide_eq_true_eq, List.all_eq_true, List.length_map,
      List.mem_map, forall_exists_index, and_imp, forall_apply_eq_imp_iff₂] at h ⊢
    exact ⟨h.1, fun l hl => ⟨Nat.lt_of_le_of_lt (List.length_filter_le _ _) (h.2 l hl).1,
      fun p hp => (h.2 l hl).2 p (List.mem_filter.1 hp).1⟩⟩

theorem flush_of_nil (s : State) (h : s.deleted = []) : flush s = s := by
  unfold flush; simp [h]

theorem flush_flush (s : State) : flush (flush s) = flush s :=
  flush_of_nil _ (flush_deleted s)

theorem removed_absent (s : State) : ∀ id ∈ s.deleted, id ∉ streamIds (flush s) := by
  intro id hid
  unfold flush streamIds
  split
  · next h => simp [List.isEmpty_iff.1 h] at hid
  · simp only [List.mem_flatMap, List.mem_map, not_exists, not_and]
    intro l' hl p hp hpid
    obtain ⟨l, _, rfl⟩ := hl
    subst hpid
    simp [hid] at hp

/-- `WriteTo`'s stream read back by a receiver constructed like the source -/
theorem reads_encode (bm : BlobCodec) (dom : List Nat → Prop) (hbm : bm.Lawful dom) (h0 : dom [])
    (s : State) (hwf : wf s = true) : Reads (decodeC bm s.params) (encode bm s) (flush s) := by
  have := reads_decodeC bm dom hbm (flush s) (wf_flush s hwf) (flush_deleted s ▸ h0)
  rwa [flush_params] at this

end Comet.Codec.IVF
