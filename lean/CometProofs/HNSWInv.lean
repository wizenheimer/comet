/-
  The state invariant of the small regime and its preservation by Add / Remove / Flush
  (helper lemmas for C12).
-/
import CometProofs.HNSWWeak
namespace Comet.HNSW

variable {V S : Type}

/-- invariant of the small regime: well-formed graph whose bottom layer is the complete
    digraph on the live vertices -/
structure Inv (s : State V) : Prop extends WInv s where
  -- every edge, on every layer, points to a resident vertex
  resolves : ∀ l j w, w ∈ nbrsAt s l j → s.nodes.contains w = true
  -- no duplicate, no self-loop: the lengths of these lists are counted against `2M`
  l0 : ∀ j, s.nodes.contains j = true → (nbrsAt s 0 j).Nodup ∧ j ∉ nbrsAt s 0 j
  comp : Complete0 s
  -- for a soft-deleted entry point, which `comp` (live sources only) does not cover
  entry_comp : ∀ v, Live s v → v ≠ s.entry → v ∈ nbrsAt s 0 s.entry

theorem init_inv (dim M efC efS : Nat) : Inv (HNSW.init dim M efC efS : State V) := by
  have hc : ∀ j, ¬ (HNSW.init dim M efC efS : State V).nodes.contains j = true :=
    fun j => Bool.eq_false_iff.1 (IdMap.contains_empty j)
  exact ⟨init_winv dim M efC efS, fun l j w hw => by simp [nbrsAt, HNSW.init] at hw,
    fun j hj => absurd hj (hc j), fun u w hu => absurd hu.1 (hc u), fun w hw => absurd hw.1 (hc w)⟩

/-! ### Remove: the graph stays, the live set shrinks -/

theorem remove_inv (s : State V) (id : Id) (hinv : Inv s) : Inv (remove s id).1 := by
  obtain ⟨hn, he, _, _, hd⟩ := remove_spec s id
  have hnb : ∀ l j, nbrsAt (remove s id).1 l j = nbrsAt s l j := fun l j => by simp [nbrsAt, hn]
  have hlive : ∀ j, Live (remove s id).1 j → Live s j := by
    intro j hj
    have := hj.2
    rw [hd] at this
    simp only [Bool.or_eq_false_iff] at this
    exact ⟨hn ▸ hj.1, this.1⟩
  refine ⟨remove_winv s id hinv.toWInv, ?_, ?_, ?_, ?_⟩
  · intro l j w hw
    rw [hn]; rw [hnb] at hw
    exact hinv.resolves l j w hw
  · intro j hj
    rw [hnb]; rw [hn] at hj
    exact hinv.l0 j hj
  · intro u w hu hw hne
    rw [hnb]
    exact hinv.comp u w (hlive u hu) (hlive w hw) hne
  · intro w hw hne
    rw [hnb, he]; rw [he] at hne
    exact hinv.entry_comp w (hlive w hw) hne

/-! ### Flush: the live vertices keep their edges to each other -/

theorem flush_inv (s : State V) (e : Id) (hinv : Inv s) (he : e ∈ flushChoices s) :
    Inv (flushTo s e) := by
  have hlive := flushTo_live s e
  have hnb := nbrsAt_flushTo s e
  have hmem : ∀ u w, Live s u → Live s w → w ∈ nbrsAt s 0 u → w ∈ nbrsAt (flushTo s e) 0 u := by
    intro u w hu hw h
    rw [hnb, hu.2]
    simp [h, hw.2]
  refine ⟨flush_winv s e hinv.toWInv he, ?_, ?_, ?_, ?_⟩
  · intro l j w hw
    rw [hnb] at hw
    split at hw
    · cases hw
    · simp only [List.mem_filter, Bool.not_eq_true'] at hw
      exact (flushTo_contains s e w).2 ⟨hinv.resolves l j w hw.1, hw.2⟩
  · intro j hj
    have hj' := (flushTo_contains s e j).1 hj
    have := hinv.l0 j hj'.1
    rw [hnb, hj'.2]
    exact ⟨this.1.sublist List.filter_sublist, fun hh => this.2 (List.mem_of_mem_filter hh)⟩
  · intro u w hu hw hne
    have hu' := (hlive u).1 hu
    have hw' := (hlive w).1 hw
    exact hmem u w hu' hw' (hinv.comp u w hu' hw' hne)
  · -- the elected entry point is live, so this is an instance of completeness
    intro w hw hne
    rw [flushTo_entry he] at hne ⊢
    have hw' := (hlive w).1 hw
    have hle := (hinv.elected he).1 (List.ne_nil_of_mem (mem_liveIds.2 hw'))
    exact hmem e w hle hw' (hinv.comp e w hle hw' (Ne.symm hne))

section
variable (m : Metric V S)

/-- `hsmall`, `hef`: the small regime bounds the vertices of every state reached, so here those
    of `s'`, which are those of `s` and `x`; hence the `+ 1` of `Pre.efOK` -/
theorem addLinked_inv {s s' : State V} {x : Id} {v' : V} {level : Nat}
    (hinv : Inv s) (hfresh : s.nodes.contains x = false)
    (hentry : isDeleted s s.entry = false)
    (hsmall : s'.nodes.count ≤ 2 * s.M + 1) (hef : s'.nodes.count ≤ s.efC)
    (h : addLinked m true s x v' level = .ok s') : Inv s' := by
  have hw := addLinked_winv m hinv.toWInv hfresh h
  have hcont := registered_contains s x v' level
  have hnb := nbrsAt_registered s x v' level
  rcases addLinked_cases m h with ⟨_, hc, rfl⟩ | ⟨hc, nx', hins⟩
  · -- the first vertex of an empty index: one vertex, no edge
    have hempty : ∀ j, s.nodes.contains j = false := (IdMap.count_eq_zero_iff _).1 hc
    obtain ⟨hn, _, _, hen, _⟩ := withEntry_frame (registered s x v' level) x
    have hnil : ∀ l j, nbrsAt (withEntry (registered s x v' level) x) l j = [] := by
      intro l j
      have : nbrsAt (withEntry (registered s x v' level) x) l j = nbrsAt (registered s x v' level) l j := by
        simp only [nbrsAt, hn]
      rw [this, hnb]
      split
      · rfl
      · simp [nbrsAt, IdMap.get?_eq_none (hempty j)]
    have hone : ∀ j, Live (withEntry (registered s x v' level) x) j → j = x := by
      intro j hj
      have := hj.1
      rw [hn, hcont, hempty] at this
      simpa [eq_comm] using this
    exact {
      toWInv := hw
      resolves := fun l j w hw' => by rw [hnil] at hw'; cases hw'
      l0 := fun j _ => by rw [hnil]; simp
      comp := fun u w hu hw' hne => absurd ((hone u hu).trans (hone w hw').symm) hne
      entry_comp := fun w hw' hne => absurd ((hone w hw').trans hen.symm) hne }
  · -- linking into a non-empty index
    obtain ⟨hp, hd, he, _⟩ := registered_frame s x v' level
    have hsync := registered_get?_self s x v' level
    have hcnt : s.nodes.count ≠ 0 := fun h0 => hc ⟨hinv.empty_entry h0, h0⟩
    have holdne : ∀ j, s.nodes.contains j = true → j ≠ x := by
      intro j hj hh; rw [hh, hfresh] at hj; cases hj
    have hdelT := isDeleted_congr hd
    have hliveT : ∀ j, j ≠ x → (Live (registered s x v' level) j ↔ Live s j) := by
      intro j hj; simp [Live, hcont, hdelT, Ne.symm hj]
    have hsh := insertNode_shape m hsync hins
    have hcount := hsh.count
    -- the lists of `registered s ..` are those of `s`, and `[]` for `x` (`hnb`)
    have hnbs {l j w} (hw' : w ∈ nbrsAt (registered s x v' level) l j) : w ∈ nbrsAt s l j := by
      rw [hnb] at hw'
      split at hw'
      · cases hw'
      · exact hw'
    have hpre : Pre (registered s x v' level) x := {
      x_res := by simp [hcont]
      x_live := by rw [hdelT]; exact hinv.not_deleted_of_fresh hfresh
      x_empty := fun l => by simp [hnb]
      no_in := fun l j hh => holdne x (hinv.resolves l j x (hnbs hh)) rfl
      resolves := fun l j w hw' => by simp [hcont, hinv.resolves l j w (hnbs hw')]
      l0 := fun j hj => by
        rw [hnb]
        split
        · simp
        · next hjx =>
          rw [hcont] at hj
          simp only [hjx, decide_false, Bool.false_or] at hj
          exact hinv.l0 j hj
      comp := fun u w hu hux hw' hwx hne => by
        rw [hnb, if_neg (Ne.symm hux)]
        exact hinv.comp u w ((hliveT u hux).1 hu) ((hliveT w hwx).1 hw') hne
      small := by rw [← hcount, hp.M]; exact hsmall
      efOK := by rw [← hcount, hp.efC]; exact Nat.le_succ_of_le hef }
    have hentryT : Live (registered s x v' level) (registered s x v' level).entry ∧
        (registered s x v' level).entry ≠ x := by
      have hres := hinv.entry_res hcnt
      rw [he]
      exact ⟨(hliveT _ (holdne _ hres)).2 ⟨hres, hentry⟩, holdne _ hres⟩
    obtain ⟨curr', hJ⟩ := insertNode_inv m hpre hsync hentryT hins
    -- layer 0 of `s'`: `x` lists the old live vertices, each of these gained `x`, no other list changed
    have hF := hJ.l0b (by simp)
    have hlive2 : ∀ j, Live s' j ↔ Live (registered s x v' level) j := hsh.live
    have hcomp2 : Complete0 s' := by
      intro u w hu hw' hne
      have hu' := (hlive2 u).1 hu
      have hw'' := (hlive2 w).1 hw'
      by_cases hux : u = x
      · subst hux
        exact (hF.x_mem w).2 ⟨hw'', fun hh => hne hh.symm⟩
      · rw [hF.back u hu' hux]
        by_cases hwx : w = x
        · subst hwx; simp
        · exact List.mem_append.2 (Or.inl (hpre.comp u w hu' hux hw'' hwx hne))
    refine ⟨hw, hJ.resolves, fun j hj => ?l0, hcomp2, fun v hv hne => ?entry_comp⟩
    case l0 =>
      rw [hsh.contains] at hj
      by_cases hjx : j = x
      · subst hjx
        exact ⟨hF.x_nodup, fun hh => ((hF.x_mem j).1 hh).2 rfl⟩
      · by_cases hjl : Live (registered s x v' level) j
        · rw [hF.back j hjl hjx]
          have hw0 := hpre.l0 j hj
          refine ⟨?_, ?_⟩
          · rw [← List.concat_eq_append]
            exact List.Nodup.concat (hpre.no_in 0 j) hw0.1
          · simp only [List.mem_append, List.mem_singleton, not_or]
            exact ⟨hw0.2, hjx⟩
        · rw [hF.rest j hjx hjl]; exact hpre.l0 j hj
    case entry_comp =>
      rw [hsh.entry] at hne ⊢
      exact hcomp2 _ v ((hlive2 _).2 hentryT.1) hv (Ne.symm hne)

theorem add_inv {s s' : State V} {x : Id} {v : V} {level : Nat} {pick : Id} {e : Option Err}
    (hinv : Inv s) (hfresh : s.nodes.contains x = false)
    (hpick : s.deleted.contains s.entry = true → pick ∈ flushChoices s)
    (hsmall : s'.nodes.count ≤ 2 * s.M + 1) (hef : s'.nodes.count ≤ s.efC)
    (h : add m s x v level pick = .ok (s', e)) : Inv s' := by
  rcases add_cases m (hinv.not_deleted_of_fresh hfresh) h with
    ⟨rfl, _⟩ | ⟨_, v', s2, nid, _, _, hlink, rfl⟩
  · exact hinv
  · obtain ⟨hk, hp⟩ := purge_keepsLive s pick
    have hinvF : Inv (purge s pick) ∧ isDeleted (purge s pick) (purge s pick).entry = false := by
      rcases purge_cases s pick with ⟨hd, hq⟩ | ⟨hd, hq⟩ <;> rw [hq]
      · exact ⟨hinv, hd⟩
      · exact ⟨flush_inv s pick hinv (hpick hd), flushTo_isDeleted _ _ _⟩
    have h2 := addLinked_inv m hinvF.1 (hk.fresh hfresh) hinvF.2
      (by rw [hp.M]; exact hsmall) (by rw [hp.efC]; exact hef) hlink
    exact ⟨⟨h2.del_res, h2.entry_res, h2.ml, h2.empty_entry⟩, h2.resolves, h2.l0, h2.comp,
      h2.entry_comp⟩

end
end Comet.HNSW
