/-
  Lemmas about the directory model (Comet/Storage/FS.lean: names, lookup, segment ids, the
  counter, `listSegments`; `recut` of Crash.lean) and about the list operations of Store.lean
  (memtable queue, segment manager, `openAll`, `Shared.remove`).
-/
import Comet.Storage.Crash
import CometProofs.AList
namespace Comet.Storage

/-! ## names, segment ids, the counter, `listSegments` -/

theorem names_erase (fs : FS) (n m : Name) : m ∈ FS.names (FS.erase fs n) ↔ m ∈ FS.names fs ∧ m ≠ n := by
  rw [show FS.names (FS.erase fs n) = _ from BM25.akeys_aerase fs n, List.mem_filter, decide_eq_true_eq]
  rfl

theorem names_put (fs : FS) (n m : Name) (f : File) : m ∈ FS.names (FS.put fs n f) ↔ m ∈ FS.names fs ∨ m = n := by
  have : FS.names (FS.put fs n f) = FS.names (FS.erase fs n) ++ [n] := List.map_append
  rw [this, List.mem_append, names_erase, List.mem_singleton]
  by_cases h : m = n <;> simp [h]

theorem names_map_if (c : Name → Prop) [DecidablePred c] (g : Name → File → File) (fs : FS) :
    FS.names (fs.map fun e => if c e.1 then (e.1, g e.1 e.2) else e) = FS.names fs := by
  unfold FS.names
  rw [List.map_map]
  exact List.map_congr_left fun e _ => by simp only [Function.comp]; split <;> rfl

theorem names_complete (fs : FS) (n : Name) : FS.names (applyStep fs (.complete n)) = FS.names fs :=
  names_map_if (· = n) (fun _ f => { f with cut := .full }) fs

theorem mem_segIds (fs : FS) (i : Nat) : i ∈ FS.segIds fs ↔ ∃ k, Name.seg k i ∈ FS.names fs := by
  unfold FS.segIds
  simp only [List.mem_filterMap]
  constructor
  · rintro ⟨n, hn, h⟩
    cases n with
    | lock => simp [Name.segId?] at h
    | seg k j => simp [Name.segId?] at h; subst h; exact ⟨k, hn⟩
  · rintro ⟨k, hk⟩; exact ⟨_, hk, rfl⟩

theorem has_iff (fs : FS) (n : Name) : FS.has fs n = true ↔ n ∈ FS.names fs := by
  unfold FS.has; simp

theorem has_erase_self (fs : FS) (n : Name) : FS.has (FS.erase fs n) n = false :=
  Bool.eq_false_iff.mpr fun h => ((names_erase _ _ _).mp ((has_iff _ _).mp h)).2 rfl

theorem foldl_max_ge (l : List Nat) (a : Nat) : a ≤ l.foldl max a := by
  induction l generalizing a with
  | nil => simp
  | cons x xs ih => simp only [List.foldl_cons]; exact Nat.le_trans (Nat.le_max_left a x) (ih _)

theorem le_foldl_max (l : List Nat) (a i : Nat) (h : i ∈ l) : i ≤ l.foldl max a := by
  induction l generalizing a with
  | nil => cases h
  | cons x xs ih =>
    simp only [List.foldl_cons]
    rcases List.mem_cons.mp h with rfl | h
    · exact Nat.le_trans (Nat.le_max_right a i) (foldl_max_ge _ _)
    · exact ih _ h

theorem foldl_max_le (l : List Nat) (a n : Nat) (ha : a ≤ n) (h : ∀ i ∈ l, i ≤ n) : l.foldl max a ≤ n := by
  induction l generalizing a with
  | nil => simpa
  | cons x xs ih =>
    simp only [List.foldl_cons]
    apply ih
    · exact Nat.max_le.mpr ⟨ha, h x (List.mem_cons_self ..)⟩
    · intro i hi; exact h i (List.mem_cons_of_mem _ hi)

theorem le_initCounter (fs : FS) (i : Nat) (h : i ∈ FS.segIds fs) : i ≤ initCounter fs :=
  le_foldl_max _ _ _ h

theorem initCounter_le (fs : FS) (n : Nat) (h : ∀ i ∈ FS.segIds fs, i ≤ n) : initCounter fs ≤ n :=
  foldl_max_le _ _ _ (Nat.zero_le _) h

theorem initCounter_congr (fs fs' : FS) (h : ∀ i, i ∈ FS.segIds fs ↔ i ∈ FS.segIds fs') :
    initCounter fs = initCounter fs' := by
  apply Nat.le_antisymm
  · exact initCounter_le _ _ fun i hi => Storage.le_initCounter _ _ ((h i).mp hi)
  · exact initCounter_le _ _ fun i hi => Storage.le_initCounter _ _ ((h i).mpr hi)

theorem segIds_erase_lock (fs : FS) (i : Nat) : i ∈ FS.segIds (FS.erase fs .lock) ↔ i ∈ FS.segIds fs := by
  rw [mem_segIds, mem_segIds]
  constructor
  · rintro ⟨k, hk⟩; exact ⟨k, ((names_erase _ _ _).mp hk).1⟩
  · rintro ⟨k, hk⟩; exact ⟨k, (names_erase _ _ _).mpr ⟨hk, by intro h; cases h⟩⟩

theorem segIds_put_lock (fs : FS) (f : File) (i : Nat) : i ∈ FS.segIds (FS.put fs .lock f) ↔ i ∈ FS.segIds fs := by
  rw [mem_segIds, mem_segIds]
  constructor
  · rintro ⟨k, hk⟩
    rcases (names_put _ _ _ _).mp hk with h | h
    · exact ⟨k, h⟩
    · cases h
  · rintro ⟨k, hk⟩; exact ⟨k, (names_put _ _ _ _).mpr (.inl hk)⟩

theorem names_recut (created : List Name) (cuts : Name → Cut) (fs : FS) :
    FS.names (recut created cuts fs) = FS.names fs :=
  names_map_if (fun k => created.contains k = true) (fun k f => { f with cut := cuts k }) fs

theorem segIds_recut (created : List Name) (cuts : Name → Cut) (fs : FS) :
    FS.segIds (recut created cuts fs) = FS.segIds fs := by
  unfold FS.segIds; rw [names_recut]

theorem mem_insertSorted (x y : Nat) (l : List Nat) : y ∈ insertSorted x l ↔ y = x ∨ y ∈ l := by
  induction l with
  | nil => simp [insertSorted]
  | cons z zs ih =>
    simp only [insertSorted]
    split
    · simp
    · simp [ih]; constructor
      · rintro (h | h | h) <;> simp [h]
      · rintro (h | h | h) <;> simp [h]

theorem mem_sortNat (y : Nat) (l : List Nat) : y ∈ sortNat l ↔ y ∈ l := by
  induction l with
  | nil => simp [sortNat]
  | cons x xs ih =>
    have : sortNat (x :: xs) = insertSorted x (sortNat xs) := rfl
    rw [this, mem_insertSorted, ih]; simp

theorem mem_listSegments (fs : FS) (i : Nat) :
    i ∈ listSegments fs ↔ Name.seg .hybrid i ∈ FS.names fs := by
  unfold listSegments
  rw [mem_sortNat, List.mem_eraseDups, List.mem_filterMap]
  constructor
  · rintro ⟨n, hn, h⟩
    cases n with
    | lock => simp at h
    | seg k j =>
      cases k <;> simp at h
      subst h; exact hn
  · intro h; exact ⟨_, h, rfl⟩

theorem listSegments_sub_segIds (fs : FS) (i : Nat) (h : i ∈ listSegments fs) : i ∈ FS.segIds fs :=
  (mem_segIds _ _).mpr ⟨.hybrid, (mem_listSegments _ _).mp h⟩

/-! ## lookup -/

theorem Name.seg_ne_lock (k : Kind) (g : Nat) : Name.seg k g ≠ .lock := nofun

theorem find_eq_aget (fs : FS) (n : Name) : FS.find fs n = BM25.aget fs n := by
  induction fs with
  | nil => rfl
  | cons e r ih => rw [FS.find, BM25.aget, ih]

theorem find_mem (fs : FS) (n : Name) (f : File) (h : FS.find fs n = some f) : (n, f) ∈ fs :=
  BM25.mem_of_aget ((find_eq_aget fs n).symm.trans h)

theorem find_some_name (fs : FS) (n : Name) (f : File) (h : FS.find fs n = some f) : n ∈ FS.names fs :=
  List.mem_map.mpr ⟨(n, f), find_mem fs n f h, rfl⟩

theorem find_map_if (c : Name → Prop) [DecidablePred c] (g : Name → File → File) (fs : FS) (m : Name) :
    FS.find (fs.map fun e => if c e.1 then (e.1, g e.1 e.2) else e) m =
      if c m then (FS.find fs m).map (g m) else FS.find fs m := by
  have e : (fun e : Name × File => if c e.1 then (e.1, g e.1 e.2) else e) =
      fun e => (e.1, (fun k x => if c k then g k x else x) e.1 e.2) := by
    funext e; by_cases h : c e.1 <;> simp [h]
  rw [e, find_eq_aget, find_eq_aget, BM25.aget_map_val fs (fun k x => if c k then g k x else x) m]
  by_cases h : c m <;> simp [h]

theorem find_erase (fs : FS) (n m : Name) : FS.find (FS.erase fs n) m = if m = n then none else FS.find fs m := by
  rw [find_eq_aget, find_eq_aget]; exact BM25.aget_aerase fs n m

theorem find_put (fs : FS) (n m : Name) (f : File) :
    FS.find (FS.put fs n f) m = if m = n then some f else FS.find fs m := by
  rw [find_eq_aget, find_eq_aget]; exact BM25.aget_aerase_append fs n m f

theorem find_erase_ne (fs : FS) (n m : Name) (h : m ≠ n) : FS.find (FS.erase fs n) m = FS.find fs m := by
  rw [find_erase, if_neg h]

theorem find_put_ne (fs : FS) (n m : Name) (f : File) (h : m ≠ n) : FS.find (FS.put fs n f) m = FS.find fs m := by
  rw [find_put, if_neg h]

theorem find_recut_untouched (created : List Name) (cuts : Name → Cut) (fs : FS) (m : Name)
    (h : m ∉ created) : FS.find (recut created cuts fs) m = FS.find fs m :=
  (find_map_if (fun k => created.contains k = true) (fun k f => { f with cut := cuts k }) fs m).trans
    (if_neg (by simpa using h))

theorem put_then_complete (fs : FS) (n : Name) (p : Payload) :
    applyStep (FS.put fs n ⟨p, .header⟩) (.complete n) = FS.put fs n ⟨p, .full⟩ := by
  simp only [applyStep, FS.put, List.map_append, List.map_cons, List.map_nil, if_true]
  congr 1
  have : ∀ e ∈ FS.erase fs n, (if e.1 = n then (e.1, { e.2 with cut := Cut.full }) else e) = e := by
    intro e he
    have := (List.mem_filter.mp he).2
    simp only [ne_eq, decide_eq_true_eq] at this
    rw [if_neg this]
  rw [List.map_congr_left this, List.map_id']

/-! ## memtable queue and segment manager -/

theorem modifyLast_ne {α} (f : α → α) {l : List α} (h : l ≠ []) : modifyLast f l ≠ [] := by
  match l with
  | [] => exact absurd rfl h
  | [a] => simp [modifyLast]
  | a :: b :: r => simp [modifyLast]

theorem rotateQ_ne (l : List Memtable) (u : Nat) : rotateQ l u ≠ [] := by
  unfold rotateQ; simp

theorem removeMt_ne (uid : Nat) {l : List Memtable} (h : l ≠ []) : removeMt uid l ≠ [] := by
  match l with
  | [] => exact absurd rfl h
  | [a] => simp [removeMt]
  | a :: b :: r =>
    simp only [removeMt]
    split
    · simp
    · simp

theorem mem_replaceFirst (id : Nat) (l g : Seg) (segs : List Seg) (h : g ∈ replaceFirst id l segs) :
    g = l ∨ g ∈ segs := by
  induction segs with
  | nil => simp [replaceFirst] at h
  | cons s r ih =>
    simp only [replaceFirst] at h
    split at h
    · rcases List.mem_cons.mp h with h | h
      · exact .inl h
      · exact .inr (List.mem_cons_of_mem _ h)
    · rcases List.mem_cons.mp h with h | h
      · exact .inr (by rw [h]; exact List.mem_cons_self ..)
      · rcases ih h with h | h
        · exact .inl h
        · exact .inr (List.mem_cons_of_mem _ h)

theorem mem_removeSwap (segs : List Seg) (id : Nat) (g : Seg) (h : g ∈ removeSwap segs id) : g ∈ segs := by
  unfold removeSwap at h
  split at h
  · simp at h
  · rename_i l hl
    split at h
    · have := List.dropLast_subset _ h
      rcases mem_replaceFirst _ _ _ _ this with h | h
      · rw [h]; exact List.mem_of_getLast? hl
      · exact h
    · exact h

theorem mem_foldl_removeSwap (srcs : List Nat) (segs : List Seg) (g : Seg)
    (h : g ∈ srcs.foldl removeSwap segs) : g ∈ segs := by
  induction srcs generalizing segs with
  | nil => exact h
  | cons x r ih => exact mem_removeSwap _ _ _ (ih _ h)

theorem setCached_ids (segs : List Seg) (id : Nat) (c : Bool) :
    (setCached segs id c).map (·.id) = segs.map (·.id) := by
  unfold setCached
  rw [List.map_map]
  apply List.map_congr_left
  intro g _
  simp only [Function.comp]
  split <;> rfl

theorem isCached_nil (g : Nat) : isCached [] g = none := rfl

theorem isCached_cons (x : Seg) (r : List Seg) (g : Nat) :
    isCached (x :: r) g = if x.id = g then some x.cached else isCached r g := by
  unfold isCached
  simp only [List.find?_cons]
  by_cases h : x.id = g <;> simp [h]

theorem setCached_cons (x : Seg) (r : List Seg) (id : Nat) (c : Bool) :
    setCached (x :: r) id c = (if x.id = id then { x with cached := c } else x) :: setCached r id c := rfl

theorem isCached_setCached_same (segs : List Seg) (g : Nat) (c b : Bool) (h : isCached segs g = some b) :
    isCached (setCached segs g c) g = some c := by
  induction segs with
  | nil => simp [isCached_nil] at h
  | cons x r ih =>
    rw [setCached_cons, isCached_cons]
    rw [isCached_cons] at h
    by_cases hx : x.id = g
    · simp [hx]
    · simp only [hx, if_false] at h ⊢
      exact ih h

theorem isCached_setCached_ne (segs : List Seg) (g id : Nat) (c : Bool) (hne : g ≠ id) :
    isCached (setCached segs id c) g = isCached segs g := by
  induction segs with
  | nil => rfl
  | cons x r ih =>
    rw [setCached_cons, isCached_cons, isCached_cons, ih]
    by_cases hx : x.id = id
    · have h1 : ¬ x.id = g := fun h => hne (h.symm.trans hx)
      have h2 : ¬ id = g := fun h => hne h.symm
      simp [hx, h2]
    · simp [hx]

theorem isCached_map_cached (segs : List Seg) (g : Nat) (c : Bool) :
    isCached (segs.map fun x => { x with cached := c }) g = (isCached segs g).map fun _ => c := by
  induction segs with
  | nil => rfl
  | cons x r ih =>
    rw [List.map_cons, isCached_cons, isCached_cons]
    by_cases hx : x.id = g
    · simp [hx]
    · simp only [hx, if_false]; exact ih

theorem isCached_append_left (a b : List Seg) (g : Nat) (c : Bool) (h : isCached a g = some c) :
    isCached (a ++ b) g = some c := by
  induction a with
  | nil => simp [isCached_nil] at h
  | cons x r ih =>
    rw [List.cons_append, isCached_cons]
    rw [isCached_cons] at h
    by_cases hx : x.id = g
    · simp only [hx, if_true] at h ⊢; exact h
    · simp only [hx, if_false] at h ⊢; exact ih h

theorem isCached_some_mem (segs : List Seg) (g : Nat) (c : Bool) (h : isCached segs g = some c) :
    g ∈ segs.map (·.id) := by
  induction segs with
  | nil => simp [isCached_nil] at h
  | cons x r ih =>
    rw [isCached_cons] at h
    by_cases hx : x.id = g
    · simp [hx]
    · simp only [hx, if_false] at h
      exact List.mem_cons_of_mem _ (ih h)

theorem isCached_none_of_not_mem (segs : List Seg) (g : Nat) (h : g ∉ segs.map (·.id)) : isCached segs g = none := by
  induction segs with
  | nil => rfl
  | cons x r ih =>
    rw [isCached_cons]
    have hx : ¬ x.id = g := fun e => h (by simp [e])
    simp only [hx, if_false]
    exact ih (fun hm => h (List.mem_cons_of_mem _ hm))

theorem isCached_append_new (segs : List Seg) (g : Nat) (c : Bool) (h : isCached segs g = none) :
    isCached (segs ++ [⟨g, c⟩]) g = some c := by
  induction segs with
  | nil => simp [isCached_cons]
  | cons x r ih =>
    rw [List.cons_append, isCached_cons]
    rw [isCached_cons] at h
    by_cases hx : x.id = g
    · simp [hx] at h
    · simp only [hx, if_false] at h ⊢; exact ih h

theorem isCached_fresh (l : List Nat) (g : Nat) (h : g ∈ l) :
    isCached (l.map fun i => (⟨i, false⟩ : Seg)) g = some false := by
  induction l with
  | nil => cases h
  | cons x r ih =>
    rw [List.map_cons, isCached_cons]
    by_cases hx : x = g
    · simp [hx]
    · simp only [hx, if_false]
      rcases List.mem_cons.mp h with h | h
      · exact absurd h.symm hx
      · exact ih h

/-! ## opening the component files of a segment -/

theorem openable_find {fs : FS} {n : Name} {f : File} (h : openable fs n = some f) :
    FS.find fs n = some f ∧ f.cut ≠ .header := by
  unfold openable at h
  cases hg : FS.find fs n with
  | none => rw [hg] at h; cases h
  | some g =>
    rw [hg] at h
    replace h : (if g.cut = .header then none else some g) = some f := h
    by_cases hc : g.cut = .header
    · rw [if_pos hc] at h; cases h
    · rw [if_neg hc] at h; cases h; exact ⟨rfl, hc⟩

theorem openAll_spec {fs : FS} {id : Nat} {ks : List Kind} {files : List (Kind × File)}
    (h : openAll fs id ks = some files) :
    files.map (·.1) = ks ∧ ∀ kf ∈ files, FS.find fs (.seg kf.1 id) = some kf.2 ∧ kf.2.cut ≠ .header := by
  induction ks generalizing files with
  | nil => cases h; exact ⟨rfl, fun _ hkf => nomatch hkf⟩
  | cons k r ih =>
    simp only [openAll] at h
    split at h
    · rename_i f rest hf hr
      cases h
      obtain ⟨h1, h2⟩ := ih hr
      exact ⟨congrArg (k :: ·) h1, fun kf hkf => (List.mem_cons.mp hkf).elim (· ▸ openable_find hf) (h2 kf)⟩
    · cases h

/-! ## shared index content -/

theorem remove_ok {T T' : Shared} {i : Info} (h : T.remove i = .ok T') :
    T' = { v := if i.hv then { T.v with deleted := i.id :: T.v.deleted } else T.v
           x := if i.ht && T.x.docs.contains i.id && !T.x.deleted.contains i.id
                then { T.x with deleted := i.id :: T.x.deleted } else T.x
           m := if i.hm then ⟨T.m.all.filter fun j => j != i.id⟩ else T.m } := by
  unfold Shared.remove at h
  by_cases c1 : (i.hv && !T.v.stored.contains i.id) = true
  · rw [if_pos c1] at h; cases h
  · rw [if_neg c1] at h
    by_cases c2 : (i.hv && T.v.deleted.contains i.id) = true
    · rw [if_pos c2] at h; cases h
    · rw [if_neg c2] at h; exact (Except.ok.inj h).symm

end Comet.Storage
