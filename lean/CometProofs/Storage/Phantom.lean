/-
  No phantom ids: the shared index content and every sub-index file of the directory hold
  acknowledged ids only (`PhInv`), so a search can return nothing else. The docInfo of hybrid
  files is not covered (`Payload.content` is empty for them): `readComp` publishes none of it.
-/
import CometProofs.Storage.Moves
namespace Comet.Storage

def ackedIds (s : Store) : List Id := s.gh.acked.map (·.id)

def Sub (A : List Id) (T : Shared) : Prop := ∀ i ∈ T.ids, i ∈ A
def FSub (A : List Id) (fs : FS) : Prop := ∀ e ∈ fs, ∀ i ∈ e.2.payload.content, i ∈ A

section
variable {A : List Id} {T T' : Shared}

theorem mem_ids (T : Shared) (i : Id) : i ∈ T.ids ↔ i ∈ T.v.stored ∨ i ∈ T.x.docs ∨ i ∈ T.m.all := by
  unfold Shared.ids; simp [List.mem_append]

theorem sub_iff :
    Sub A T ↔ (∀ i ∈ T.v.stored, i ∈ A) ∧ (∀ i ∈ T.x.docs, i ∈ A) ∧ (∀ i ∈ T.m.all, i ∈ A) := by
  simp only [Sub, mem_ids, or_imp, forall_and]

theorem sub_empty (A : List Id) : Sub A Shared.empty := by
  intro i hi; simp [Shared.ids, Shared.empty] at hi

theorem vlive_sub {v : VecIx} {i : Id} (h : i ∈ v.live) : i ∈ v.stored := by
  unfold VecIx.live at h; exact (List.mem_filter.mp h).1

theorem xlive_sub {x : TxtIx} {i : Id} (h : i ∈ x.live) : i ∈ x.docs := by
  unfold TxtIx.live at h; exact (List.mem_filter.mp h).1

theorem matchIds_sub {T : Shared} {q : Q} {i : Id} (h : i ∈ T.matchIds q) : i ∈ T.ids := by
  rw [mem_ids]
  cases q with
  | vec => exact .inl (vlive_sub h)
  | txt => exact .inr (.inl (xlive_sub h))
  | md => exact .inr (.inr h)

theorem sub_add (h : Sub A T) (i : Info) (hi : i.id ∈ A) : Sub A (T.add i) := by
  obtain ⟨hv, hx, hm⟩ := sub_iff.mp h
  -- every list `Shared.add` builds is an old one, possibly with `i.id` appended
  have app : ∀ {l : List Id}, (∀ j ∈ l, j ∈ A) → ∀ j ∈ l ++ [i.id], j ∈ A := fun hl j hj =>
    (List.mem_append.mp hj).elim (hl j) fun hj => List.mem_singleton.mp hj ▸ hi
  refine sub_iff.mpr ⟨?_, ?_, ?_⟩ <;> unfold Shared.add <;> dsimp only
  · split
    · split
      · exact app fun j hj => hv j (vlive_sub hj)
      · exact app hv
    · exact hv
  · split
    · dsimp only
      split
      · exact hx
      · exact app hx
    · exact hx
  · split
    · split
      · exact hm
      · exact app hm
    · exact hm

theorem sub_remove (h : Sub A T) {i : Info} (hr : T.remove i = .ok T') : Sub A T' := by
  obtain ⟨hv, hx, hm⟩ := sub_iff.mp h
  obtain rfl := remove_ok hr
  refine sub_iff.mpr ⟨?_, ?_, ?_⟩ <;> dsimp only
  · split <;> exact hv
  · split <;> exact hx
  · split
    · exact fun j hj => hm j (List.mem_filter.mp hj).1
    · exact hm

theorem sub_flush (h : Sub A T) : Sub A T.flush :=
  have ⟨hv, hx, hm⟩ := sub_iff.mp h
  sub_iff.mpr ⟨fun i hi => hv i (vlive_sub hi), fun i hi => hx i (xlive_sub hi), hm⟩

theorem sub_readComp {tpl : Tpl} {k : Kind} {f : File} (h : Sub A T)
    (hf : ∀ i ∈ f.payload.content, i ∈ A) (hr : readComp tpl T k f = some T') : Sub A T' := by
  obtain ⟨hv, hx, hm⟩ := sub_iff.mp h
  unfold readComp at hr
  split at hr
  · cases hr
  · split at hr
    · split at hr
      · cases hr; exact h
      · cases hr
    · rename_i st hp; cases hr; exact sub_iff.mpr ⟨fun i hi => hf i (by rw [hp]; exact hi), hx, hm⟩
    · rename_i ds hp; cases hr; exact sub_iff.mpr ⟨hv, fun i hi => hf i (by rw [hp]; exact hi), hm⟩
    · rename_i a hp; cases hr; exact sub_iff.mpr ⟨hv, hx, fun i hi => hf i (by rw [hp]; exact hi)⟩
    · cases hr

theorem sub_readAll {tpl : Tpl} {files : List (Kind × File)} {pc : Bool}
    (h : Sub A T) (hf : ∀ kf ∈ files, ∀ i ∈ kf.2.payload.content, i ∈ A) :
    Sub A (readAll tpl T pc files).2 := by
  induction files generalizing T pc with
  | nil => exact h
  | cons kf r ih =>
    obtain ⟨k, f⟩ := kf
    simp only [readAll]
    split
    · exact h
    · split
      · exact h
      · rename_i T' hT'
        have ⟨hf1, hf2⟩ := List.forall_mem_cons.mp hf
        exact ih (sub_readComp h hf1 hT') hf2

theorem sub_loadSeg (tpl : Tpl) {fs : FS} (id : Nat)
    (h : Sub A T) (hfs : FSub A fs) : Sub A (loadSeg tpl fs id T).2 := by
  unfold loadSeg
  split
  · exact h
  · rename_i files hfiles
    apply sub_readAll h
    intro kf hkf i hi
    exact hfs _ (find_mem _ _ _ ((openAll_spec hfiles).2 kf hkf).1) i hi

theorem fsub_erase {fs : FS} (h : FSub A fs) (n : Name) : FSub A (FS.erase fs n) :=
  fun e he i hi => h e (List.mem_filter.mp he).1 i hi

theorem fsub_applySteps {steps : List FsStep} {fs : FS} (h : FSub A fs)
    (hp : ∀ n p, .create n p ∈ steps → ∀ i ∈ p.content, i ∈ A) : FSub A (applySteps fs steps) := by
  induction steps generalizing fs with
  | nil => exact h
  | cons st r ih =>
    refine ih (fun e he i hi => ?_) fun n p hm => hp n p (List.mem_cons_of_mem _ hm)
    cases st with
    | create n p =>
      rcases List.mem_append.mp he with he | he
      · exact fsub_erase h n e he i hi
      · obtain rfl := List.mem_singleton.mp he
        exact hp n p (List.mem_cons_self ..) i hi
    | complete n =>
      obtain ⟨e0, he0, rfl⟩ := List.mem_map.mp he
      split at hi <;> exact h e0 he0 i hi
    | remove n => exact fsub_erase h n e he i hi

theorem fsub_recut {fs : FS} (h : FSub A fs) (created : List Name) (cuts : Name → Cut) :
    FSub A (recut created cuts fs) := by
  intro e he i hi
  obtain ⟨e0, he0, rfl⟩ := List.mem_map.mp he
  split at hi <;> exact h e0 he0 i hi

structure PhInv (s : Store) : Prop where
  T : Sub (ackedIds s) s.T
  fs : FSub (ackedIds s) s.fs

theorem phInv_openOn (cfg : Cfg) (fs : FS) (gh : Ghost) (hfs : FSub (gh.acked.map (·.id)) fs) :
    PhInv (openOn cfg fs Shared.empty gh).1 := by
  unfold openOn
  split
  · exact ⟨sub_empty _, hfs⟩
  · refine ⟨sub_empty _, fun e he i hi => ?_⟩
    rcases List.mem_append.mp he with he | he
    · exact fsub_erase hfs _ e he i hi
    · obtain rfl := List.mem_singleton.mp he
      cases hi

/-- the payloads any step may create hold acknowledged ids only -/
theorem PhInv.created {s : Store} (h : PhInv s) {st : Step} {l : List FsStep} (sh : FsShape s st l)
    (n : Name) (p : Payload) (hc : .create n p ∈ l) : ∀ i ∈ p.content, i ∈ ackedIds s := by
  cases sh with
  | none => cases hc
  | unlock => simp at hc
  | lock => obtain ⟨_, rfl⟩ : n = .lock ∧ p = .lock := by simpa using hc
            nofun
  | swap srcs => obtain ⟨_, _, _, e⟩ := mem_deleteSteps hc; cases e
  | write info => exact fun i hi => sub_flush h.T i (content_of_create_mem_writeSteps hc i hi)
  | flush l =>
    obtain ⟨_, _, T', _, hT', hc⟩ := mem_flushStepsFrom (P := Sub (ackedIds s)) (fun _ => sub_flush) h.T hc
    exact fun i hi => hT' i (content_of_create_mem_writeSteps hc i hi)

theorem PhInv.move {st : Step} {s s' : Store} (m : Move st s s') (h : PhInv s) : PhInv s' := by
  induction m with
  | refl => exact h
  | trans _ _ ih1 ih2 => exact ih2 (ih1 h)
  | quiet | setCw | register | evict => exact ⟨h.T, h.fs⟩
  | add s d =>
    exact ⟨sub_add (fun i hi => List.mem_cons_of_mem _ (h.T i hi)) _ (List.mem_cons_self ..),
      fun e he i hi => List.mem_cons_of_mem _ (h.fs e he i hi)⟩
  | remove s hr => exact ⟨sub_remove h.T hr, h.fs⟩
  | write s info =>
    refine ⟨sub_flush h.T, ?_⟩
    dsimp only
    exact fsub_applySteps h.fs (h.created (st := st) (.write info))
  | load s id ok hL =>
    have := sub_loadSeg s.cfg.tpl id h.T h.fs
    rw [hL] at this
    exact ⟨this, h.fs⟩
  | unlock => exact ⟨h.T, fsub_erase h.fs _⟩
  | reopen => exact phInv_openOn _ _ _ h.fs
  | swap s srcs n hcw hst => exact ⟨h.T, fsub_applySteps h.fs (h.created (.swap srcs n hcw hst))⟩

theorem PhInv.crash {s : Store} {st : Step} (k : Nat) (cuts : Name → Cut) (_ : s.opened = true) (h : PhInv s) :
    PhInv (crashTo s (crashImage s.fs (fsStepsOf s st) k cuts)) :=
  ⟨sub_empty _, fsub_erase (fsub_recut (fsub_applySteps h.fs fun n p hp =>
    h.created (fsStepsOf_shape s st) n p (List.mem_of_mem_take hp)) _ _) _⟩

theorem phInv_reach {cfg : Cfg} {s : Store} (h : Reach cfg s) : PhInv s :=
  inv_reach (phInv_openOn cfg [] {} fun _ he => nomatch he) PhInv.move PhInv.crash h

theorem searchFold_sub (cfg : Cfg) (fs : FS) (q : Q) (hfs : FSub A fs)
    (sched : List SegEv) (st : SearchSt) (hT : Sub A st.T) (hacc : ∀ i ∈ st.acc, i ∈ A) :
    Sub A (sched.foldl (segEvent cfg fs q) st).T ∧ ∀ i ∈ (sched.foldl (segEvent cfg fs q) st).acc, i ∈ A := by
  induction sched generalizing st with
  | nil => exact ⟨hT, hacc⟩
  | cons ev r ih =>
    have step : Sub A (segEvent cfg fs q st ev).T ∧ ∀ i ∈ (segEvent cfg fs q st ev).acc, i ∈ A := by
      cases ev with
      | load id =>
        simp only [segEvent]
        split
        · exact ⟨sub_loadSeg _ _ hT hfs, hacc⟩
        · exact ⟨hT, hacc⟩
      | scan id =>
        simp only [segEvent]
        split
        · exact ⟨hT, fun i hi => (List.mem_append.mp hi).elim (hacc i) fun hi => hT i (matchIds_sub hi)⟩
        · exact ⟨hT, hacc⟩
    exact ih _ step.1 step.2

theorem search_result_acked {s : Store} (h : PhInv s) {q : Q} {sched : List SegEv} {l : List Id}
    (hr : (execSearch s q sched).2.1 = .ids l) : ∀ i ∈ l, ∃ d ∈ s.gh.acked, d.id = i := by
  unfold execSearch at hr
  split at hr
  · cases hr
  · split at hr
    · cases hr
    · have := searchFold_sub s.cfg s.fs q h.fs sched
        ⟨s.T, s.segs, (s.mts.flatMap fun _ => s.T.matchIds q), 0, s.gh⟩ h.T fun i hi =>
          have ⟨_, _, hi⟩ := List.mem_flatMap.mp hi
          h.T i (matchIds_sub hi)
      simp only at hr
      injection hr with hr
      intro i hi
      rw [← hr] at hi
      exact List.mem_map.mp (this.2 i (List.mem_eraseDups.mp hi))

end

theorem writeSegment_acked (s : Store) (info : List Info) :
    (writeSegment s info).1.gh.acked = s.gh.acked := rfl

theorem flushOne_acked (s : Store) (m : Memtable) : (flushOne s m).1.gh.acked = s.gh.acked := rfl

end Comet.Storage
