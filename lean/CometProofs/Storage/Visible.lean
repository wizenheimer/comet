/-
  Visibility of acknowledged writes while no load loses live content: every document of the
  session is live in the shared templates (`VisInv`).
-/
import CometProofs.Storage.Moves
namespace Comet.Storage

/-- `d` is live in every sub-index it was added to -/
def covered (tpl : Tpl) (T : Shared) (d : Doc) : Prop :=
  ((infoOf tpl d).hv = true → d.id ∈ T.v.live) ∧
  ((infoOf tpl d).ht = true → d.id ∈ T.x.live) ∧
  ((infoOf tpl d).hm = true → d.id ∈ T.m.all)

def LiveSub (T T' : Shared) : Prop :=
  (∀ i ∈ T.v.live, i ∈ T'.v.live) ∧ (∀ i ∈ T.x.live, i ∈ T'.x.live) ∧ (∀ i ∈ T.m.all, i ∈ T'.m.all)

variable {cfg : Cfg} {tpl : Tpl} {T T' : Shared} {d : Doc} {s s' : Store} {st : Step}

theorem covered_mono (h : covered tpl T d) (hl : LiveSub T T') :
    covered tpl T' d :=
  ⟨fun a => hl.1 _ (h.1 a), fun a => hl.2.1 _ (h.2.1 a), fun a => hl.2.2 _ (h.2.2 a)⟩

theorem coversLive_liveSub (h : T'.coversLive T = true) : LiveSub T T' := by
  unfold Shared.coversLive at h
  simp only [Bool.and_eq_true, List.all_eq_true, List.contains_iff_mem] at h
  exact ⟨h.1.1, h.1.2, h.2⟩

theorem mem_vlive (v : VecIx) (i : Id) : i ∈ v.live ↔ i ∈ v.stored ∧ i ∉ v.deleted := by
  unfold VecIx.live; simp [List.mem_filter]

theorem mem_xlive (x : TxtIx) (i : Id) : i ∈ x.live ↔ i ∈ x.docs ∧ i ∉ x.deleted := by
  unfold TxtIx.live; simp [List.mem_filter]

theorem liveSub_flush (T : Shared) : LiveSub T T.flush := by
  refine ⟨?_, ?_, fun i h => h⟩
  · intro i hi; rw [mem_vlive]; exact ⟨hi, by simp [Shared.flush]⟩
  · intro i hi; rw [mem_xlive]; exact ⟨hi, by simp [Shared.flush]⟩

theorem liveSub_add (T : Shared) (i : Info) : LiveSub T (T.add i) := by
  unfold Shared.add
  refine ⟨?_, ?_, ?_⟩
  · intro j hj
    simp only
    split
    · split
      · rw [mem_vlive]; simp only [List.mem_append, List.mem_singleton]
        exact ⟨.inl hj, by simp⟩
      · rw [mem_vlive] at hj ⊢
        exact ⟨List.mem_append_left _ hj.1, hj.2⟩
    · exact hj
  · intro j hj
    simp only
    split
    · rw [mem_xlive] at hj ⊢
      simp only
      constructor
      · split
        · exact hj.1
        · exact List.mem_append_left _ hj.1
      · intro hm; exact hj.2 (List.mem_filter.mp hm).1
    · exact hj
  · intro j hj
    simp only
    split
    · split
      · exact hj
      · exact List.mem_append_left _ hj
    · exact hj

theorem covered_add_self (tpl : Tpl) (T : Shared) (d : Doc) : covered tpl (T.add (infoOf tpl d)) d := by
  have hid : (infoOf tpl d).id = d.id := rfl
  unfold Shared.add
  refine ⟨?_, ?_, ?_⟩
  · intro hv
    simp only [hv, if_true]
    split
    · rw [mem_vlive]; simp [hid]
    · rename_i hc
      rw [mem_vlive]
      refine ⟨by simp [hid], ?_⟩
      intro hm; apply hc; rw [hid]; simpa using hm
  · intro ht
    simp only [ht, if_true]
    rw [mem_xlive]
    simp only
    constructor
    · split
      · rename_i hc; rw [hid] at hc; simpa using hc
      · simp [hid]
    · intro hm
      have := (List.mem_filter.mp hm).2
      simp [hid] at this
  · intro hm
    simp only [hm, if_true]
    split
    · rename_i hc; rw [hid] at hc; simpa using hc
    · simp [hid]

theorem remove_keeps {i : Info} (hr : T.remove i = .ok T') (hne : d.id ≠ i.id) (h : covered tpl T d) :
    covered tpl T' d := by
  obtain rfl := remove_ok hr
  refine ⟨fun a => ?_, fun a => ?_, fun a => ?_⟩
  · have := h.1 a
    dsimp only
    split
    · rw [mem_vlive] at this ⊢
      exact ⟨this.1, fun hm => (List.mem_cons.mp hm).elim hne this.2⟩
    · exact this
  · have := h.2.1 a
    dsimp only
    split
    · rw [mem_xlive] at this ⊢
      exact ⟨this.1, fun hm => (List.mem_cons.mp hm).elim hne this.2⟩
    · exact this
  · have := h.2.2 a
    dsimp only
    split
    · exact List.mem_filter.mpr ⟨this, by simpa using hne⟩
    · exact this

structure VisInv (s : Store) : Prop where
  cov : s.gh.loadLost = false → ∀ d ∈ s.gh.sess, covered s.cfg.tpl s.T d
  mtsNe : s.opened = true → s.mts ≠ []   -- so that a search scans `T` at least once (`found_of_covered`)

theorem visInv_openOn {fs : FS} {T0 : Shared} {gh : Ghost} : VisInv (openOn cfg fs T0 gh).1 := by
  unfold openOn
  split
  · exact ⟨fun _ => nofun, nofun⟩
  · exact ⟨fun _ => nofun, fun _ => nofun⟩

theorem VisInv.move (m : Move st s s') (h : VisInv s) : VisInv s' := by
  induction m with
  | refl => exact h
  | trans _ _ ih1 ih2 => exact ih2 (ih1 h)
  | quiet s hm => exact ⟨h.cov, fun ho => hm (h.mtsNe ho)⟩
  | setCw | register | evict | swap => exact ⟨h.cov, h.mtsNe⟩
  | add s d hm =>
    refine ⟨fun hf d' hd' => ?_, fun ho => hm (h.mtsNe ho)⟩
    rcases List.mem_cons.mp hd' with rfl | hd'
    · exact covered_add_self _ _ _
    · exact covered_mono (h.cov hf d' hd') (liveSub_add _ _)
  | remove s hr hm =>
    refine ⟨fun hf d' hd' => ?_, fun ho => hm (h.mtsNe ho)⟩
    obtain ⟨hmem, hne⟩ := List.mem_filter.mp hd'
    exact remove_keeps hr (by simpa using hne) (h.cov hf d' hmem)
  | write s => exact ⟨fun hf d hd => covered_mono (h.cov hf d hd) (liveSub_flush _), h.mtsNe⟩
  | load s id ok T' =>
    refine ⟨fun hf d hd => ?_, h.mtsNe⟩
    simp only [Bool.or_eq_false_iff, Bool.not_eq_false'] at hf
    exact covered_mono (h.cov hf.1 d hd) (coversLive_liveSub hf.2)
  | unlock => exact ⟨h.cov, nofun⟩
  | reopen => exact visInv_openOn

theorem visInv_reach (h : Reach cfg s) : VisInv s :=
  inv_reach visInv_openOn VisInv.move (fun _ _ _ _ => ⟨fun _ => nofun, nofun⟩) h

end Comet.Storage
