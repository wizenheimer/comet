/-
  Loading a segment: a complete segment holding a document (`SegHolds`) loads and publishes it, so
  a search that runs the segment's goroutine finds it; and only complete segments load.
-/
import CometProofs.Storage.Spec
namespace Comet.Storage

/-- segment `g` of `fs` is complete for templates `tpl` and holds `d` in every component `d` was added to -/
def SegHolds (tpl : Tpl) (fs : FS) (g : Nat) (d : Doc) : Prop :=
  (∃ info, FS.find fs (.seg .hybrid g) = some ⟨.hybrid tpl info, .full⟩) ∧
  (tpl.vec = true → ∃ st, FS.find fs (.seg .vector g) = some ⟨.vector st, .full⟩ ∧
      ((infoOf tpl d).hv = true → d.id ∈ st)) ∧
  (tpl.txt = true → ∃ ds, FS.find fs (.seg .text g) = some ⟨.text ds, .full⟩ ∧
      ((infoOf tpl d).ht = true → d.id ∈ ds)) ∧
  (tpl.md = true → ∃ a, FS.find fs (.seg .metadata g) = some ⟨.mdata a, .full⟩ ∧
      ((infoOf tpl d).hm = true → d.id ∈ a))

variable {tpl : Tpl} {fs fs' : FS} {g : Nat} {d : Doc} {cfg : Cfg} {q : Q} {s : Store}

theorem exists_imp_of_imp_exists {p : Prop} {α : Type} [Inhabited α] {P : α → Prop}
    (h : p → ∃ x, P x) : ∃ x, p → P x := by
  by_cases c : p
  · exact (h c).imp fun _ hx _ => hx
  · exact ⟨default, fun c' => absurd c' c⟩

/-- loading a complete segment succeeds and publishes its documents, whatever the templates held -/
theorem loadSeg_of_holds (h : SegHolds tpl fs g d) (T : Shared) :
    (loadSeg tpl fs g T).1 = true ∧ covered tpl (loadSeg tpl fs g T).2 d := by
  obtain ⟨⟨info, hh⟩, hv, ht, hm⟩ := h
  obtain ⟨st, hv⟩ := exists_imp_of_imp_exists hv
  obtain ⟨ds, ht⟩ := exists_imp_of_imp_exists ht
  obtain ⟨a, hm⟩ := exists_imp_of_imp_exists hm
  -- every file of `comps tpl` opens and is read whole; a sub-index read from a file has no tombstones
  have key : loadSeg tpl fs g T = (true, ⟨if tpl.vec then ⟨st, []⟩ else T.v,
      if tpl.txt then ⟨ds, []⟩ else T.x, if tpl.md then ⟨a⟩ else T.m⟩) := by
    obtain ⟨vec, txt, md⟩ := tpl
    cases vec <;> cases txt <;> cases md <;>
      simp [loadSeg, comps, openAll, openable, readAll, readComp, hh, hv, ht, hm]
  rw [key]
  refine ⟨rfl, fun c => ?_, fun c => ?_, fun c => ?_⟩
  · have e := (Bool.and_eq_true_iff.mp c).1
    simpa [e, VecIx.live] using (hv e).2 c
  · have e := (Bool.and_eq_true_iff.mp c).1
    simpa [e, TxtIx.live] using (ht e).2 c
  · have e := (Bool.and_eq_true_iff.mp c).1
    simpa [e] using (hm e).2 c

theorem segHolds_congr (h : SegHolds tpl fs g d)
    (e : ∀ k, FS.find fs' (.seg k g) = FS.find fs (.seg k g)) : SegHolds tpl fs' g d := by
  unfold SegHolds at *
  simp only [e]
  exact h

theorem segHolds_mem_segIds (h : SegHolds tpl fs g d) :
    g ∈ FS.segIds fs ∧ Name.seg .hybrid g ∈ FS.names fs := by
  obtain ⟨⟨info, hh⟩, _⟩ := h
  have := find_some_name _ _ _ hh
  exact ⟨(mem_segIds _ _).mpr ⟨_, this⟩, this⟩

theorem segHolds_writeSegment (info : List Info) (hc : covered s.cfg.tpl s.T d) :
    SegHolds s.cfg.tpl (writeSegment s info).1.fs (s.counter + 1) d := by
  obtain ⟨h1, h2, h3, h4⟩ := find_writeSteps s.fs s.cfg.tpl (s.counter + 1) info s.T.flush
  simp only [writeSegment]
  refine ⟨⟨info, h1⟩, ?_, ?_, ?_⟩
  · intro hv; exact ⟨_, h2 hv, fun a => hc.1 a⟩
  · intro ht; exact ⟨_, h3 ht, fun a => hc.2.1 a⟩
  · intro hm; exact ⟨_, h4 hm, fun a => hc.2.2 a⟩

def SegEv.id : SegEv → Nat
  | .load i => i
  | .scan i => i

theorem segEvent_other {st : SearchSt} {ev : SegEv} (hne : g ≠ ev.id) :
    isCached (segEvent cfg fs q st ev).segs g = isCached st.segs g := by
  cases ev with
  | load id =>
    simp only [segEvent]
    split
    · simp only
      split
      · exact isCached_setCached_ne _ _ _ _ hne
      · rfl
    · rfl
  | scan id =>
    simp only [segEvent]
    split <;> rfl

theorem fold_other {sched : List SegEv} {st : SearchSt} (hne : ∀ ev ∈ sched, g ≠ ev.id) :
    isCached (sched.foldl (segEvent cfg fs q) st).segs g = isCached st.segs g := by
  induction sched generalizing st with
  | nil => rfl
  | cons ev r ih =>
    simp only [List.foldl_cons]
    rw [ih (fun e he => hne e (List.mem_cons_of_mem _ he))]
    exact segEvent_other (hne ev (List.mem_cons_self ..))

theorem serialSched_ids {order : List Nat} {ev : SegEv} (h : ev ∈ serialSched order) : ev.id ∈ order := by
  unfold serialSched at h
  obtain ⟨i, hi, he⟩ := List.mem_flatMap.mp h
  simp only [List.mem_cons, List.not_mem_nil, or_false] at he
  rcases he with rfl | rfl <;> exact hi

/-- a complete segment holding `d`, registered and not cached: any search that runs its goroutine
    (load, then scan) once finds `d` -/
theorem found_of_holds (hr : running s = true)
    (hh : SegHolds s.cfg.tpl s.fs g d) (hm : Doc.matches s.cfg.tpl d q = true)
    (hunc : isCached s.segs g = some false) {order : List Nat} (hg : g ∈ order) :
    found s q (serialSched order) d := by
  obtain ⟨pre, post, rfl, hpre⟩ := List.eq_append_cons_of_mem hg
  refine ⟨_, search_ids hr (matches_has hm) _, List.mem_eraseDups.mpr ?_⟩
  have e : serialSched (pre ++ g :: post) = serialSched pre ++ ([SegEv.load g, SegEv.scan g] ++ serialSched post) := by
    simp [serialSched, List.flatMap_append]
  rw [e, List.foldl_append, List.foldl_append]
  apply acc_mono
  generalize hst1 : (serialSched pre).foldl (segEvent s.cfg s.fs q)
    ⟨s.T, s.segs, (s.mts.flatMap fun _ => s.T.matchIds q), 0, s.gh⟩ = st1
  have hflag : isCached st1.segs g = some false := by
    rw [← hst1, fold_other (fun ev hev hge => hpre (by rw [hge]; exact serialSched_ids hev))]
    exact hunc
  obtain ⟨hok, hcov⟩ := loadSeg_of_holds hh st1.T
  -- the load succeeds and caches `g`, so the scan that follows appends what the templates now match
  simp only [List.foldl_cons, List.foldl_nil, segEvent, hflag, hok, if_true,
    isCached_setCached_same _ _ _ _ hflag]
  exact List.mem_append_right _ (covered_matchIds hcov hm)

/-- a store opened on a directory holding a complete segment with `d` still holds it, registered
    and not cached -/
theorem openOn_holds (h : SegHolds cfg.tpl fs g d) (T0 : Shared) (gh : Ghost) :
    (openOn cfg fs T0 gh).1.cfg = cfg ∧ SegHolds (openOn cfg fs T0 gh).1.cfg.tpl (openOn cfg fs T0 gh).1.fs g d ∧
    ((openOn cfg fs T0 gh).1.opened = true → isCached (openOn cfg fs T0 gh).1.segs g = some false) := by
  unfold openOn
  split
  · exact ⟨rfl, h, nofun⟩
  · have hfs : SegHolds cfg.tpl (FS.put fs .lock ⟨.lock, .full⟩) g d :=
      segHolds_congr h fun k => find_put_ne _ _ _ _ (Name.seg_ne_lock _ _)
    exact ⟨rfl, hfs, fun _ => isCached_fresh _ _ ((mem_listSegments _ _).mpr (segHolds_mem_segIds hfs).2)⟩

/-- … so its first search finds `d`, whatever else the directory contains -/
theorem found_after_open {gh : Ghost} (h : SegHolds cfg.tpl fs g d) (hm : Doc.matches cfg.tpl d q = true)
    (hrun : running (openOn cfg fs Shared.empty gh).1 = true)
    {sched : List SegEv} (hs : SerialFor (openOn cfg fs Shared.empty gh).1 sched) :
    found (openOn cfg fs Shared.empty gh).1 q sched d := by
  obtain ⟨hc, hfs, hseg⟩ := openOn_holds h Shared.empty gh
  have hunc := hseg (running_opened hrun)
  obtain ⟨order, hperm, rfl⟩ := hs
  exact found_of_holds hrun hfs (by rw [hc]; exact hm) hunc (hperm.symm.subset (isCached_some_mem _ _ _ hunc))

/-! ### a successful load needs every component complete -/

theorem readAll_ok_cuts {files : List (Kind × File)} {T : Shared} {pc : Bool}
    (h : (readAll tpl T pc files).1 = true) :
    pc = false ∧ ∀ kf ∈ files, kf.2.cut ≠ .data ∧ kf.2.cut ≠ .trailer := by
  induction files generalizing T pc with
  | nil =>
    simp only [readAll] at h
    exact ⟨by simpa using h, fun kf hkf => by cases hkf⟩
  | cons kf r ih =>
    obtain ⟨k, f⟩ := kf
    simp only [readAll] at h
    split at h
    · cases h
    · rename_i hpc
      split at h
      · cases h
      · rename_i T' hT'
        obtain ⟨htr, hrest⟩ := ih h
        have hnd : f.cut ≠ .data := by
          intro hd; unfold readComp at hT'; simp [hd] at hT'
        have hnt : f.cut ≠ .trailer := by
          intro ht; simp [ht] at htr
        exact ⟨by simpa using hpc, List.forall_mem_cons.mpr ⟨⟨hnd, hnt⟩, hrest⟩⟩

theorem loadSeg_ok_complete {id : Nat} {T : Shared}
    (h : (loadSeg tpl fs id T).1 = true) : segComplete tpl fs id = true := by
  unfold loadSeg at h
  split at h
  · cases h
  · rename_i files hfiles
    obtain ⟨_, hcuts⟩ := readAll_ok_cuts h
    unfold segComplete
    rw [List.all_eq_true]
    intro k hk
    obtain ⟨hks, hfs⟩ := openAll_spec hfiles
    obtain ⟨⟨_, f⟩, hm, rfl⟩ := List.mem_map.mp (hks ▸ hk)
    obtain ⟨hfind, hnh⟩ := hfs _ hm
    obtain ⟨hnd, hnt⟩ := hcuts _ hm
    rw [hfind]
    simp only [decide_eq_true_eq]
    cases hc : f.cut with
    | full => rfl
    | data => exact absurd hc hnd
    | trailer => exact absurd hc hnt
    | header => exact absurd hc hnh

end Comet.Storage
