/-
  What a list of FS steps does to a directory, in terms of the steps it contains — a name is new
  only through a `create`, lost only through a `remove`, and its file changes only through a step
  that names it — and what the step lists the store issues contain (`writeSteps`,
  `flushStepsFrom`, `deleteSteps`).
-/
import CometProofs.Storage.Basic
namespace Comet.Storage

def FsStep.name : FsStep → Name
  | .create n _ => n
  | .complete n => n
  | .remove n => n

/-- document ids a component file publishes into the shared indexes when it is loaded -/
def Payload.content : Payload → List Id
  | .vector st => st
  | .text ds => ds
  | .mdata a => a
  | _ => []

theorem applySteps_append (fs : FS) (a b : List FsStep) :
    applySteps fs (a ++ b) = applySteps (applySteps fs a) b := by
  simp [applySteps, List.foldl_append]

theorem mem_createdBy {l : List FsStep} {n : Name} : n ∈ createdBy l ↔ ∃ p, FsStep.create n p ∈ l := by
  induction l with
  | nil => simp [createdBy]
  | cons st r ih => cases st <;> simp [createdBy, ih, exists_or]

theorem names_applySteps_sub {steps : List FsStep} {fs : FS} {m : Name}
    (h : m ∈ FS.names (applySteps fs steps)) : m ∈ FS.names fs ∨ ∃ p, .create m p ∈ steps := by
  induction steps generalizing fs with
  | nil => exact .inl h
  | cons st r ih =>
    rcases ih h with h | ⟨p, hp⟩
    · cases st with
      | create n p =>
        rcases (names_put _ _ _ _).mp h with h | rfl
        · exact .inl h
        · exact .inr ⟨p, List.mem_cons_self ..⟩
      | complete n => exact .inl (names_complete fs n ▸ h)
      | remove n => exact .inl ((names_erase _ _ _).mp h).1
    · exact .inr ⟨p, List.mem_cons_of_mem _ hp⟩

theorem names_applySteps_keep {steps : List FsStep} {fs : FS} {m : Name} (h : m ∈ FS.names fs)
    (hr : .remove m ∉ steps) : m ∈ FS.names (applySteps fs steps) := by
  induction steps generalizing fs with
  | nil => exact h
  | cons st r ih =>
    refine ih ?_ fun x => hr (List.mem_cons_of_mem _ x)
    cases st with
    | create n p => exact (names_put _ _ _ _).mpr (.inl h)
    | complete n => exact (names_complete fs n).symm ▸ h
    | remove n => exact (names_erase _ _ _).mpr ⟨h, fun e => hr (e ▸ List.mem_cons_self ..)⟩

theorem names_applySteps_created {steps : List FsStep} {fs : FS} {m : Name} {p : Payload}
    (h : .create m p ∈ steps) (hr : .remove m ∉ steps) : m ∈ FS.names (applySteps fs steps) := by
  induction steps generalizing fs with
  | nil => cases h
  | cons st r ih =>
    have hr' : .remove m ∉ r := fun x => hr (List.mem_cons_of_mem _ x)
    rcases List.mem_cons.mp h with rfl | h
    · exact names_applySteps_keep (steps := r) ((names_put _ _ _ _).mpr (.inr rfl)) hr'
    · exact ih h hr'

theorem find_applyStep_create (fs : FS) (n m : Name) (p : Payload) :
    FS.find (applyStep fs (.create n p)) m = if m = n then some ⟨p, .header⟩ else FS.find fs m :=
  find_put fs n m _

theorem find_applyStep_complete (fs : FS) (n m : Name) :
    FS.find (applyStep fs (.complete n)) m =
      if m = n then (FS.find fs m).map (fun f => { f with cut := Cut.full }) else FS.find fs m :=
  find_map_if (· = n) (fun _ f => { f with cut := .full }) fs m

theorem find_applySteps_untouched {steps : List FsStep} {fs : FS} {m : Name}
    (h : ∀ st ∈ steps, st.name ≠ m) : FS.find (applySteps fs steps) m = FS.find fs m := by
  induction steps generalizing fs with
  | nil => rfl
  | cons st r ih =>
    refine (ih (fs := applyStep fs st) fun x hx => h x (List.mem_cons_of_mem _ hx)).trans ?_
    have hne : m ≠ st.name := fun e => h st (List.mem_cons_self ..) e.symm
    cases st with
    | create n p => exact find_put_ne _ _ _ _ hne
    | complete n => exact (find_applyStep_complete ..).trans (if_neg hne)
    | remove n => exact find_erase_ne _ _ _ hne

theorem overwrites_false (steps : List FsStep) (fs : FS)
    (hnew : ∀ n ∈ createdBy steps, n ∉ FS.names fs) (hnd : (createdBy steps).Nodup) :
    overwrites fs steps = false := by
  induction steps generalizing fs with
  | nil => rfl
  | cons st r ih =>
    simp only [overwrites, Bool.or_eq_false_iff]
    cases st with
    | create n p =>
      obtain ⟨hn, hnd⟩ := List.nodup_cons.mp hnd
      refine ⟨Bool.eq_false_iff.mpr fun hh => hnew n (List.mem_cons_self ..) ((has_iff _ _).mp hh),
        ih _ (fun m hm hmem => ?_) hnd⟩
      rcases (names_put _ _ _ _).mp hmem with h | rfl
      · exact hnew m (List.mem_cons_of_mem _ hm) h
      · exact hn hm
    | complete n => exact ⟨rfl, ih _ (fun m hm hmem => hnew m hm (names_complete fs n ▸ hmem)) hnd⟩
    | remove n => exact ⟨rfl, ih _ (fun m hm hmem => hnew m hm ((names_erase _ _ _).mp hmem).1) hnd⟩

variable {tpl : Tpl} {id : Nat} {info : List Info} {T : Shared}

/-- a segment write creates and completes files of that segment only, holding what the templates hold -/
theorem mem_writeSteps {st : FsStep}
    (h : st ∈ writeSteps tpl id info T) :
    (∃ k, st = .complete (.seg k id)) ∨ ∃ k p, st = .create (.seg k id) p ∧ ∀ i ∈ p.content, i ∈ T.ids := by
  rcases List.mem_append.mp h with h | h
  · obtain ⟨k, _, rfl⟩ := List.mem_map.mp h
    refine .inr ⟨k, _, rfl, fun i hi => ?_⟩
    unfold Shared.ids
    cases k
    · cases hi
    · exact List.mem_append_left _ (List.mem_append_left _ hi)
    · exact List.mem_append_left _ (List.mem_append_right _ hi)
    · exact List.mem_append_right _ hi
  · obtain ⟨k, _, rfl⟩ := List.mem_map.mp h
    exact .inl ⟨k, rfl⟩

theorem name_of_mem_writeSteps {st : FsStep}
    (h : st ∈ writeSteps tpl id info T) : ∃ k, st.name = .seg k id := by
  rcases mem_writeSteps h with ⟨k, rfl⟩ | ⟨k, p, rfl, _⟩ <;> exact ⟨k, rfl⟩

theorem remove_not_mem_writeSteps {m : Name} :
    .remove m ∉ writeSteps tpl id info T := fun h => by
  rcases mem_writeSteps h with ⟨k, e⟩ | ⟨k, p, e, _⟩ <;> cases e

theorem content_of_create_mem_writeSteps {n : Name}
    {p : Payload} (h : .create n p ∈ writeSteps tpl id info T) : ∀ i ∈ p.content, i ∈ T.ids := by
  rcases mem_writeSteps h with ⟨k, e⟩ | ⟨k, p', e, hp⟩
  · cases e
  · injection e with _ e; exact e ▸ hp

theorem createdBy_writeSteps (tpl : Tpl) (id : Nat) (info : List Info) (T : Shared) :
    createdBy (writeSteps tpl id info T) = (comps tpl).map fun k => Name.seg k id := by
  have h1 : ∀ (l : List Kind) (g : Kind → Payload) (r : List FsStep),
      createdBy (l.map (fun k => FsStep.create (.seg k id) (g k)) ++ r) = l.map (.seg · id) ++ createdBy r := by
    intro l g r; induction l with
    | nil => rfl
    | cons k l ih => simp [createdBy, ih]
  have h2 : ∀ l : List Kind, createdBy (l.map fun k => FsStep.complete (.seg k id)) = [] := by
    intro l; induction l with
    | nil => rfl
    | cons k l ih => simpa [createdBy] using ih
  rw [writeSteps, h1, h2, List.append_nil]

theorem segIds_writeSteps (fs : FS) (tpl : Tpl) (id : Nat) (info : List Info) (T : Shared) (i : Nat) :
    i ∈ FS.segIds (applySteps fs (writeSteps tpl id info T)) ↔ i ∈ FS.segIds fs ∨ i = id := by
  rw [mem_segIds, mem_segIds]
  constructor
  · rintro ⟨k, hk⟩
    rcases names_applySteps_sub hk with h | ⟨p, hp⟩
    · exact .inl ⟨k, h⟩
    · obtain ⟨k', hk'⟩ := name_of_mem_writeSteps hp
      injection hk' with _ h2
      exact .inr h2
  · rintro (⟨k, hk⟩ | rfl)
    · exact ⟨k, names_applySteps_keep hk remove_not_mem_writeSteps⟩
    · have hp : .create (.seg .hybrid i) (.hybrid tpl info) ∈ writeSteps tpl i info T :=
        List.mem_append_left _ (List.mem_map.mpr ⟨.hybrid, by simp [comps], rfl⟩)
      exact ⟨.hybrid, names_applySteps_created hp remove_not_mem_writeSteps⟩

theorem comps_nodup (tpl : Tpl) : (comps tpl).Nodup := by
  unfold comps
  cases tpl.vec <;> cases tpl.txt <;> cases tpl.md <;> decide

theorem overwrites_writeSteps {fs : FS} {id : Nat} (tpl : Tpl) (info : List Info) (T : Shared)
    (h : id ∉ FS.segIds fs) : overwrites fs (writeSteps tpl id info T) = false := by
  apply overwrites_false
  · intro n hn hmem
    rw [createdBy_writeSteps] at hn
    obtain ⟨k, _, rfl⟩ := List.mem_map.mp hn
    exact h ((mem_segIds _ _).mpr ⟨k, hmem⟩)
  · rw [createdBy_writeSteps]
    exact List.Pairwise.map _ (fun a b hab h => hab (by injection h)) (comps_nodup tpl)

theorem find_writeSteps (fs : FS) (tpl : Tpl) (id : Nat) (info : List Info) (T : Shared) :
    FS.find (applySteps fs (writeSteps tpl id info T)) (.seg .hybrid id) = some ⟨.hybrid tpl info, .full⟩ ∧
    (tpl.vec = true → FS.find (applySteps fs (writeSteps tpl id info T)) (.seg .vector id) = some ⟨.vector T.v.stored, .full⟩) ∧
    (tpl.txt = true → FS.find (applySteps fs (writeSteps tpl id info T)) (.seg .text id) = some ⟨.text T.x.docs, .full⟩) ∧
    (tpl.md = true → FS.find (applySteps fs (writeSteps tpl id info T)) (.seg .metadata id) = some ⟨.mdata T.m.all, .full⟩) := by
  obtain ⟨vec, txt, md⟩ := tpl
  cases vec <;> cases txt <;> cases md <;>
    simp [writeSteps, comps, closeOrder, applySteps, find_applyStep_create, find_applyStep_complete]

/-- every step of a client Flush belongs to the write of a segment with an id above the counter,
    from templates reached by flushing (any property `P` that `Shared.flush` keeps) -/
theorem mem_flushStepsFrom {P : Shared → Prop} (hP : ∀ T, P T → P T.flush) {l : List Memtable}
    {c : Nat} {st : FsStep} (hT : P T) (h : st ∈ flushStepsFrom tpl T c l) :
    ∃ i info T', c < i ∧ P T' ∧ st ∈ writeSteps tpl i info T' := by
  induction l generalizing T c with
  | nil => cases h
  | cons m r ih =>
    rcases List.mem_append.mp h with h | h
    · exact ⟨c + 1, m.info, T.flush, Nat.lt_succ_self _, hP T hT, h⟩
    · obtain ⟨i, info, T', hi, hT', h⟩ := ih (hP T hT) h
      exact ⟨i, info, T', Nat.lt_of_succ_lt hi, hT', h⟩

theorem mem_deleteSteps {srcs : List Nat} {st : FsStep} (h : st ∈ srcs.flatMap deleteSteps) :
    ∃ k, ∃ i ∈ srcs, st = .remove (.seg k i) := by
  obtain ⟨i, hi, h⟩ := List.mem_flatMap.mp h
  simp only [deleteSteps, List.mem_cons, List.not_mem_nil, or_false] at h
  rcases h with h | h | h | h <;> exact ⟨_, i, hi, h⟩

end Comet.Storage
