/-
  Durability of a complete segment: its files are kept by every step but the compaction swap, and
  its documents stay found by every search while no load loses live content and they are not
  removed (`KInv`).
-/
import CometProofs.Storage.DurableLoad
import CometProofs.Storage.Ids
namespace Comet.Storage

/-- the part of the invariant that lives in a search's running state -/
def KCore (tpl : Tpl) (g : Nat) (d : Doc) (T : Shared) (segs : List Seg) (gh : Ghost) : Prop :=
  (∃ b, isCached segs g = some b) ∧
  (gh.loadLost = false → d.id ∉ gh.removed → isCached segs g = some true → covered tpl T d)

/-- Segment `g` is complete on disk and holds `d` (`holds`); while the store is open it is registered
    and, if it is cached, no load has lost live content and `d` was not removed, the templates cover `d`
    (`core`) — so a search finds `d` in the memtables when `g` is cached, and by loading `g` when not. -/
structure KInv (g : Nat) (d : Doc) (s : Store) : Prop where
  holds : SegHolds s.cfg.tpl s.fs g d
  core : s.opened = true → KCore s.cfg.tpl g d s.T s.segs s.gh

variable {tpl : Tpl} {fs : FS} {g : Nat} {d : Doc} {cfg : Cfg} {s s' : Store} {st : Step} {T T' : Shared}
  {segs : List Seg}

theorem kCore_mono {gh gh' : Ghost} (h : KCore tpl g d T segs gh) (hl : LiveSub T T')
    (h1 : gh'.loadLost = false → gh.loadLost = false) (h2 : d.id ∉ gh'.removed → d.id ∉ gh.removed) :
    KCore tpl g d T' segs gh' :=
  ⟨h.1, fun a b c => covered_mono (h.2 (h1 a) (h2 b) c) hl⟩

theorem kCore_append {gh : Ghost} (h : KCore tpl g d T segs gh) (extra : List Seg) : KCore tpl g d T (segs ++ extra) gh := by
  obtain ⟨⟨b, hb⟩, hc⟩ := h
  refine ⟨⟨b, isCached_append_left _ _ _ _ hb⟩, ?_⟩
  intro a r c
  rw [isCached_append_left _ _ _ _ hb] at c
  exact hc a r (by rw [hb]; exact c)

/-- loading segment `id` keeps the core (the files of `g` are complete in `fs`): loading `g` itself
    publishes `d`; another load that loses nothing live keeps `d` covered -/
theorem kCore_load (hh : SegHolds tpl fs g d) {gh : Ghost} {id : Nat} {ok : Bool}
    (hL : loadSeg tpl fs id T = (ok, T'))
    (hunc : isCached segs id = some false) {revived : Bool} (h : KCore tpl g d T segs gh) :
    KCore tpl g d T' (if ok then setCached segs id true else segs)
      { gh with loadLost := gh.loadLost || !T'.coversLive T, revived := revived } := by
  obtain ⟨⟨b, hb⟩, hc⟩ := h
  by_cases hid : id = g
  · subst hid
    obtain ⟨hok, hcov⟩ := loadSeg_of_holds hh T
    rw [hL] at hok hcov
    obtain rfl : ok = true := hok
    exact ⟨⟨true, isCached_setCached_same _ _ _ _ hunc⟩, fun _ _ _ => hcov⟩
  · have hne : g ≠ id := fun e => hid e.symm
    have hseg : isCached (if ok then setCached segs id true else segs) g = isCached segs g := by
      cases ok
      · rfl
      · exact isCached_setCached_ne _ _ _ _ hne
    refine ⟨⟨b, hseg ▸ hb⟩, fun hl hr hcached => ?_⟩
    simp only [Bool.or_eq_false_iff, Bool.not_eq_false'] at hl
    exact covered_mono (hc hl.1 hr (hseg ▸ hcached)) (coversLive_liveSub hl.2)

theorem kInv_openOn (hh : SegHolds cfg.tpl fs g d) (gh : Ghost) :
    KInv g d (openOn cfg fs Shared.empty gh).1 :=
  have ⟨_, hfs, hseg⟩ := openOn_holds hh Shared.empty gh
  ⟨hfs, fun ho => ⟨⟨false, hseg ho⟩, fun _ _ hcached => nomatch (hseg ho).symm.trans hcached⟩⟩

/-- no FS step of `st` (other than the compaction swap) touches a file of an existing segment -/
theorem untouched_shape (inv : IdInv s) (ho : s.opened = true) {l : List FsStep}
    (sh : FsShape s st l) (hns : st ≠ .bg .cswap) (hg : g ∈ FS.segIds s.fs) (k : Kind) :
    ∀ x ∈ l, x.name ≠ .seg k g := by
  intro x hx e
  have hle := inv.fsLe ho g hg
  have above : ∀ {i info T'}, s.counter < i → x ∈ writeSteps s.cfg.tpl i info T' → False := fun hi hx => by
    obtain ⟨k', hk⟩ := name_of_mem_writeSteps hx
    injection hk.symm.trans e with _ h2
    omega
  cases sh with
  | none => cases hx
  | flush l =>
    obtain ⟨_, _, _, hi, _, hx⟩ := mem_flushStepsFrom (P := fun _ => True) (fun _ _ => trivial) trivial hx
    exact above hi hx
  | write info => exact above (Nat.lt_succ_self _) hx
  | swap _ _ _ hst => exact hns hst
  | unlock => obtain rfl := List.mem_singleton.mp hx; cases e
  | lock => rcases List.mem_cons.mp hx with rfl | hx
            · cases e
            · obtain rfl := List.mem_singleton.mp hx; cases e

theorem KInv.move (hns : st ≠ .bg .cswap) (m : Move st s s') (inv : IdInv s) (h : KInv g d s) : KInv g d s' := by
  induction m with
  | refl => exact h
  | trans m1 _ ih1 ih2 => exact ih2 (inv.move m1) (ih1 inv h)
  | quiet | setCw => exact ⟨h.holds, h.core⟩
  | add s => exact ⟨h.holds, fun ho => kCore_mono (h.core ho) (liveSub_add _ _) id id⟩
  | remove s hr =>
    refine ⟨h.holds, fun ho => ⟨(h.core ho).1, fun hl hrm hcached => ?_⟩⟩
    obtain ⟨hne, hrm⟩ := not_or.mp (fun e => hrm (List.mem_cons.mpr e))
    exact remove_keeps hr hne ((h.core ho).2 hl hrm hcached)
  | write s info _ ho' =>
    have hnt := untouched_shape inv (inv.opened ho') (.write info) hns (segHolds_mem_segIds h.holds).1
    refine ⟨?_, fun ho => kCore_mono (h.core ho) (liveSub_flush _) id id⟩
    dsimp only
    exact segHolds_congr h.holds fun k => find_applySteps_untouched (hnt k)
  | register s => exact ⟨h.holds, fun ho => kCore_append (h.core ho) _⟩
  | load s id ok hL hunc => exact ⟨h.holds, fun ho => kCore_load h.holds hL hunc (h.core ho)⟩
  | evict s =>
    refine ⟨h.holds, fun ho => ?_⟩
    obtain ⟨⟨b, hb⟩, _⟩ := h.core ho
    have hseg : isCached (s.segs.map fun x => { x with cached := false }) g = some false := by
      rw [isCached_map_cached, hb]; rfl
    exact ⟨⟨false, hseg⟩, fun _ _ hc => by rw [hseg] at hc; cases hc⟩
  | unlock => exact ⟨segHolds_congr h.holds fun k => find_erase_ne _ _ _ (Name.seg_ne_lock _ _), nofun⟩
  | reopen s => exact kInv_openOn h.holds _
  | swap _ _ _ _ hst => exact absurd hst hns

theorem KInv.crash (hns : st ≠ .bg .cswap) (k : Nat)
    (cuts : Name → Cut) (ho : s.opened = true) (inv : IdInv s) (h : SegHolds s.cfg.tpl s.fs g d) :
    KInv g d (crashTo s (crashImage s.fs (fsStepsOf s st) k cuts)) := by
  refine ⟨segHolds_congr h fun kd => ?_, nofun⟩
  have hnt := untouched_shape inv ho (fsStepsOf_shape s st) hns (segHolds_mem_segIds h).1 kd
  show FS.find (FS.erase (crashImage s.fs (fsStepsOf s st) k cuts) .lock) _ = _
  rw [find_erase_ne _ _ _ (Name.seg_ne_lock _ _), crashImage, find_recut_untouched _ _ _ _ fun hc => by
    obtain ⟨p, hp⟩ := mem_createdBy.mp hc
    exact hnt _ hp rfl]
  exact find_applySteps_untouched fun x hx => hnt x (List.mem_of_mem_take hx)

theorem kInv_xrun (xs : List XStep) (hx : ∀ x ∈ xs, noSwap x = true)
    (inv : IdInv s) (h : KInv g d s) : KInv g d (xrun s xs) :=
  (inv_xrun (P := fun s => IdInv s ∧ KInv g d s) (ok := (· ≠ .bg .cswap))
    (fun hns m h => ⟨h.1.move m, h.2.move hns m h.1⟩)
    (fun k cuts hns ho h => ⟨h.1.crash k cuts ho, KInv.crash hns k cuts ho h.1 h.2.holds⟩)
    xs (fun x hxm => ne_cswap_of_noSwap (hx x hxm)) ⟨inv, h⟩).2

/-! ### a flush establishes the invariant for the segment it writes -/

/-- writing a segment while the templates cover `d` (a document of the session, no lossy load so far)
    and registering it establishes the invariant for that segment; the remaining moves of the step keep it -/
theorem kInv_flushOne (hr : Reach cfg s) (hl : s.gh.loadLost = false) (hd : d ∈ s.gh.sess) (m : Memtable)
    (ho : s.fw = .exited → s.cw = .exited → s.opened = true) (hfs : st.writesFs = true)
    (hns : st ≠ .bg .cswap) (mv : Move st (flushOne s m).1 s') : KInv (s.counter + 1) d s' := by
  have hseg : isCached (s.segs ++ [⟨s.counter + 1, false⟩]) (s.counter + 1) = some false :=
    isCached_append_new _ _ _ <| isCached_none_of_not_mem _ _ fun hm =>
      absurd ((idInv_reach hr).segsLe _ hm) (Nat.not_succ_le_self _)
  have hh : SegHolds s.cfg.tpl (writeSegment s m.info).1.fs (s.counter + 1) d :=
    segHolds_writeSegment m.info ((visInv_reach hr).cov hl d hd)
  have h : KInv (s.counter + 1) d (flushOne s m).1 :=
    ⟨hh, fun _ => ⟨⟨false, hseg⟩, fun _ _ hcached => nomatch hseg.symm.trans hcached⟩⟩
  exact h.move hns mv ((idInv_reach hr).move (flushOne_move s m ho hfs))

theorem kInv_after_fwrite (hr : Reach cfg s) (hl : s.gh.loadLost = false) (hd : d ∈ s.gh.sess)
    {f : Bool} {m : Memtable} {rest : List Memtable} (hfw : s.fw = .todo f (m :: rest)) :
    KInv (s.counter + 1) d (exec s (.bg .fwrite)).1 := by
  refine kInv_flushOne (st := .bg .fwrite) hr hl hd m (fun e _ => nomatch hfw.symm.trans e) rfl nofun ?_
  simp only [exec, execBg, hfw]
  exact .fw _ (by show s.fw ≠ _; rw [hfw]; nofun)

/-- a client Flush with a frozen memtable: the first segment it writes, `counter+1` -/
theorem kInv_after_flush (hr : Reach cfg s) (hrun : running s = true)
    (hl : s.gh.loadLost = false) (hd : d ∈ s.gh.sess) {m : Memtable} (hm : m ∈ butLast s.mts) :
    KInv (s.counter + 1) d (exec s .flush).1 := by
  have ho := running_opened hrun
  cases hb : butLast s.mts with
  | nil => rw [hb] at hm; cases hm
  | cons m rest =>
    refine kInv_flushOne (st := .flush) hr hl hd m (fun _ _ => ho) rfl nofun ?_
    simp only [exec, execFlush, hrun, Bool.not_true, Bool.false_eq_true, if_false, flushRotatesMutable,
      Bool.false_and, hb, flushAll]
    exact .trans (.trans (.mts _ (removeMt_ne _)) (flushAll_move rest _ ho rfl)) (.quiet _ id id)

theorem found_of_kInv (hv : VisInv s) (h : KInv g d s) (hrun : running s = true) (hl : s.gh.loadLost = false)
    (hr : d.id ∉ s.gh.removed)
    {q : Q} (hm : Doc.matches s.cfg.tpl d q = true) {sched : List SegEv} (hs : SerialFor s sched) :
    found s q sched d := by
  have ho := running_opened hrun
  obtain ⟨⟨b, hb⟩, hc⟩ := h.core ho
  cases b with
  | true => exact found_of_covered hrun (hv.mtsNe ho) (hc hl hr hb) hm sched
  | false =>
    obtain ⟨order, hperm, rfl⟩ := hs
    exact found_of_holds hrun h.holds hm hb (hperm.symm.subset (isCached_some_mem _ _ _ hb))

/-! ### what the invariant gives, from any reachable state, after any continuation without a swap -/

variable (hr : Reach cfg s) (h : KInv g d s) (xs : List XStep)
  (hx : ∀ x ∈ xs, noSwap x = true) {q : Q} (hq : Doc.matches cfg.tpl d q = true) {sched : List SegEv}
include hr h hx hq

/-- if the continuation ends with the directory closed, the next store instance (fresh templates)
    finds `d` in its first search -/
theorem found_after_reopen (hclosed : (xrun s xs).opened = false)
    (hrun : running (exec (xrun s xs) .reopen).1 = true)
    (hs : SerialFor (exec (xrun s xs) .reopen).1 sched) : found (exec (xrun s xs) .reopen).1 q sched d := by
  have h2 := (kInv_xrun xs hx (idInv_reach hr) h).holds
  have hc2 := reach_cfg (reach_xrun hr xs)
  generalize xrun s xs = s2 at hclosed hrun hs h2 hc2 ⊢
  have e : exec s2 .reopen = openOn cfg s2.fs Shared.empty s2.gh := by
    simp [exec, hclosed, hc2]
  rw [e] at hrun hs ⊢
  exact found_after_open (hc2 ▸ h2) hq hrun hs

/-- in every later state in which the store is open, no load has lost live content and `d` was not
    removed, EVERY serialised search finds `d` -/
theorem found_every_search (hrun : running (xrun s xs) = true) (hl : (xrun s xs).gh.loadLost = false)
    (hrem : d.id ∉ (xrun s xs).gh.removed) (hs : SerialFor (xrun s xs) sched) :
    found (xrun s xs) q sched d :=
  have hr2 := reach_xrun hr xs
  found_of_kInv (visInv_reach hr2) (kInv_xrun xs hx (idInv_reach hr) h) hrun hl hrem
    (by rw [reach_cfg hr2]; exact hq) hs

end Comet.Storage
