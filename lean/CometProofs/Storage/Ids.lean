/-
  Segment identifiers are never reused: the counter stays above every id that names a file or ever
  named one (`IdInv`), across all moves and crashes.
-/
import CometProofs.Storage.Moves
namespace Comet.Storage

/-- The counter of an open store is at least every id naming a file (`fsLe`), and the counter a reopen
    would compute is at least every id that ever named one (`ever`) — also while the compaction worker
    holds sources it is about to delete: they are below the merged segment, which is already on disk
    (`srcsLe`, `wrote`). A closed store has no live worker (`dead`). -/
structure IdInv (s : Store) : Prop where
  fsLe : s.opened = true → ∀ i ∈ FS.segIds s.fs, i ≤ s.counter
  ever : ∀ i ∈ s.gh.everNamed, i ≤ initCounter s.fs
  segsLe : ∀ i ∈ s.segs.map (·.id), i ≤ s.counter   -- the registered segments
  srcsLe : ∀ i ∈ s.cw.srcs, i ≤ s.counter
  wrote : ∀ srcs n, s.cw = .wrote srcs n →
    (∀ i ∈ srcs, i < n) ∧ n ∈ FS.segIds s.fs
  noOver : s.gh.overwrote = false   -- no segment write replaced an existing file
  noReuse : s.gh.reused = false   -- no segment write took an id at most one that had named a file
  dead : s.opened = false → s.fw = .exited ∧ s.cw = .exited

def KeepsMax (fs fs' : FS) : Prop := ∀ i ∈ FS.segIds fs, ∃ j ∈ FS.segIds fs', i ≤ j

theorem KeepsMax.le_initCounter {fs fs' : FS} (h : KeepsMax fs fs') {i : Nat} (hi : i ≤ initCounter fs) :
    i ≤ initCounter fs' :=
  Nat.le_trans hi <| initCounter_le _ _ fun j hj =>
    have ⟨_, hj', hjj⟩ := h j hj
    Nat.le_trans hjj (Storage.le_initCounter _ _ hj')

theorem KeepsMax.refl (fs : FS) : KeepsMax fs fs := fun i hi => ⟨i, hi, Nat.le_refl _⟩

theorem KeepsMax.trans {a b c : FS} (h1 : KeepsMax a b) (h2 : KeepsMax b c) : KeepsMax a c := by
  intro i hi
  obtain ⟨j, hj, hij⟩ := h1 i hi
  obtain ⟨k, hk, hjk⟩ := h2 j hj
  exact ⟨k, hk, Nat.le_trans hij hjk⟩

/-- deleting (a prefix of the deletions of) sources that are all smaller than an existing segment
    keeps the maximum -/
theorem keepsMax_delete_prefix {fs : FS} {srcs : List Nat} {n : Nat} (k : Nat)
    (hlt : ∀ i ∈ srcs, i < n) (hn : n ∈ FS.segIds fs) :
    KeepsMax fs (applySteps fs ((srcs.flatMap deleteSteps).take k)) := by
  have keep : ∀ i ∈ FS.segIds fs, i ∉ srcs →
      i ∈ FS.segIds (applySteps fs ((srcs.flatMap deleteSteps).take k)) := by
    intro i hi hsrc
    obtain ⟨kd, hk⟩ := (mem_segIds _ _).mp hi
    refine (mem_segIds _ _).mpr ⟨kd, names_applySteps_keep hk fun hr => ?_⟩
    obtain ⟨kd', j, hj, he⟩ := mem_deleteSteps (List.mem_of_mem_take hr)
    cases he
    exact hsrc hj
  intro i hi
  by_cases hle : i ≤ n
  · exact ⟨n, keep n hn fun h => Nat.lt_irrefl _ (hlt n h), hle⟩
  · exact ⟨i, keep i hi fun h => hle (Nat.le_of_lt (hlt i h)), Nat.le_refl _⟩

theorem take_length_self {α} (l : List α) : l.take l.length = l := List.take_length

variable {cfg : Cfg} {s s' : Store} {st : Step}

/-- a client of an open store or a live worker acts on an open store -/
theorem IdInv.opened (h : IdInv s) (ho : s.fw = .exited → s.cw = .exited → s.opened = true) :
    s.opened = true := by
  cases hop : s.opened with
  | true => rfl
  | false => have := ho (h.dead hop).1 (h.dead hop).2; rw [hop] at this; exact this

theorem idInv_openOn {fs : FS} {T0 : Shared} {gh : Ghost}
    (hev : ∀ i ∈ gh.everNamed, i ≤ initCounter fs) (hov : gh.overwrote = false) (hre : gh.reused = false) :
    IdInv (openOn cfg fs T0 gh).1 := by
  unfold openOn
  split
  · exact ⟨nofun, hev, nofun, nofun, nofun, hov, hre, fun _ => ⟨rfl, rfl⟩⟩
  · have hc : initCounter (FS.put fs .lock ⟨.lock, .full⟩) = initCounter fs :=
      initCounter_congr _ _ (segIds_put_lock fs _)
    refine ⟨fun _ i hi => le_initCounter _ _ hi, fun i hi => hc ▸ hev i hi, fun i hi => ?_,
      nofun, nofun, hov, hre, nofun⟩
    obtain ⟨g, hg, rfl⟩ := List.mem_map.mp hi
    obtain ⟨j, hj, rfl⟩ := List.mem_map.mp hg
    exact le_initCounter _ _ (listSegments_sub_segIds _ _ hj)

theorem IdInv.move (m : Move st s s') (h : IdInv s) : IdInv s' := by
  induction m with
  | refl => exact h
  | trans _ _ ih1 ih2 => exact ih2 (ih1 h)
  | quiet s _ hfw => exact { h with dead := fun hf => ⟨hfw (h.dead hf).1, (h.dead hf).2⟩ }
  | setCw s hsrc hw hx =>
    exact { h with
      srcsLe := fun i hi => (hsrc i hi).elim (h.srcsLe i) (h.segsLe i)
      wrote := fun l n e => absurd e (hw l n)
      dead := fun hf => ⟨(h.dead hf).1, hx (h.dead hf).2⟩ }
  | add | remove => exact { h with }
  | write s info cw ho _ hcw =>
    have ho := h.opened ho
    have hnew : s.counter + 1 ∉ FS.segIds s.fs := fun hm => Nat.not_succ_le_self _ (h.fsLe ho _ hm)
    have hids := segIds_writeSteps s.fs s.cfg.tpl (s.counter + 1) info s.T.flush
    -- with the new directory opaque, matching a clause against the new state does not unfold `applySteps`
    generalize applySteps s.fs (writeSteps s.cfg.tpl (s.counter + 1) info s.T.flush) = fs' at hids ⊢
    have hev : ∀ j ∈ s.gh.everNamed, j ≤ s.counter := fun j hj =>
      Nat.le_trans (h.ever j hj) (initCounter_le _ _ (h.fsLe ho))
    -- the clauses about the compaction worker first, so that `cw` is substituted in these two goals and not
    -- in the new state (slow to check)
    have hsrc : ∀ i ∈ cw.srcs, i ≤ s.counter := fun i hi => h.srcsLe i <| by
      rcases hcw with rfl | ⟨srcs, hl, rfl⟩
      · exact hi
      · rw [hl]; exact hi
    have hwrote : ∀ l n, cw = .wrote l n → (∀ i ∈ l, i < n) ∧ n ∈ FS.segIds fs' := by
      intro l n hw
      rcases hcw with rfl | ⟨srcs, hl, rfl⟩
      · exact (h.wrote _ _ hw).imp_right fun h3 => (hids n).mpr (.inl h3)
      · cases hw
        exact ⟨fun i hi => Nat.lt_succ_of_le (h.srcsLe i (hl ▸ hi)), (hids _).mpr (.inr rfl)⟩
    have hc := le_initCounter _ _ ((hids (s.counter + 1)).mpr (.inr rfl))
    exact {
      fsLe := fun _ i hi =>
        ((hids i).mp hi).elim (fun hi => Nat.le_succ_of_le (h.fsLe ho _ hi)) (· ▸ Nat.le_refl _)
      ever := List.forall_mem_cons.2 ⟨hc, fun i hi => Nat.le_trans (hev i hi) (Nat.le_of_succ_le hc)⟩
      segsLe := fun i hi => Nat.le_succ_of_le (h.segsLe i hi)
      srcsLe := fun i hi => Nat.le_succ_of_le (hsrc i hi)
      wrote := hwrote
      noOver := Bool.or_eq_false_iff.2 ⟨h.noOver, overwrites_writeSteps _ _ _ hnew⟩
      noReuse := Bool.or_eq_false_iff.2 ⟨h.noReuse, List.any_eq_false.2 fun j hj hd =>
        Nat.not_succ_le_self _ (Nat.le_trans (of_decide_eq_true hd) (hev j hj))⟩
      dead := fun hf => nomatch ho.symm.trans hf }
  | register s hid =>
    refine { h with segsLe := fun i hi => ?_ }
    rcases List.mem_append.mp (List.map_append ▸ hi) with hi | hi
    · exact h.segsLe i hi
    · obtain rfl := List.mem_singleton.mp hi; exact hid
  | load s id ok =>
    refine { h with segsLe := fun i hi => h.segsLe i ?_ }
    cases ok
    · exact hi
    · exact setCached_ids s.segs id true ▸ hi
  | evict s =>
    refine { h with segsLe := fun i hi => h.segsLe i ?_ }
    rw [List.map_map] at hi
    exact hi
  | unlock s hfw hcw =>
    have hc : initCounter (FS.erase s.fs .lock) = initCounter s.fs :=
      initCounter_congr _ _ (segIds_erase_lock s.fs)
    exact { h with
      fsLe := nofun
      ever := fun i hi => hc ▸ h.ever i hi
      wrote := fun _ _ e => nomatch hcw.symm.trans e
      dead := fun _ => ⟨hfw, hcw⟩ }
  | reopen s => exact idInv_openOn h.ever h.noOver h.noReuse
  | swap s srcs n hcw =>
    have ho := h.opened fun _ e => nomatch hcw.symm.trans e
    obtain ⟨hlt, hn⟩ := h.wrote _ _ hcw
    have key := keepsMax_delete_prefix (srcs.flatMap deleteSteps).length hlt hn
    rw [List.take_length] at key
    exact { h with
      fsLe := fun _ i hi => by
        obtain ⟨kd, hk⟩ := (mem_segIds _ _).mp hi
        rcases names_applySteps_sub hk with hk | ⟨p, hp⟩
        · exact h.fsLe ho i ((mem_segIds _ _).mpr ⟨kd, hk⟩)
        · obtain ⟨_, _, _, e⟩ := mem_deleteSteps hp
          cases e
      ever := fun i hi => key.le_initCounter (h.ever i hi)
      segsLe := fun i hi => by
        obtain ⟨g, hg, rfl⟩ := List.mem_map.mp hi
        rcases List.mem_append.mp (mem_foldl_removeSwap _ _ _ hg) with h' | h'
        · exact h.segsLe _ (List.mem_map_of_mem h')
        · obtain rfl := List.mem_singleton.mp h'; exact h.fsLe ho _ hn
      srcsLe := nofun
      wrote := nofun
      dead := fun hf => nomatch ho.symm.trans hf }

/-- a prefix of the FS steps of any step keeps the largest segment id of the directory -/
theorem IdInv.keepsMax_prefix (h : IdInv s) {l : List FsStep} (sh : FsShape s st l)
    (k : Nat) : KeepsMax s.fs (applySteps s.fs (l.take k)) := by
  have keep : ∀ steps : List FsStep, (∀ m, .remove m ∈ steps → m = .lock) →
      KeepsMax s.fs (applySteps s.fs (steps.take k)) := by
    intro steps hr i hi
    obtain ⟨kd, hk⟩ := (mem_segIds _ _).mp hi
    exact ⟨i, (mem_segIds _ _).mpr ⟨kd, names_applySteps_keep hk fun hm =>
      Name.seg_ne_lock _ _ (hr _ (List.mem_of_mem_take hm))⟩, Nat.le_refl _⟩
  cases sh with
  | none => exact keep _ fun _ hm => nomatch hm
  | lock => exact keep _ fun _ hm => by simp at hm
  | unlock => exact keep _ fun _ hm => by simpa using hm
  | flush l =>
    refine keep _ fun _ hm => ?_
    obtain ⟨_, _, _, _, _, hm⟩ := mem_flushStepsFrom (P := fun _ => True) (fun _ _ => trivial) trivial hm
    exact absurd hm remove_not_mem_writeSteps
  | write info => exact keep _ fun _ hm => absurd hm remove_not_mem_writeSteps
  | swap srcs n hcw =>
    obtain ⟨hlt, hn⟩ := h.wrote _ _ hcw
    exact keepsMax_delete_prefix k hlt hn

theorem IdInv.crash (k : Nat) (cuts : Name → Cut) (_ : s.opened = true) (h : IdInv s) :
    IdInv (crashTo s (crashImage s.fs (fsStepsOf s st) k cuts)) := by
  have hseg : ∀ i, i ∈ FS.segIds (FS.erase (crashImage s.fs (fsStepsOf s st) k cuts) .lock) ↔
      i ∈ FS.segIds (applySteps s.fs ((fsStepsOf s st).take k)) := by
    intro i
    rw [segIds_erase_lock, crashImage, segIds_recut]
  refine ⟨nofun, fun i hi => ?_, nofun, nofun, nofun, h.noOver, h.noReuse, fun _ => ⟨rfl, rfl⟩⟩
  show i ≤ initCounter (FS.erase (crashImage s.fs (fsStepsOf s st) k cuts) .lock)
  rw [initCounter_congr _ _ hseg]
  rcases List.mem_append.mp hi with hi | hi
  · apply le_initCounter
    rwa [crashImage, segIds_recut] at hi
  · exact (h.keepsMax_prefix (fsStepsOf_shape s st) k).le_initCounter (h.ever i hi)

theorem idInv_reach (h : Reach cfg s) : IdInv s :=
  inv_reach (idInv_openOn nofun rfl rfl) IdInv.move IdInv.crash h

end Comet.Storage
