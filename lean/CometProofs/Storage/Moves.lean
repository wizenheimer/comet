/-
  The step system seen from the proofs: every step of `exec` is a composition of elementary
  state changes (`Move`, `exec_move`), the FS steps of a step have one of six forms (`FsShape`;
  applying them gives the step's directory, `exec_fs_eq`), and an invariant kept by the moves and
  by crashes holds along every run (`inv_xrun`, `inv_reach`). The invariants of Ids / Phantom /
  Visible / DurableAll are each checked against the moves, not against the 21 steps and their guards.
-/
import CometProofs.Storage.Steps
namespace Comet.Storage

def Step.writesFs : Step → Bool
  | .flush | .bg .fwrite | .bg .cwrite | .bg .cswap | .closeDone | .reopen => true
  | _ => false

/-- the source segments the compaction worker has picked -/
def CW.srcs : CW → List Nat
  | .loading l _ => l
  | .wrote l _ => l
  | _ => []

/-- `Move st s s'`: `s'` arises from `s` by elementary state changes out of which step `st` is
    composed (`exec_move`). The index `st` only limits which moves may occur: `write` / `unlock` /
    `reopen` need `st.writesFs`, `swap` needs `st = .bg .cswap`, so that `Move.fs` and `KInv.move`
    can exclude them by the step; the other moves are moves of any `st`.
    Fields that no invariant reads are free parameters of the constructors. -/
inductive Move (st : Step) : Store → Store → Prop
  | refl (s : Store) : Move st s s
  | trans {a b c : Store} : Move st a b → Move st b c → Move st a c
  /-- bookkeeping: the memtable queue (never emptied), signals, `closed`, the flush worker's
      control state (an exited worker stays exited) -/
  | quiet (s : Store) {mts : List Memtable} {nextUid : Nat} {flushSig compSig closed : Bool} {fw : FW}
      {promised : List Doc} (hm : s.mts ≠ [] → mts ≠ []) (hfw : s.fw = .exited → fw = .exited) :
      Move st s { s with mts := mts, nextUid := nextUid, flushSig := flushSig, compSig := compSig,
                         closed := closed, fw := fw, gh := { s.gh with promised := promised } }
  /-- the compaction worker moves on without writing: its sources stay, or are registered segments -/
  | setCw (s : Store) {cw : CW} {compSig : Bool}
      (hsrc : ∀ i ∈ cw.srcs, i ∈ s.cw.srcs ∨ i ∈ s.segs.map (·.id))
      (hw : ∀ l n, cw ≠ .wrote l n) (hx : s.cw = .exited → cw = .exited) :
      Move st s { s with cw := cw, compSig := compSig }
  | add (s : Store) (d : Doc) {mts : List Memtable} {flushSig : Bool} {gone : List Id} {readded : Bool}
      (hm : s.mts ≠ [] → mts ≠ []) :
      Move st s { s with T := s.T.add (infoOf s.cfg.tpl d), mts := mts, flushSig := flushSig,
                         gh := { s.gh with acked := d :: s.gh.acked, sess := d :: s.gh.sess,
                                           gone := gone, readded := readded } }
  | remove (s : Store) {i : Info} {T' : Shared} {mts : List Memtable} {gone : List Id}
      (hr : s.T.remove i = .ok T') (hm : s.mts ≠ [] → mts ≠ []) :
      Move st s { s with T := T', mts := mts,
                         gh := { s.gh with removed := i.id :: s.gh.removed, gone := gone,
                                           sess := s.gh.sess.filter fun d => d.id != i.id } }
  /-- `writeSegment`, spelled out; the compaction worker's write also records `wrote` and `compacted`.
      `ho`: whoever writes a segment is a client of an open store or a live worker -/
  | write (s : Store) (info : List Info) (cw : CW) {compacted : Bool}
      (ho : s.fw = .exited → s.cw = .exited → s.opened = true) (hfs : st.writesFs = true)
      (hcw : cw = s.cw ∨ ∃ srcs, s.cw = .loading srcs [] ∧ cw = .wrote srcs (s.counter + 1)) :
      Move st s { s with
        counter := s.counter + 1, T := s.T.flush, cw := cw
        fs := applySteps s.fs (writeSteps s.cfg.tpl (s.counter + 1) info s.T.flush)
        gh := { s.gh with
          everNamed := (s.counter + 1) :: s.gh.everNamed, allocated := (s.counter + 1) :: s.gh.allocated
          overwrote := s.gh.overwrote || overwrites s.fs (writeSteps s.cfg.tpl (s.counter + 1) info s.T.flush)
          reused := s.gh.reused || s.gh.everNamed.any fun j => decide (s.counter + 1 ≤ j)
          compacted := compacted } }
  | register (s : Store) {id : Nat} (h : id ≤ s.counter) :
      Move st s { s with segs := s.segs ++ [⟨id, false⟩] }
  /-- `getIndex` deserialises an uncached segment into the shared templates (a search's `load`
      event, the compaction worker's load step) -/
  | load (s : Store) (id : Nat) (ok : Bool) {T' : Shared} {revived : Bool}
      (hL : loadSeg s.cfg.tpl s.fs id s.T = (ok, T')) (hunc : isCached s.segs id = some false) :
      Move st s { s with T := T', segs := if ok then setCached s.segs id true else s.segs,
                         gh := { s.gh with loadLost := s.gh.loadLost || !T'.coversLive s.T,
                                           revived := revived } }
  | evict (s : Store) : Move st s { s with segs := s.segs.map fun g => { g with cached := false } }
  | unlock (s : Store) {promised : List Doc} (hfw : s.fw = .exited) (hcw : s.cw = .exited)
      (hfs : st.writesFs = true) :
      Move st s { s with opened := false, fs := FS.erase s.fs .lock,
                         gh := { s.gh with promised := promised } }
  | reopen (s : Store) (ho : s.opened = false) (hfs : st.writesFs = true) :
      Move st s (openOn s.cfg s.fs Shared.empty s.gh).1
  | swap (s : Store) (srcs : List Nat) (n : Nat) (hcw : s.cw = .wrote srcs n) (hst : st = .bg .cswap) :
      Move st s { s with segs := srcs.foldl removeSwap (s.segs ++ [⟨n, false⟩]),
                         fs := applySteps s.fs (srcs.flatMap deleteSteps), cw := .idle,
                         gh := { s.gh with compacted := true } }

namespace Move
variable {st : Step}

theorem fw (s : Store) {f : FW} {flushSig : Bool} (h : s.fw ≠ .exited) :
    Move st s { s with fw := f, flushSig := flushSig } :=
  .quiet s id (fun e => absurd e h)

theorem mts (s : Store) {m : List Memtable} {n : Nat} (hm : s.mts ≠ [] → m ≠ []) :
    Move st s { s with mts := m, nextUid := n } :=
  .quiet s hm id

end Move

theorem running_opened {s : Store} (h : running s = true) : s.opened = true :=
  (Bool.and_eq_true_iff.mp h).1

section
variable {st : Step}

theorem flushOne_move (s : Store) (m : Memtable)
    (ho : s.fw = .exited → s.cw = .exited → s.opened = true) (hfs : st.writesFs = true) :
    Move st s (flushOne s m).1 :=
  .trans (.write s m.info s.cw ho hfs (.inl rfl)) (.register _ (Nat.le_refl _))

theorem flushAll_move (l : List Memtable) (s : Store) (ho : s.opened = true)
    (hfs : st.writesFs = true) : Move st s (flushAll s l) := by
  induction l generalizing s with
  | nil => exact .refl s
  | cons m r ih =>
    exact .trans (.trans (flushOne_move s m (fun _ _ => ho) hfs) (.mts _ (removeMt_ne _))) (ih _ ho)

theorem execAdd_move (s : Store) (d : Doc) : Move st s (execAdd s d).1 := by
  unfold execAdd
  split
  · exact .refl s
  · rename_i hr
    split
    · exact .add s d (modifyLast_ne _)
    · exact .trans (.mts s fun _ => rotateQ_ne _ _) (.add _ d (modifyLast_ne _))

theorem execRemove_move (s : Store) (id : Id) : Move st s (execRemove s id).1 := by
  unfold execRemove
  split
  · exact .refl s
  · split
    · exact .refl s
    · split
      · exact .refl s
      · rename_i i hi
        obtain rfl : i.id = id := by simpa using List.find?_some hi
        split
        · exact .refl s
        · exact .refl s
        · rename_i T' hT'
          exact .remove s hT' (modifyLast_ne _)

theorem execFlush_move (s : Store) (hfs : st.writesFs = true) : Move st s (execFlush s).1 := by
  simp only [execFlush, flushRotatesMutable, Bool.false_and, Bool.false_eq_true, if_false]
  split
  · exact .refl s
  · rename_i hr
    exact .trans (flushAll_move _ _ (running_opened (by simpa using hr)) hfs) (.quiet _ id id)

/-- the store a search would leave if it stopped in search state `st` -/
def SearchSt.store (s : Store) (st : SearchSt) : Store := { s with T := st.T, segs := st.segs, gh := st.gh }

theorem segEvent_move (s : Store) (q : Q) (x : SearchSt) (ev : SegEv) :
    Move st (x.store s) ((segEvent s.cfg s.fs q x ev).store s) := by
  cases ev with
  | scan id => simp only [segEvent]; split <;> exact .refl _
  | load id =>
    simp only [segEvent]
    split
    · rename_i hunc
      exact .load (x.store s) id _ (Prod.eta _).symm hunc
    · exact .refl _

theorem searchFold_move (s : Store) (q : Q) (sched : List SegEv) (x : SearchSt) :
    Move st (x.store s) ((sched.foldl (segEvent s.cfg s.fs q) x).store s) := by
  induction sched generalizing x with
  | nil => exact .refl _
  | cons ev r ih => exact .trans (segEvent_move s q x ev) (ih _)

theorem execSearch_move (s : Store) (q : Q) (sched : List SegEv) :
    Move st s (execSearch s q sched).1 := by
  unfold execSearch
  split
  · exact .refl s
  · split
    · exact .refl s
    · exact searchFold_move s q sched ⟨s.T, s.segs, _, 0, s.gh⟩

theorem execBg_move (s : Store) (b : Bg) (hst : st = .bg b) : Move st s (execBg s b).1 := by
  -- Each step is enabled in one state of its worker (`hfw`, `hcw`), and that state is not `.exited`: whence
  -- the moves' "an exited worker stays exited". A step that is not enabled leaves `s` as it is.
  cases b with
  | fwake | ffinal =>
    simp only [execBg]; split
    next hfw =>
      split
      · exact .fw s (by rw [hfw]; nofun)
      · exact .refl s
    next => exact .refl s
  | flist =>
    simp only [execBg]; split
    next f hfw => split <;> exact .fw s (by rw [hfw]; nofun)
    next => exact .refl s
  | fwrite =>
    simp only [execBg]; split
    next f m rest hfw =>
      have live : s.fw ≠ .exited := by rw [hfw]; nofun
      exact .trans (flushOne_move s m (fun e _ => live.elim e) (by rw [hst]; rfl)) (.fw _ live)
    next => exact .refl s
  | fremove =>
    simp only [execBg]; split
    next f m rest hfw => exact .quiet s (hm := removeMt_ne _) (hfw := fun e => nomatch hfw.symm.trans e)
    next => exact .refl s
  | cwake | cexit =>
    simp only [execBg]; split
    next hcw =>
      split
      · exact .setCw s (hsrc := nofun) (hw := nofun) (hx := fun e => nomatch hcw.symm.trans e)
      · exact .refl s
    next => exact .refl s
  | clist =>
    simp only [execBg]; split
    next hcw =>
      have live : s.cw ≠ .exited := by rw [hcw]; nofun
      split
      · exact .setCw s (hsrc := nofun) (hw := nofun) (hx := live.elim)
      · split
        · exact .setCw s (hsrc := nofun) (hw := nofun) (hx := live.elim)
        · refine .setCw s (hsrc := fun i hi => .inr ?_) (hw := nofun) (hx := live.elim)
          obtain ⟨g, hg, rfl⟩ := List.mem_map.mp hi
          exact List.mem_map.mpr ⟨g, List.mem_of_mem_take hg, rfl⟩
    next => exact .refl s
  | cload =>
    simp only [execBg]; split
    next srcs id rest hcw =>
      have live : s.cw ≠ .exited := by rw [hcw]; nofun
      have hsrc : ∀ i ∈ srcs, i ∈ s.cw.srcs := fun i hi => by rw [hcw]; exact hi
      split
      next hunc =>
        split
        next hok =>
          exact .trans (.load s id true (T' := (loadSeg s.cfg.tpl s.fs id s.T).2) (Prod.ext hok rfl) hunc)
            (.setCw _ (hsrc := fun i hi => .inl (hsrc i hi)) (hw := nofun) (hx := live.elim))
        next hok =>
          exact .trans
            (.load s id false (T' := (loadSeg s.cfg.tpl s.fs id s.T).2) (Prod.ext (Bool.eq_false_iff.mpr hok) rfl) hunc)
            (.setCw _ (hsrc := nofun) (hw := nofun) (hx := live.elim))
      next => exact .setCw s (hsrc := fun i hi => .inl (hsrc i hi)) (hw := nofun) (hx := live.elim)
    next => exact .refl s
  | cwrite =>
    simp only [execBg, writeSegment]; split
    next srcs hcw =>
      exact .write s [] (.wrote srcs (s.counter + 1)) (ho := fun _ e => nomatch hcw.symm.trans e)
        (hfs := by rw [hst]; rfl) (hcw := .inr ⟨srcs, hcw, rfl⟩)
    next => exact .refl s
  | cswap =>
    simp only [execBg]; split
    next srcs n hcw => exact .swap s srcs n hcw hst
    next => exact .refl s

end

theorem exec_move (s : Store) (st : Step) : Move st s (exec s st).1 := by
  cases st with
  | add d => exact execAdd_move s d
  | remove id => exact execRemove_move s id
  | flush => exact execFlush_move s rfl
  | rotate =>
    simp only [exec]; split
    · exact .refl s
    · exact .mts s fun _ => rotateQ_ne _ _
  | trigger | close =>
    simp only [exec]; split
    · exact .refl s
    · exact .quiet s id id
  | evict =>
    simp only [exec]; split
    · exact .refl s
    · exact .evict s
  | search q sched => exact execSearch_move s q sched
  | closeDone =>
    simp only [exec]; split
    · rename_i hg
      simp only [Bool.and_eq_true, decide_eq_true_eq] at hg
      exact .unlock s hg.1.2 hg.2 rfl
    · exact .refl s
  | reopen =>
    simp only [exec]; split
    · exact .refl s
    · rename_i ho
      exact .reopen s (by simpa using ho) rfl
  | bg b => exact execBg_move s b rfl

namespace Move
variable {st : Step} {s s' : Store}

theorem cfg (m : Move st s s') : s'.cfg = s.cfg := by
  induction m with
  | trans _ _ ih1 ih2 => exact ih2.trans ih1
  | reopen s => unfold openOn; split <;> rfl
  | _ => rfl

theorem fs (m : Move st s s') (hst : st.writesFs = false) : s'.fs = s.fs := by
  induction m with
  | trans _ _ ih1 ih2 => exact ih2.trans ih1
  | write _ _ _ _ hfs | unlock _ _ _ hfs | reopen _ _ hfs => rw [hst] at hfs; cases hfs
  | swap _ _ _ _ h => subst h; cases hst
  | _ => rfl

end Move

/-! ## the FS steps of a step -/

/-- the forms the list `fsStepsOf s st` can take -/
inductive FsShape (s : Store) (st : Step) : List FsStep → Prop
  | none : FsShape s st []
  | flush (l : List Memtable) : FsShape s st (flushStepsFrom s.cfg.tpl s.T s.counter l)
  | write (info : List Info) : FsShape s st (writeSteps s.cfg.tpl (s.counter + 1) info s.T.flush)
  | swap (srcs : List Nat) (n : Nat) (hcw : s.cw = .wrote srcs n) (hst : st = .bg .cswap) :
      FsShape s st (srcs.flatMap deleteSteps)
  | unlock : FsShape s st [.remove .lock]
  | lock : FsShape s st [.create .lock .lock, .complete .lock]

theorem fsStepsOf_shape (s : Store) (st : Step) : FsShape s st (fsStepsOf s st) := by
  cases st with
  | flush => simp only [fsStepsOf]; split; exact .flush _; exact .none
  | closeDone => simp only [fsStepsOf]; split; exact .unlock; exact .none
  | reopen => simp only [fsStepsOf]; split; exact .none; exact .lock
  | bg b =>
    cases b with
    | fwrite | cwrite => simp only [fsStepsOf]; split; exact .write _; exact .none
    | cswap =>
      simp only [fsStepsOf]; split
      · rename_i srcs n h; exact .swap srcs n h rfl
      · exact .none
    | _ => exact .none
  | _ => exact .none

theorem flushAll_fields (l : List Memtable) (s : Store) :
    (flushAll s l).fs = applySteps s.fs (flushStepsFrom s.cfg.tpl s.T s.counter l) := by
  induction l generalizing s with
  | nil => rfl
  | cons m r ih =>
    simp only [flushAll, flushStepsFrom, flushOne, writeSegment]
    rw [ih, applySteps_append]

/-- the directory after a step is the directory before with the step's FS operations applied, in order
    (so the crash images of Comet/Storage/Crash.lean are prefixes of what the step really does) -/
theorem exec_fs_eq (s : Store) (st : Step) : (exec s st).1.fs = applySteps s.fs (fsStepsOf s st) := by
  cases st with
  | flush =>
    cases hr : running s
    · simp [exec, fsStepsOf, execFlush, hr, applySteps]
    · simp only [exec, fsStepsOf, execFlush, hr, Bool.not_true, if_true, flushRotatesMutable, Bool.false_and,
        Bool.false_eq_true, if_false]
      exact flushAll_fields _ _
  | closeDone =>
    simp only [exec, fsStepsOf]; split <;> rfl
  | reopen =>
    simp only [exec, fsStepsOf]
    cases ho : s.opened with
    | true => simp [applySteps]
    | false =>
      simp only [Bool.false_eq_true, if_false, Bool.false_or]
      unfold openOn
      split
      · rfl
      · exact (put_then_complete s.fs .lock .lock).symm
  | bg b =>
    cases b with
    | fwrite | cwrite | cswap =>
      simp only [exec, fsStepsOf, execBg, flushOne, writeSegment]
      -- `execBg` (first `split`) and `fsStepsOf` (second) match on the worker's state with the same pattern:
      -- `hw` says the step is enabled, `hno` that it is not
      split
      next hw => simp only [hw]
      next hno =>
        split
        next hw => exact absurd hw (by apply hno)
        next => rfl
    | _ => exact (exec_move s _).fs rfl
  | _ => exact (exec_move s _).fs rfl  -- no FS steps, and the moves of a step with `writesFs = false` keep `fs`

/-- the step an extended step executes or dies in -/
def XStep.st : XStep → Step
  | .step st => st
  | .crash st _ _ => st

def noSwap : XStep → Bool
  | .step (.bg .cswap) => false
  | .crash (.bg .cswap) _ _ => false
  | _ => true

theorem ne_cswap_of_noSwap {x : XStep} (h : noSwap x = true) : x.st ≠ .bg .cswap := by
  intro e
  cases x <;> (simp only [XStep.st] at e; subst e; cases h)

variable {P : Store → Prop} {ok : Step → Prop}

/-- a predicate kept by the moves of the permitted steps and by crashes inside them is kept by
    every run of permitted steps -/
theorem inv_xrun
    (move : ∀ {st s s'}, ok st → Move st s s' → P s → P s')
    (crash : ∀ {st s} (k : Nat) (cuts : Name → Cut), ok st → s.opened = true → P s →
      P (crashTo s (crashImage s.fs (fsStepsOf s st) k cuts)))
    (xs : List XStep) (hx : ∀ x ∈ xs, ok x.st) {s : Store} (h : P s) : P (xrun s xs) := by
  induction xs generalizing s with
  | nil => exact h
  | cons x r ih =>
    refine ih (fun y hy => hx y (List.mem_cons_of_mem _ hy)) ?_
    have hok := hx x (List.mem_cons_self ..)
    cases x with
    | step st => exact move hok (exec_move s st) h
    | crash st k cuts =>
      simp only [xexec]
      split
      · rename_i ho; exact crash k cuts hok ho h
      · exact h

theorem reach_init (cfg : Cfg) : Reach cfg (Store.init cfg) := ⟨[], rfl⟩

/-- `inv_xrun` for all steps, started from the store opened on the empty directory -/
theorem inv_reach {cfg : Cfg} (init : P (Store.init cfg))
    (move : ∀ {st s s'}, Move st s s' → P s → P s')
    (crash : ∀ {st s} (k : Nat) (cuts : Name → Cut), s.opened = true → P s →
      P (crashTo s (crashImage s.fs (fsStepsOf s st) k cuts)))
    {s : Store} (h : Reach cfg s) : P s := by
  obtain ⟨xs, rfl⟩ := h
  exact inv_xrun (ok := fun _ => True) (fun _ => move) (fun k cuts _ => crash k cuts) xs
    (fun _ _ => trivial) init

theorem reach_xrun {cfg : Cfg} {s : Store} (h : Reach cfg s) (xs : List XStep) : Reach cfg (xrun s xs) := by
  obtain ⟨ys, rfl⟩ := h
  exact ⟨ys ++ xs, by simp [xrun, List.foldl_append]⟩

theorem reach_xexec {cfg : Cfg} {s : Store} (h : Reach cfg s) (x : XStep) : Reach cfg (xexec s x) :=
  reach_xrun h [x]

theorem reach_step {cfg : Cfg} {s : Store} (h : Reach cfg s) (st : Step) : Reach cfg (exec s st).1 :=
  reach_xexec h (.step st)

theorem reach_run_from {cfg : Cfg} {s : Store} (h : Reach cfg s) (steps : List Step) :
    Reach cfg (run s steps) := by
  induction steps generalizing s with
  | nil => exact h
  | cons st r ih => exact ih (reach_step h st)

theorem reach_run (cfg : Cfg) (steps : List Step) : Reach cfg (run (Store.init cfg) steps) :=
  reach_run_from (reach_init cfg) steps

theorem reach_cfg {cfg : Cfg} {s : Store} (h : Reach cfg s) : s.cfg = cfg :=
  inv_reach (P := fun s => s.cfg = cfg) rfl (fun m e => m.cfg.trans e) (fun _ _ _ e => e) h

end Comet.Storage
