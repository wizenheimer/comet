/-
  Specification vocabulary of the property files C08 / C09 / C10 (`Doc.matches`, `SerialFor`,
  `found`, the close schedules), and the lemma the helper files share: every search of a running
  store finds what the shared templates cover (`found_of_covered`).
-/
import CometProofs.Storage.Visible
namespace Comet.Storage

/-- `d` carries the modality probed by `q` and the store has a template for it
    (hybridSearchIndex.addInternal indexed it there) -/
def Doc.matches (tpl : Tpl) (d : Doc) : Q → Bool
  | .vec => (infoOf tpl d).hv
  | .txt => (infoOf tpl d).ht
  | .md => (infoOf tpl d).hm

/-- a schedule in which the segment goroutines of a search run one after the other, each
    registered segment exactly once, in any order (what the harness enforces) -/
def SerialFor (s : Store) (sched : List SegEv) : Prop :=
  ∃ order : List Nat, order.Perm (s.segs.map (·.id)) ∧ sched = serialSched order

def found (s : Store) (q : Q) (sched : List SegEv) (d : Doc) : Prop :=
  ∃ l, (exec s (.search q sched)).2 = .ids l ∧ d.id ∈ l

section
variable {tpl : Tpl} {T : Shared} {d : Doc} {q : Q} {s : Store} {sched : List SegEv}

theorem acc_mono {cfg : Cfg} {fs : FS} {st : SearchSt} {i : Id}
    (h : i ∈ st.acc) : i ∈ (sched.foldl (segEvent cfg fs q) st).acc := by
  induction sched generalizing st with
  | nil => exact h
  | cons ev r ih =>
    simp only [List.foldl_cons]
    apply ih
    cases ev with
    | load id => simp only [segEvent]; split <;> exact h
    | scan id =>
      simp only [segEvent]; split
      · exact List.mem_append_left _ h
      · exact h

theorem matches_has (h : Doc.matches tpl d q = true) : tpl.has q = true := by
  cases q <;> simp [Doc.matches, infoOf] at h <;> simp [Tpl.has, h.1]

theorem covered_matchIds (hc : covered tpl T d)
    (h : Doc.matches tpl d q = true) : d.id ∈ T.matchIds q := by
  cases q with
  | vec => exact hc.1 h
  | txt => exact hc.2.1 h
  | md => exact hc.2.2 h

theorem search_ids (hrun : running s = true) (hq : s.cfg.tpl.has q = true)
    (sched : List SegEv) :
    (exec s (.search q sched)).2 = .ids (sched.foldl (segEvent s.cfg s.fs q)
      ⟨s.T, s.segs, s.mts.flatMap fun _ => s.T.matchIds q, 0, s.gh⟩).acc.eraseDups := by
  simp only [exec, execSearch]
  rw [if_neg (by simp [hrun]), if_neg (by simp [hq])]

theorem not_found {l : List Id}
    (he : (exec s (.search q sched)).2 = .ids l) (hd : d.id ∉ l) : ¬ found s q sched d := by
  rintro ⟨l', hl, hm⟩
  rw [he] at hl
  cases hl
  exact hd hm

/-- a running store with a memtable finds, in every search, each document its templates cover
    (the memtables are searched first, and they all search the shared templates) -/
theorem found_of_covered (hrun : running s = true) (hne : s.mts ≠ []) {q : Q}
    (hcov : covered s.cfg.tpl s.T d) (hm : Doc.matches s.cfg.tpl d q = true) (sched : List SegEv) :
    found s q sched d := by
  refine ⟨_, search_ids hrun (matches_has hm) sched, List.mem_eraseDups.mpr (acc_mono ?_)⟩
  cases hmts : s.mts with
  | nil => exact absurd hmts hne
  | cons m r => simp [covered_matchIds hcov hm]

end

/-- `Close()` as the client sees it when both workers are idle and nothing is buffered:
    closed := true; the compaction worker exits; the flush worker runs its final
    flushMemtables (here: finds nothing frozen); wg.Wait returns; LOCK is removed -/
def closeIdle : List Step := [.close, .bg .cexit, .bg .ffinal, .bg .flist, .closeDone]

/-- the same with `n` frozen memtables to flush in the final round -/
def closeFlushing (n : Nat) : List Step :=
  [.close, .bg .cexit, .bg .ffinal, .bg .flist] ++
  (List.replicate n [Step.bg .fwrite, Step.bg .fremove]).flatten ++ [.closeDone]

end Comet.Storage
