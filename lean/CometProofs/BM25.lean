/-
  Helper lemmas for C03 and C06 (BM25 text index): the per-token loops of Add /
  removeInternal read through look-ups (Loops); the invariant `WF` and the refinement
  `Inv s (spec h)` (Inv); the score map of `searchSingleQuery` is the specification's
  candidate list (Search); heap selection / full heap-sort are exact top-k (Rank).
  Association lists (Go maps): CometProofs/AList.lean; text aggregation: CometProofs/Agg.lean.
-/
import CometProofs.BM25.Loops
import CometProofs.BM25.Inv
import CometProofs.BM25.Search
import CometProofs.BM25.Rank
import CometProofs.Agg
import CometProofs.BM25.SpecLemmas
import CometProofs.BM25.Toy
