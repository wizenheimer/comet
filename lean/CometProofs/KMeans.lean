/-
  Lemmas for C20 (k-means part): structural facts about the model of
  clustering.go that hold for EVERY scalar instance (also `Float32`), and the facts
  that need an exact ordered field (first minimiser, coordinate-wise hull).
-/
import Mathlib.Algebra.Order.Field.Basic
import Mathlib.Tactic.Linarith
import Mathlib.Tactic.Ring
import Mathlib.Tactic.Positivity
import Mathlib.Tactic.FieldSimp
import Comet.KMeans
namespace Comet.KMeans
open Comet.Dist

section Structural
variable {S : Type} (o : Ops S) (dist : List S → List S → S)

theorem nearestLoop_lt (v : List S) (cs : List (List S)) (i : Nat) (best : Option S) (bi : Nat)
    (h : bi < i + cs.length) : nearestLoop o dist v cs i best bi < i + cs.length := by
  induction cs generalizing i best bi with
  | nil => exact h
  | cons c t ih =>
    rw [List.length_cons, Nat.add_comm t.length 1, ← Nat.add_assoc] at h ⊢
    rw [nearestLoop]
    split
    · exact ih (i + 1) _ i (Nat.lt_add_right _ (Nat.lt_succ_self i))
    · exact ih (i + 1) best bi h

theorem nearest_lt (v : List S) (cs : List (List S)) (h : cs ≠ []) : nearest o dist v cs < cs.length := by
  have := nearestLoop_lt o dist v cs 0 none 0
  rw [Nat.zero_add] at this
  exact this (List.length_pos_iff.2 h)

theorem assign_length (vs cs : List (List S)) : (assign o dist vs cs).length = vs.length :=
  List.length_map _

theorem assign_valid (vs cs : List (List S)) (h : cs ≠ []) :
    ∀ m ∈ assign o dist vs cs, 0 ≤ m ∧ m < (cs.length : Int) := by
  intro m hm
  simp only [assign, List.mem_map] at hm
  obtain ⟨v, _, rfl⟩ := hm
  exact ⟨Int.natCast_nonneg _, by exact_mod_cast nearest_lt o dist v cs h⟩

theorem updateFrom_length (dim : Nat) (vs : List (List S)) (mp : List Int) (j : Nat) (cs : List (List S)) :
    (updateFrom o dim vs mp j cs).length = cs.length := by
  induction cs generalizing j with
  | nil => rfl
  | cons c t ih => rw [updateFrom, List.length_cons, ih, List.length_cons]

theorem update_length (dim : Nat) (vs cs : List (List S)) (mp : List Int) :
    (update o dim vs cs mp).length = cs.length := updateFrom_length o dim vs mp 0 cs

theorem iterate_inv (P : List (List S) → Prop) (dim : Nat) (vs : List (List S))
    (hupd : ∀ cs mp, P cs → P (update o dim vs cs mp)) (fuel it : Nat) (cs : List (List S))
    (mp : List Int) (h : P cs) : P (iterate o dist dim vs fuel it cs mp).centroids := by
  induction fuel generalizing it cs mp with
  | zero => exact h
  | succ n ih =>
    rw [iterate]
    split
    · exact h
    · exact ih _ _ _ (hupd _ _ h)

theorem iterate_centroids_length (dim : Nat) (vs : List (List S)) (fuel it : Nat) (cs : List (List S))
    (mp : List Int) : (iterate o dist dim vs fuel it cs mp).centroids.length = cs.length :=
  iterate_inv o dist (·.length = cs.length) dim vs
    (fun cs' mp h => (update_length o dim vs cs' mp).trans h) fuel it cs mp rfl

/-- after at least one iteration the mapping is the assignment w.r.t. SOME centroid list
    of the same length (the returned one when the run converged) -/
theorem iterate_mapping (dim : Nat) (vs : List (List S)) (fuel it : Nat) (cs : List (List S))
    (mp : List Int) (hf : 0 < fuel) :
    ∃ cs', cs'.length = cs.length ∧ (iterate o dist dim vs fuel it cs mp).mapping = assign o dist vs cs' := by
  induction fuel generalizing it cs mp with
  | zero => exact absurd hf (Nat.lt_irrefl 0)
  | succ n ih =>
    simp only [iterate]
    split
    · exact ⟨cs, rfl, rfl⟩
    · cases n with
      | zero => exact ⟨cs, rfl, rfl⟩
      | succ m =>
        obtain ⟨cs', h1, h2⟩ := ih (it + 1) (update o dim vs cs (assign o dist vs cs)) (assign o dist vs cs) (Nat.succ_pos m)
        exact ⟨cs', by rw [h1, update_length], h2⟩

theorem iterate_converged (dim : Nat) (vs : List (List S)) (fuel it : Nat) (cs : List (List S))
    (mp : List Int) (h : (iterate o dist dim vs fuel it cs mp).converged = true) :
    (iterate o dist dim vs fuel it cs mp).mapping =
      assign o dist vs (iterate o dist dim vs fuel it cs mp).centroids := by
  induction fuel generalizing it cs mp with
  | zero => exact absurd h Bool.false_ne_true
  | succ n ih =>
    simp only [iterate] at h ⊢
    split
    · rfl
    · next hne =>
      rw [if_neg hne] at h
      exact ih _ _ _ h

theorem initCentroids_length (v0 : List S) (rest : List (List S)) (k : Nat) :
    (initCentroids v0 rest k).length = k := by
  rw [initCentroids, List.length_map, List.length_range]

theorem initCentroids_mem (v0 : List S) (rest : List (List S)) (k : Nat) :
    ∀ c ∈ initCentroids v0 rest k, c ∈ v0 :: rest := by
  intro c hc
  simp only [initCentroids, List.mem_map] at hc
  obtain ⟨i, _, rfl⟩ := hc
  exact List.getElem_mem _

theorem effK_eq (k : Int) (n : Nat) : effK k n = min k.toNat n := by
  unfold effK
  split
  next h => exact (Nat.min_eq_right (Nat.le_of_lt h)).symm
  next h => exact (Nat.min_eq_left (Nat.le_of_not_lt h)).symm

theorem effK_pos (k : Int) (n : Nat) (hk : 0 < k) (hn : 0 < n) : 0 < effK k n := by
  rw [effK_eq k n]
  exact Nat.lt_min.2 ⟨Int.lt_toNat.2 hk, hn⟩

theorem effIter_pos (m : Int) : 0 < effIter m := by
  unfold effIter
  split
  · exact Nat.succ_pos 19
  next h => exact Int.lt_toNat.2 (Int.not_le.1 h)

theorem clusterSum_induct (Q : List S × Nat → Prop) (dim : Nat) (vs : List (List S)) (mp : List Int)
    (j : Nat) (h0 : Q (List.replicate dim o.zero, 0))
    (hstep : ∀ acc, ∀ v ∈ vs, Q acc → Q (addVec o acc.1 v, acc.2 + 1)) :
    Q (clusterSum o dim vs mp j) := by
  refine List.foldlRecOn _ _ h0 fun acc hacc p hp => ?_
  split
  · exact hstep acc p.1 (List.of_mem_zip hp).1 hacc
  · exact hacc

theorem clusterSum_length (dim : Nat) (vs : List (List S)) (mp : List Int) (j : Nat)
    (hrect : ∀ v ∈ vs, v.length = dim) : (clusterSum o dim vs mp j).1.length = dim :=
  clusterSum_induct o (·.1.length = dim) dim vs mp j List.length_replicate fun acc v hv h => by
    rw [addVec, List.length_zipWith, h, hrect v hv, Nat.min_self]

theorem iterate_forall (P : List S → Prop) (dim : Nat) (vs : List (List S))
    (hupd : ∀ mp j c, P c →
      P (updateCentroid o c (clusterSum o dim vs mp j).1 (clusterSum o dim vs mp j).2))
    (fuel it : Nat) (cs : List (List S)) (mp : List Int) (hcs : ∀ c ∈ cs, P c) :
    ∀ c ∈ (iterate o dist dim vs fuel it cs mp).centroids, P c := by
  refine iterate_inv o dist (∀ c ∈ ·, P c) dim vs (fun cs mp => ?_) fuel it cs mp hcs
  unfold update
  generalize 0 = j
  induction cs generalizing j with
  | nil => exact fun _ _ hc => nomatch hc
  | cons c0 t ih =>
    intro hcs
    rw [List.forall_mem_cons] at hcs
    exact List.forall_mem_cons.2 ⟨hupd mp j c0 hcs.1, ih (j + 1) hcs.2⟩

theorem iterate_dim (dim : Nat) (vs : List (List S)) (hrect : ∀ v ∈ vs, v.length = dim)
    (fuel it : Nat) (cs : List (List S)) (mp : List Int) (hcs : ∀ c ∈ cs, c.length = dim) :
    ∀ c ∈ (iterate o dist dim vs fuel it cs mp).centroids, c.length = dim := by
  refine iterate_forall o dist (·.length = dim) dim vs (fun mp j c hc => ?_) fuel it cs mp hcs
  unfold updateCentroid
  split
  · rw [List.length_map, clusterSum_length o dim vs mp j hrect]
  · exact hc

/-- a run that does not return `(nil, nil)` is the main loop started on a non-empty
    training set with `k > 0` -/
theorem kmeans_eq_some {vs : List (List S)} {k maxIter : Int} {r : Result S}
    (h : kmeans o dist vs k maxIter = some r) :
    ∃ v0 rest, vs = v0 :: rest ∧ 0 < k ∧
      r = iterate o dist v0.length vs (effIter maxIter) 0
        (initCentroids v0 rest (effK k vs.length)) (List.replicate vs.length (-1)) := by
  cases vs with
  | nil => exact nomatch h
  | cons v0 rest =>
    rw [kmeans] at h
    split at h
    · exact nomatch h
    next hk => exact ⟨v0, rest, rfl, Int.not_le.1 hk, (Option.some.inj h).symm⟩

end Structural

section Field
variable {K : Type} [Field K] [LinearOrder K] [IsStrictOrderedRing K]

/-- the scalar operations of an exact ordered field (ℚ, ℝ, …); the square root is not
    used by k-means (the distance is a parameter) -/
def fieldOps (K : Type) [Field K] [LinearOrder K] : Ops K where
  zero := 0
  one := 1
  add := (· + ·)
  sub := (· - ·)
  mul := (· * ·)
  div := (· / ·)
  neg := fun x => -x
  sqrt := id
  lt := fun a b => decide (a < b)
  isZero := fun x => decide (x = 0)
  ofNat := fun n => (n : K)
  ltInf := fun _ => true

variable (dist : List K → List K → K)

omit [IsStrictOrderedRing K] in
/-- the arg-min loop entered with best distance `best` (`none` = `+Inf`) at index `bi`: either
    nothing beats `best`, or the result is the FIRST index (counted from `i`) of the least distance -/
theorem nearestLoop_spec (v : List K) (cs : List (List K)) (i : Nat) (best : Option K) (bi : Nat) :
    (nearestLoop (fieldOps K) dist v cs i best bi = bi ∧ ∀ c ∈ cs, ∃ b ∈ best, b ≤ dist v c) ∨
    ∃ j, ∃ h : j < cs.length, nearestLoop (fieldOps K) dist v cs i best bi = j + i ∧
      (∀ b ∈ best, dist v cs[j] < b) ∧ (∀ c ∈ cs, dist v cs[j] ≤ dist v c) ∧
      ∀ j' (h' : j' < cs.length), j' < j → dist v cs[j] < dist v cs[j'] := by
  induction cs generalizing i best bi with
  | nil => exact .inl ⟨rfl, nofun⟩
  | cons c t ih =>
    rw [nearestLoop]
    split
    next hd =>
      have hd : ∀ b ∈ best, dist v c < b := by
        rintro b rfl
        exact of_decide_eq_true hd
      right
      rcases ih (i + 1) (some (dist v c)) i with ⟨h1, h2⟩ | ⟨j, hj, h1, h2, h3, h4⟩
      · exact ⟨0, Nat.succ_pos _, by rw [h1, Nat.zero_add], hd,
          List.forall_mem_cons.2 ⟨le_rfl, fun c' hc' =>
            (h2 c' hc').elim fun _ h => Option.some.inj h.1 ▸ h.2⟩,
          fun _ _ h => absurd h (Nat.not_lt_zero _)⟩
      · have h2 := h2 _ rfl
        refine ⟨j + 1, Nat.succ_lt_succ hj, h1.trans (Nat.add_right_comm j 1 i).symm, fun b hb => h2.trans (hd b hb),
          List.forall_mem_cons.2 ⟨h2.le, h3⟩, ?_⟩
        rintro (_ | m) hm hlt
        · exact h2
        · exact h4 m (Nat.lt_of_succ_lt_succ hm) (Nat.lt_of_succ_lt_succ hlt)
    next hd =>
      obtain ⟨b, rfl, hbd⟩ : ∃ b, best = some b ∧ b ≤ dist v c := by
        cases best with
        | none => exact absurd rfl hd
        | some b => exact ⟨b, rfl, not_lt.1 fun h => hd (decide_eq_true h)⟩
      rcases ih (i + 1) (some b) bi with ⟨h1, h2⟩ | ⟨j, hj, h1, h2, h3, h4⟩
      · exact .inl ⟨h1, List.forall_mem_cons.2 ⟨⟨b, rfl, hbd⟩, h2⟩⟩
      · have h2' := h2 b rfl
        refine .inr ⟨j + 1, Nat.succ_lt_succ hj, h1.trans (Nat.add_right_comm j 1 i).symm, h2,
          List.forall_mem_cons.2 ⟨(h2'.trans_le hbd).le, h3⟩, ?_⟩
        rintro (_ | m) hm hlt
        · exact h2'.trans_le hbd
        · exact h4 m (Nat.lt_of_succ_lt_succ hm) (Nat.lt_of_succ_lt_succ hlt)

def InBox (d : Nat) (lo hi : K) (c : List K) : Prop := ∃ x, c[d]? = some x ∧ lo ≤ x ∧ x ≤ hi

/-- the sum of `n` numbers of `[lo, hi]` lies in `[n·lo, n·hi]` -/
theorem clusterSum_box (d : Nat) (lo hi : K) (dim : Nat) (hd : d < dim) (vs : List (List K)) (mp : List Int)
    (j : Nat) (hvs : ∀ v ∈ vs, InBox d lo hi v) :
    ∃ s, (clusterSum (fieldOps K) dim vs mp j).1[d]? = some s ∧
      ((clusterSum (fieldOps K) dim vs mp j).2 : K) * lo ≤ s ∧
      s ≤ ((clusterSum (fieldOps K) dim vs mp j).2 : K) * hi := by
  refine clusterSum_induct (fieldOps K) (fun acc => ∃ s, acc.1[d]? = some s ∧ (acc.2 : K) * lo ≤ s ∧
    s ≤ (acc.2 : K) * hi) dim vs mp j ?_ ?_
  · refine ⟨0, ?_, ?_, ?_⟩
    · rw [List.getElem?_replicate, if_pos hd]; rfl
    · rw [Nat.cast_zero, zero_mul]
    · rw [Nat.cast_zero, zero_mul]
  · rintro acc v hv ⟨s, hs, h1, h2⟩
    obtain ⟨x, hx, hx1, hx2⟩ := hvs v hv
    have e : ∀ c : K, ((acc.2 + 1 : Nat) : K) * c = (acc.2 : K) * c + c := fun c => by
      rw [Nat.cast_succ, add_one_mul]
    refine ⟨s + x, ?_, e lo ▸ add_le_add h1 hx1, e hi ▸ add_le_add h2 hx2⟩
    rw [addVec, List.getElem?_zipWith, hs, hx]; rfl

theorem iterate_box (d : Nat) (lo hi : K) (dim : Nat) (hd : d < dim) (vs : List (List K))
    (hvs : ∀ v ∈ vs, InBox d lo hi v) (fuel it : Nat) (cs : List (List K)) (mp : List Int)
    (hcs : ∀ c ∈ cs, InBox d lo hi c) :
    ∀ c ∈ (iterate (fieldOps K) dist dim vs fuel it cs mp).centroids, InBox d lo hi c := by
  refine iterate_forall (fieldOps K) dist (InBox d lo hi) dim vs (fun mp j c hc => ?_) fuel it cs mp hcs
  unfold updateCentroid
  split
  next h =>
    obtain ⟨s, hs0, hs1, hs2⟩ := clusterSum_box d lo hi dim hd vs mp j hvs
    have hpos := (Nat.cast_pos (α := K)).2 h
    refine ⟨s / _, ?_, (le_div_iff₀' hpos).2 hs1, (div_le_iff₀' hpos).2 hs2⟩
    rw [List.getElem?_map, hs0]; rfl
  · exact hc

omit [Field K] [IsStrictOrderedRing K] in
theorem exists_min_image {α : Type} (f : α → K) (l : List α) (hne : l ≠ []) :
    ∃ a ∈ l, ∀ b ∈ l, f a ≤ f b := by
  cases h : l.argmin f with
  | none => exact absurd (List.argmin_eq_none.1 h) hne
  | some a => exact ⟨a, List.argmin_mem h, fun b hb => List.le_of_mem_argmin hb h⟩

omit [IsStrictOrderedRing K] in
/-- the tightest box of coordinate `d`: two training vectors between whose `d`-th
    coordinates that of every training vector lies (the maximum is the minimum for `≥`) -/
theorem exists_tight_box (d : Nat) (vs : List (List K)) (hne : vs ≠ []) (hd : ∀ v ∈ vs, d < v.length) :
    ∃ vmin ∈ vs, ∃ vmax ∈ vs, ∃ a b, vmin[d]? = some a ∧ vmax[d]? = some b ∧
      ∀ v ∈ vs, InBox d a b v := by
  obtain ⟨vmin, hmin, hle⟩ := exists_min_image (fun v : List K => v[d]?.getD 0) vs hne
  obtain ⟨vmax, hmax, hge⟩ := exists_min_image (K := Kᵒᵈ) (fun v : List K => v[d]?.getD 0) vs hne
  have hget : ∀ v ∈ vs, v[d]? = some (v[d]?.getD 0) := fun v hv => by
    rw [List.getElem?_eq_getElem (hd v hv), Option.getD_some]
  exact ⟨vmin, hmin, vmax, hmax, _, _, hget _ hmin, hget _ hmax,
    fun v hv => ⟨_, hget v hv, hle v hv, hge v hv⟩⟩

end Field
end Comet.KMeans
