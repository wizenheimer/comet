/-
  The effect of insertNode on the graph (helper lemmas for C12): frame lemmas for
  pruneConnections / the linking loop, and the exact effect on layer 0 while no list
  overflows.
-/
import CometProofs.HNSWState
namespace Comet.HNSW

variable {V S : Type}

/-- `node.Edges[lc] = l` for the resident vertex `i` -/
def setList (s : State V) (i : Id) (lc : Nat) (l : List Id) : State V :=
  match s.nodes.get? i with
  | some n => { s with nodes := s.nodes.set i (n.setEdges lc l) }
  | none => s

/-- same vertices with the same vectors, levels and numbers of layers; same scalars -/
structure Shape (s s' : State V) : Prop where
  dim : s'.dim = s.dim
  M : s'.M = s.M
  efC : s'.efC = s.efC
  efS : s'.efS = s.efS
  maxLevel : s'.maxLevel = s.maxLevel
  entry : s'.entry = s.entry
  deleted : s'.deleted = s.deleted
  nodes : ∀ j, (s.nodes.get? j = none ∧ s'.nodes.get? j = none) ∨
    ∃ n n', s.nodes.get? j = some n ∧ s'.nodes.get? j = some n' ∧ n'.vec = n.vec ∧
      n'.level = n.level ∧ n'.edges.length = n.edges.length

theorem Shape.refl (s : State V) : Shape s s :=
  ⟨rfl, rfl, rfl, rfl, rfl, rfl, rfl, fun j => by
    cases h : s.nodes.get? j with
    | none => exact Or.inl ⟨rfl, rfl⟩
    | some n => exact Or.inr ⟨n, n, rfl, rfl, rfl, rfl, rfl⟩⟩

theorem Shape.trans {a b c : State V} (h1 : Shape a b) (h2 : Shape b c) : Shape a c := by
  refine ⟨h2.dim.trans h1.dim, h2.M.trans h1.M, h2.efC.trans h1.efC, h2.efS.trans h1.efS,
    h2.maxLevel.trans h1.maxLevel, h2.entry.trans h1.entry, h2.deleted.trans h1.deleted, ?_⟩
  intro j
  rcases h1.nodes j with ⟨ha, hb⟩ | ⟨n, n', ha, hb, hv, hl, he⟩
  · rcases h2.nodes j with ⟨_, hc⟩ | ⟨m1, _, hb', _⟩
    · exact Or.inl ⟨ha, hc⟩
    · rw [hb] at hb'; cases hb'
  · rcases h2.nodes j with ⟨hb', _⟩ | ⟨m1, m2, hb', hc, hv', hl', he'⟩
    · rw [hb] at hb'; cases hb'
    · rw [hb] at hb'; cases hb'
      exact Or.inr ⟨n, m2, ha, hc, hv'.trans hv, hl'.trans hl, he'.trans he⟩

theorem Shape.contains {s s' : State V} (h : Shape s s') (j : Id) :
    s'.nodes.contains j = s.nodes.contains j := by
  rcases h.nodes j with ⟨ha, hb⟩ | ⟨n, n', ha, hb, _⟩ <;> simp [IdMap.contains, ha, hb]

theorem isDeleted_congr {s s' : State V} (h : s'.deleted = s.deleted) (j : Id) :
    isDeleted s' j = isDeleted s j := by
  simp [isDeleted, h]

theorem Shape.isDeleted {s s' : State V} (h : Shape s s') (j : Id) :
    isDeleted s' j = isDeleted s j :=
  isDeleted_congr h.deleted j

theorem Shape.live {s s' : State V} (h : Shape s s') (j : Id) : Live s' j ↔ Live s j := by
  simp [Live, h.contains, h.isDeleted]

theorem Shape.count {s s' : State V} (h : Shape s s') : s'.nodes.count = s.nodes.count :=
  (IdMap.keys_perm h.contains).length_eq

theorem setList_shape (s : State V) (i : Id) (lc : Nat) (l : List Id) : Shape s (setList s i lc l) := by
  unfold setList
  cases h : s.nodes.get? i with
  | none => exact Shape.refl s
  | some n =>
    refine ⟨rfl, rfl, rfl, rfl, rfl, rfl, rfl, ?_⟩
    intro j
    simp only [IdMap.get?_set]
    by_cases hij : i = j
    · subst hij
      exact Or.inr ⟨n, n.setEdges lc l, h, by simp, rfl, rfl, by simp [Node.setEdges]⟩
    · simp only [hij, if_false]
      cases h' : s.nodes.get? j with
      | none => exact Or.inl ⟨rfl, rfl⟩
      | some n' => exact Or.inr ⟨n', n', rfl, rfl, rfl, rfl, rfl⟩

theorem nbrsAt_setList_ne (s : State V) (i : Id) (lc : Nat) (l : List Id) (l' : Nat) (j : Id)
    (h : ¬ (j = i ∧ l' = lc)) : nbrsAt (setList s i lc l) l' j = nbrsAt s l' j := by
  unfold setList
  cases hn : s.nodes.get? i with
  | none => rfl
  | some n =>
    simp only [nbrsAt, IdMap.get?_set]
    by_cases hij : i = j
    · subst hij
      have hl : l' ≠ lc := fun hh => h ⟨rfl, hh⟩
      simp only [if_true, hn, Node.setEdges]
      rw [List.getElem?_set_ne (Ne.symm hl)]
    · simp [hij]

theorem nbrsAt_setList_eq (s : State V) (i : Id) (lc : Nat) (l : List Id) (n : Node V)
    (hn : s.nodes.get? i = some n) (hlc : lc < n.edges.length) :
    nbrsAt (setList s i lc l) lc i = l := by
  simp only [setList, hn, nbrsAt, IdMap.get?_set, if_true, Node.setEdges]
  rw [List.getElem?_set_self hlc]
  rfl

theorem setList_get?_ne (s : State V) (i : Id) (lc : Nat) (l : List Id) (j : Id) (h : i ≠ j) :
    (setList s i lc l).nodes.get? j = s.nodes.get? j := by
  unfold setList
  cases hn : s.nodes.get? i with
  | none => rfl
  | some n => simp [IdMap.get?_set, h]

theorem setList_eq (s : State V) (i : Id) (lc : Nat) (l : List Id) (n : Node V)
    (hn : s.nodes.get? i = some n) :
    setList s i lc l = { s with nodes := s.nodes.set i (n.setEdges lc l) } := by
  simp [setList, hn]

theorem setList_get?_self (s : State V) (i : Id) (lc : Nat) (l : List Id) (n : Node V)
    (hn : s.nodes.get? i = some n) : (setList s i lc l).nodes.get? i = some (n.setEdges lc l) := by
  simp [setList, hn, IdMap.get?_set]

section
variable (m : Metric V S)

/-- `pruneConnections` replaces one list by a sub-selection of it -/
theorem prune_spec {s s' : State V} {i : Id} {lc M' : Nat} (h : prune m s i lc M' = .ok s') :
    ∃ n el keep, s.nodes.get? i = some n ∧ n.edges[lc]? = some el ∧ (∀ t ∈ keep, t ∈ el) ∧
      s' = setList s i lc keep := by
  cases hn : node! s i with
  | error e => simp [prune, hn] at h
  | ok n =>
    have hn' := node!_eq hn
    cases he : n.edges[lc]? with
    | none => simp [prune, hn, he] at h
    | some el =>
      simp only [prune, hn, he, Except.ok.injEq] at h
      -- the kept list is read off the code
      refine ⟨n, el, _, hn', he, ?_, by rw [← h, setList_eq _ _ _ _ _ hn']⟩
      intro t ht
      obtain ⟨hit, hh, rfl⟩ := List.mem_map.1 ht
      have hh' := (sortAsc_perm m.sc.lt _).mem_iff.1 (List.mem_of_mem_take hh)
      obtain ⟨nid, hnid, hsome⟩ := List.mem_filterMap.1 hh'
      split at hsome
      · cases hsome
      · simp only [Option.some.injEq] at hsome
        rw [← hsome]; exact hnid

theorem Shape.levelOf {s s' : State V} (h : Shape s s') (j : Id) : levelOf s' j = levelOf s j := by
  rcases h.nodes j with ⟨ha, hb⟩ | ⟨n, n', ha, hb, _, hl, _⟩
  · simp [HNSW.levelOf, ha, hb]
  · simp [HNSW.levelOf, ha, hb, hl]

/-- the effect of one iteration of the linking loop (`registerFirst = true`, the order of
    fix fb5d06f: the new vertex `x` is registered, `nx` is its node): shape, read-back of `x`,
    `nb` resident, the frame; then `x` gains `nb`; every member of a list afterwards is an old
    member, `x` or `nb`; `nb` gains `x` while its list fits.  The bound on members also covers
    a self link `x = nb` (the model has it, after a re-add), so that the bound in
    `linkAll_spec` needs no hypothesis on the neighbours. -/
theorem linkOne_spec {s s' : State V} {x nb : Id} {nx nx' : Node V} {lc M' : Nat}
    (hsync : s.nodes.get? x = some nx)
    (h : linkOne m true s x nx lc M' nb = .ok (s', nx')) :
    Shape s s' ∧ s'.nodes.get? x = some nx' ∧ s.nodes.contains nb = true ∧
    (∀ l j, ¬ ((j = x ∨ j = nb) ∧ l = lc) → nbrsAt s' l j = nbrsAt s l j) ∧
    (x ≠ nb → nbrsAt s' lc x = nbrsAt s lc x ++ [nb]) ∧
    (∀ j, ∀ t ∈ nbrsAt s' lc j, t ∈ nbrsAt s lc j ∨ t = x ∨ t = nb) ∧
    (x ≠ nb → (nbrsAt s lc nb).length + 1 ≤ M' → lc ≤ levelOf s nb →
      nbrsAt s' lc nb = nbrsAt s lc nb ++ [x]) := by
  simp only [linkOne, if_true] at h
  cases hex : nx.edges[lc]? with
  | none => simp only [hex, reduceCtorEq] at h
  | some ex =>
  simp only [hex] at h
  -- `s1`: `nb` appended to the list of `x` (the model's record update, folded into `setList`)
  have hex' : nbrsAt s lc x = ex := by simp [nbrsAt, hsync, hex]
  have sh1 := setList_shape s x lc (ex ++ [nb])
  have hx1 := setList_get?_self s x lc (ex ++ [nb]) nx hsync
  have hxl1 := nbrsAt_setList_eq s x lc (ex ++ [nb]) nx hsync (List.getElem?_eq_some_iff.1 hex).1
  have hfr1 := nbrsAt_setList_ne s x lc (ex ++ [nb])
  rw [← setList_eq s x lc (ex ++ [nb]) nx hsync] at h
  generalize hs1 : setList s x lc (ex ++ [nb]) = s1 at h sh1 hx1 hxl1 hfr1
  -- the rest only replaces the list of `nb`, by `Lf`
  obtain ⟨Lf, sh, hsync', hres, hfr, hLf, hsub, hfit⟩ : ∃ Lf, Shape s1 s' ∧
      s'.nodes.get? x = some nx' ∧ s1.nodes.contains nb = true ∧
      (∀ l j, ¬ (j = nb ∧ l = lc) → nbrsAt s' l j = nbrsAt s1 l j) ∧ nbrsAt s' lc nb = Lf ∧
      (∀ t ∈ Lf, t ∈ nbrsAt s1 lc nb ∨ t = x) ∧
      (lc ≤ levelOf s1 nb → (nbrsAt s1 lc nb).length + 1 ≤ M' → Lf = nbrsAt s1 lc nb ++ [x]) := by
    -- `x` stays resident, so the node read back through `idx.nodes[x]` is its node
    -- (`d`, the model's default for a missing `x`, never matters)
    have hback : ∀ t : State V, Shape s1 t → ∀ d : Node V,
        t.nodes.get? x = some (match t.nodes.get? x with | some n => n | none => d) := by
      intro t sh d
      rcases sh.nodes x with ⟨ha, _⟩ | ⟨_, n', _, hb, _⟩
      · rw [hx1] at ha; cases ha
      · rw [hb]
    cases hnb : node! s1 nb with
    | error e => simp only [hnb, reduceCtorEq] at h
    | ok nbNode =>
    simp only [hnb] at h
    have hnb' := node!_eq hnb
    have hres : s1.nodes.contains nb = true := IdMap.contains_iff.2 ⟨nbNode, hnb'⟩
    have hlev1 : levelOf s1 nb = nbNode.level := by simp [levelOf, hnb']
    by_cases hlev : lc ≤ nbNode.level
    case neg =>
      -- `nb` does not have this layer: nothing else happens
      rw [if_neg hlev] at h
      simp only [Except.ok.injEq, Prod.mk.injEq] at h
      obtain ⟨rfl, rfl⟩ := h
      exact ⟨nbrsAt s1 lc nb, Shape.refl s1, hx1, hres, fun _ _ _ => rfl, rfl, fun t ht => Or.inl ht,
        fun hl _ => absurd (hlev1 ▸ hl) hlev⟩
    rw [if_pos hlev] at h
    cases henb : nbNode.edges[lc]? with
    | none => simp only [henb, reduceCtorEq] at h
    | some enb =>
    simp only [henb] at h
    -- `s2`: `x` appended to the list of `nb`
    have henb1 : nbrsAt s1 lc nb = enb := by simp [nbrsAt, hnb', henb]
    have sh2 := setList_shape s1 nb lc (enb ++ [x])
    have hl2 := nbrsAt_setList_eq s1 nb lc (enb ++ [x]) nbNode hnb' (List.getElem?_eq_some_iff.1 henb).1
    have hfr2 := nbrsAt_setList_ne s1 nb lc (enb ++ [x])
    have hs2 : ({ s with
        nodes := (s.nodes.set x (nx.setEdges lc (ex ++ [nb]))).set nb (nbNode.setEdges lc (enb ++ [x])) } :
        State V) = setList s1 nb lc (enb ++ [x]) := by
      rw [← hs1, setList_eq _ nb _ _ nbNode (hs1 ▸ hnb'), setList_eq _ _ _ _ _ hsync]
    have hs2n : (s.nodes.set x (nx.setEdges lc (ex ++ [nb]))).set nb (nbNode.setEdges lc (enb ++ [x])) =
        (setList s1 nb lc (enb ++ [x])).nodes := by rw [← hs2]
    rw [hs2, hs2n] at h
    generalize setList s1 nb lc (enb ++ [x]) = s2 at h sh2 hl2 hfr2
    have hmem : ∀ t ∈ enb ++ [x], t ∈ nbrsAt s1 lc nb ∨ t = x := by
      intro t ht
      rw [henb1]
      simpa using ht
    by_cases hover : (enb ++ [x]).length > M'
    case neg =>
      rw [if_neg hover] at h
      simp only [Except.ok.injEq, Prod.mk.injEq] at h
      obtain ⟨rfl, rfl⟩ := h
      exact ⟨enb ++ [x], sh2, hback _ sh2 _, hres, hfr2, hl2, hmem, fun _ _ => by rw [henb1]⟩
    -- overflow: `s3`, the list of `nb` pruned to a sub-selection `keep`
    rw [if_pos hover] at h
    cases hpr : prune m s2 nb lc M' with
    | error e => simp only [hpr, reduceCtorEq] at h
    | ok s3 =>
    simp only [hpr, Except.ok.injEq, Prod.mk.injEq] at h
    obtain ⟨rfl, rfl⟩ := h
    obtain ⟨n2, el, keep, hn2, hel, hkeep, rfl⟩ := prune_spec m hpr
    have hel' : enb ++ [x] = el := by rw [← hl2]; simp [nbrsAt, hn2, hel]
    have sh3 := sh2.trans (setList_shape s2 nb lc keep)
    refine ⟨keep, sh3, hback _ sh3 _, hres, fun l j hj => ?frame,
      nbrsAt_setList_eq s2 nb lc keep n2 hn2 (List.getElem?_eq_some_iff.1 hel).1,
      fun t ht => hmem t (hel' ▸ hkeep t ht), fun _ hfit => ?fits⟩
    case frame => rw [nbrsAt_setList_ne s2 nb lc keep l j hj, hfr2 l j hj]
    case fits =>
      rw [List.length_append, ← henb1] at hover
      exact absurd hover (Nat.not_lt.2 hfit)
  have hnb1 : x ≠ nb → nbrsAt s1 lc nb = nbrsAt s lc nb :=
    fun hne => hfr1 lc nb (fun hh => hne hh.1.symm)
  have hframe : ∀ l j, ¬ ((j = x ∨ j = nb) ∧ l = lc) → nbrsAt s' l j = nbrsAt s l j := fun l j hj => by
    rw [hfr l j (fun hh => hj ⟨Or.inr hh.1, hh.2⟩), hfr1 l j (fun hh => hj ⟨Or.inl hh.1, hh.2⟩)]
  have hxl : x ≠ nb → nbrsAt s' lc x = nbrsAt s lc x ++ [nb] := fun hne => by
    rw [hfr lc x (fun hh => hne hh.1), hxl1, hex']
  refine ⟨sh1.trans sh, hsync', sh1.contains nb ▸ hres, hframe, hxl, fun j t ht => ?bound,
    fun hne hfit' hlev => ?nbGains⟩
  case nbGains => rw [hLf, hfit (sh1.levelOf nb ▸ hlev) (hnb1 hne ▸ hfit'), hnb1 hne]
  case bound =>
    by_cases hjn : j = nb
    · rw [hjn, hLf] at ht
      rw [hjn]
      rcases hsub t ht with h1 | h1
      · by_cases hne : x = nb
        · -- a self link: `nb`'s list in `s1` is the list of `x` that was just extended
          subst hne
          rw [hxl1, ← hex'] at h1
          rcases List.mem_append.1 h1 with h2 | h2
          · exact Or.inl h2
          · exact Or.inr (Or.inr (by simpa using h2))
        · exact Or.inl (hnb1 hne ▸ h1)
      · exact Or.inr (Or.inl h1)
    · by_cases hjx : j = x
      · rw [hjx] at ht hjn ⊢
        rw [hxl hjn] at ht
        exact (List.mem_append.1 ht).imp_right fun h2 => Or.inr (by simpa using h2)
      · exact Or.inl (hframe lc j (fun hh => hh.1.elim hjx hjn) ▸ ht)

/-- the whole linking loop on layer `lc`: its frame, and its exact effect while no neighbour
    list overflows -/
theorem linkAll_spec {x : Id} {lc M' : Nat} {nbs : List Id} {s s' : State V} {nx nx' : Node V}
    (hsync : s.nodes.get? x = some nx) (h : linkAll m true x lc M' nbs (s, nx) = .ok (s', nx')) :
    Shape s s' ∧ s'.nodes.get? x = some nx' ∧ (∀ nb ∈ nbs, s.nodes.contains nb = true) ∧
    (∀ l j, l ≠ lc → nbrsAt s' l j = nbrsAt s l j) ∧
    (∀ j t, t ∈ nbrsAt s' lc j → t ∈ nbrsAt s lc j ∨ t = x ∨ t ∈ nbs) ∧
    (nbs.Nodup → x ∉ nbs → (∀ nb ∈ nbs, lc ≤ levelOf s nb ∧ (nbrsAt s lc nb).length + 1 ≤ M') →
      nbrsAt s' lc x = nbrsAt s lc x ++ nbs ∧
      (∀ nb ∈ nbs, nbrsAt s' lc nb = nbrsAt s lc nb ++ [x]) ∧
      (∀ j, j ≠ x → j ∉ nbs → nbrsAt s' lc j = nbrsAt s lc j)) := by
  induction nbs generalizing s nx with
  | nil =>
    simp only [linkAll, Except.ok.injEq, Prod.mk.injEq] at h
    obtain ⟨rfl, rfl⟩ := h
    exact ⟨Shape.refl s, hsync, by simp, fun _ _ _ => rfl, fun _ _ ht => Or.inl ht, fun _ _ _ => by simp⟩
  | cons nb rest ih =>
    simp only [linkAll] at h
    split at h
    · cases h
    · next acc hone =>
      obtain ⟨s1, nx1⟩ := acc
      obtain ⟨sh1, hsync1, hres1, hfr1, hx1, hsub1, hnb1⟩ := linkOne_spec m hsync hone
      obtain ⟨sh2, hsync2, hres2, hfr2, hsub2, hexact⟩ := ih hsync1 h
      refine ⟨sh1.trans sh2, hsync2, ?_, ?_, ?_, fun hnd hx hfit => ?_⟩
      · intro nb' hnb'
        rcases List.mem_cons.1 hnb' with rfl | hnb'
        · exact hres1
        · rw [← sh1.contains]; exact hres2 nb' hnb'
      · intro l j hl
        rw [hfr2 l j hl, hfr1 l j (fun hh => hl hh.2)]
      · intro j t ht
        rcases hsub2 j t ht with h1 | h1 | h1
        · rcases hsub1 j t h1 with h2 | h2 | h2
          · exact Or.inl h2
          · exact Or.inr (Or.inl h2)
          · exact Or.inr (Or.inr (by simp [h2]))
        · exact Or.inr (Or.inl h1)
        · exact Or.inr (Or.inr (List.mem_cons_of_mem _ h1))
      · have hxnb : x ≠ nb := fun hh => hx (by simp [hh])
        have hnd' := List.nodup_cons.1 hnd
        have hout : ∀ j, j ≠ x → j ≠ nb → nbrsAt s1 lc j = nbrsAt s lc j :=
          fun j h1 h2 => hfr1 lc j (fun hh => hh.1.elim h1 h2)
        have hrest : ∀ nb' ∈ rest, nb' ≠ x ∧ nb' ≠ nb :=
          fun nb' hnb' => ⟨fun hh => hx (hh ▸ List.mem_cons_of_mem _ hnb'), fun hh => hnd'.1 (hh ▸ hnb')⟩
        obtain ⟨h1, h2, h3⟩ := hexact hnd'.2 (fun hh => hx (List.mem_cons_of_mem _ hh))
          (fun nb' hnb' => by
            rw [sh1.levelOf, hout nb' (hrest nb' hnb').1 (hrest nb' hnb').2]
            exact hfit nb' (List.mem_cons_of_mem _ hnb'))
        have hfitnb := hfit nb (by simp)
        refine ⟨?_, ?_, ?_⟩
        · rw [h1, hx1 hxnb]; simp
        · intro nb' hnb'
          rcases List.mem_cons.1 hnb' with rfl | hnb'
          · rw [h3 nb' (Ne.symm hxnb) hnd'.1, hnb1 hxnb hfitnb.2 hfitnb.1]
          · rw [h2 nb' hnb', hout nb' (hrest nb' hnb').1 (hrest nb' hnb').2]
        · intro j hjx hj
          rw [h3 j hjx (fun hh => hj (List.mem_cons_of_mem _ hh)), hout j hjx (fun hh => hj (by simp [hh]))]

theorem selectNeighbors_sub (lt : S → S → Bool) (cands : List (Hit S)) (M' : Nat) :
    ∀ i ∈ selectNeighbors lt cands M', i ∈ cands.map (·.id) := by
  intro i hi
  simp only [selectNeighbors] at hi
  split at hi
  · exact hi
  · obtain ⟨c, hc, rfl⟩ := List.mem_map.1 hi
    exact List.mem_map.2 ⟨c, (sortAsc_perm lt cands).mem_iff.1 (List.mem_of_mem_take hc), rfl⟩

theorem selectNeighbors_nodup (lt : S → S → Bool) (cands : List (Hit S)) (M' : Nat)
    (h : (cands.map (·.id)).Nodup) : (selectNeighbors lt cands M').Nodup := by
  simp only [selectNeighbors]
  split
  · exact h
  · have hp : ((sortAsc lt cands).map (·.id)).Nodup := ((sortAsc_perm lt cands).map _).nodup_iff.2 h
    exact hp.sublist ((List.take_sublist _ _).map _)

theorem selectNeighbors_all (lt : S → S → Bool) (cands : List (Hit S)) (M' : Nat)
    (h : cands.length ≤ M') : selectNeighbors lt cands M' = cands.map (·.id) := by
  simp [selectNeighbors, h]

theorem reach_ne {s : State V} {layer : Nat} {curr x : Id} (hcurr : curr ≠ x)
    (hno : ∀ j, x ∉ nbrsAt s layer j) : ∀ v, Reach (nbrsAt s layer) curr v → v ≠ x := by
  intro v hv
  induction hv with
  | refl => exact hcurr
  | step _ hw _ =>
    intro hh
    subst hh
    exact hno _ hw

theorem insertLayers_shape {x : Id} {q : V} {ls : List Nat} {t t' : State V} {nx nx' : Node V} {curr : Id}
    (hsync : t.nodes.get? x = some nx) (h : insertLayers m true x q ls (t, nx, curr) = .ok (t', nx')) :
    Shape t t' ∧ t'.nodes.get? x = some nx' := by
  induction ls generalizing t nx curr with
  | nil =>
    simp only [insertLayers, Except.ok.injEq, Prod.mk.injEq] at h
    obtain ⟨rfl, rfl⟩ := h
    exact ⟨Shape.refl t, hsync⟩
  | cons lc rest ih =>
    simp only [insertLayers] at h
    split at h
    · cases h
    · split at h
      · cases h
      · next t1 nx1 hlink =>
        obtain ⟨sh1, hsync1, _⟩ := linkAll_spec m hsync hlink
        obtain ⟨sh2, hsync2⟩ := ih hsync1 h
        exact ⟨sh1.trans sh2, hsync2⟩

/-! ### the layer loop of insertNode in the small regime -/

/-- hypotheses on the state right after the new vertex `x` has been registered
    (`idx.nodes[id] = node`), before `insertNode` links it -/
structure Pre (t0 : State V) (x : Id) : Prop where
  x_res : t0.nodes.contains x = true
  x_live : isDeleted t0 x = false
  x_empty : ∀ l, nbrsAt t0 l x = []
  -- `x` is fresh: no list names it yet
  no_in : ∀ l j, x ∉ nbrsAt t0 l j
  -- every edge, on every layer, points to a resident vertex
  resolves : ∀ l j w, w ∈ nbrsAt t0 l j → t0.nodes.contains w = true
  -- no duplicate, no self-loop: the lengths of these lists are counted against `2M`
  l0 : ∀ j, t0.nodes.contains j = true → (nbrsAt t0 0 j).Nodup ∧ j ∉ nbrsAt t0 0 j
  -- layer 0 is complete on the old live vertices
  comp : ∀ u v, Live t0 u → u ≠ x → Live t0 v → v ≠ x → u ≠ v → v ∈ nbrsAt t0 0 u
  -- `x` included, so ≤ 2M old residents, 2M being the layer-0 cap (`M *= 2`): `selectNeighbors`
  -- keeps every candidate and no old list exceeds the cap with `x` appended (no `pruneConnections`)
  small : t0.nodes.count ≤ 2 * t0.M + 1
  -- `x` included, so ≤ efConstruction old residents, efConstruction being the `ef` of
  -- `insertNode`'s `searchLayer`: on layer 0 it returns ALL old live vertices
  efOK : t0.nodes.count ≤ t0.efC + 1

/-- layer 0 after the new vertex has been linked on it -/
structure L0Final (t0 t : State V) (x : Id) : Prop where
  x_nodup : (nbrsAt t 0 x).Nodup
  x_mem : ∀ v, v ∈ nbrsAt t 0 x ↔ (Live t0 v ∧ v ≠ x)
  back : ∀ v, Live t0 v → v ≠ x → nbrsAt t 0 v = nbrsAt t0 0 v ++ [x]
  rest : ∀ j, j ≠ x → ¬ Live t0 j → nbrsAt t 0 j = nbrsAt t0 0 j

/-- loop invariant of `for lc := node.Level; lc >= 0; lc--`; `ls` = layers still to do -/
structure J (t0 t : State V) (x : Id) (nx : Node V) (curr : Id) (ls : List Nat) : Prop where
  shape : Shape t0 t
  sync : t.nodes.get? x = some nx
  resolves : ∀ l j w, w ∈ nbrsAt t l j → t.nodes.contains w = true
  untouched : ∀ l ∈ ls, ∀ j, nbrsAt t l j = nbrsAt t0 l j
  curr_ok : Live t0 curr ∧ curr ≠ x
  l0b : 0 ∉ ls → L0Final t0 t x

theorem head_ok (P : Id → Prop) (cands : List (Hit S)) (curr : Id)
    (hc : ∀ c ∈ cands, P c.id) (h0 : P curr) :
    P (match (generalizing := false) cands with | c :: _ => c.id | [] => curr) := by
  cases cands with
  | nil => exact h0
  | cons c _ => exact hc c (by simp)

theorem old_card (t0 : State V) (x : Id) (hx : t0.nodes.contains x = true) (l : List Id)
    (hnd : l.Nodup) (hsub : ∀ v ∈ l, t0.nodes.contains v = true ∧ v ≠ x) :
    l.length + 1 ≤ t0.nodes.count := by
  have hsp : (x :: l).Subperm t0.nodes.keys := by
    refine List.subperm_of_subset (List.nodup_cons.2 ⟨fun hh => (hsub x hh).2 rfl, hnd⟩) ?_
    intro v hv
    rcases List.mem_cons.1 hv with rfl | hv
    · exact IdMap.mem_keys.2 hx
    · exact IdMap.mem_keys.2 (hsub v hv).1
  simpa [IdMap.count] using hsp.length_le

theorem insertLayers_inv {t0 : State V} {x : Id} {q : V} (hpre : Pre t0 x)
    {ls : List Nat} {t t' : State V} {nx nx' : Node V} {curr : Id} (hnd : ls.Nodup)
    (hJ : J t0 t x nx curr ls) (h : insertLayers m true x q ls (t, nx, curr) = .ok (t', nx')) :
    ∃ curr', J t0 t' x nx' curr' [] := by
  induction ls generalizing t nx curr with
  | nil =>
    simp only [insertLayers, Except.ok.injEq, Prod.mk.injEq] at h
    obtain ⟨rfl, rfl⟩ := h
    exact ⟨curr, hJ⟩
  | cons lc rest ih =>
    have hnd' := List.nodup_cons.1 hnd
    simp only [insertLayers] at h
    split at h
    · cases h
    · next cands hsl =>
      split at h
      · cases h
      · next t1 nx1 hlink =>
        obtain ⟨hs1, hs2⟩ := searchLayer_sound cands hsl
        have hnoin : ∀ j, x ∉ nbrsAt t lc j := fun j => hJ.untouched lc (by simp) j ▸ hpre.no_in lc j
        have hcne : ∀ c ∈ cands, Live t0 c.id ∧ c.id ≠ x := by
          intro c hc
          obtain ⟨hR, hdel, n, hn, _⟩ := hs1 c hc
          exact ⟨(hJ.shape.live _).1 ⟨IdMap.contains_iff.2 ⟨n, hn⟩, hdel⟩, reach_ne hJ.curr_ok.2 hnoin _ hR⟩
        simp only [beq_iff_eq] at hlink
        generalize hM' : (if lc = 0 then t.M * 2 else t.M) = M' at hlink
        have hnsub := selectNeighbors_sub m.sc.lt cands M'
        have hnnd := selectNeighbors_nodup m.sc.lt cands M' hs2
        have hnok : ∀ nb ∈ selectNeighbors m.sc.lt cands M', Live t0 nb ∧ nb ≠ x := by
          intro nb hnb
          obtain ⟨c, hc, rfl⟩ := List.mem_map.1 (hnsub nb hnb)
          exact hcne c hc
        obtain ⟨sh1, hsync1, _, hfr1, hsub1, hexact⟩ := linkAll_spec m hJ.sync hlink
        have hcurr' := head_ok (fun i => Live t0 i ∧ i ≠ x) cands curr hcne hJ.curr_ok
        refine ih hnd'.2 ?_ h
        have hxres : t1.nodes.contains x = true := IdMap.contains_iff.2 ⟨nx1, hsync1⟩
        refine ⟨hJ.shape.trans sh1, hsync1, ?resolves, ?untouched, hcurr', ?l0b⟩
        case resolves =>
          intro l j w hw
          by_cases hl : l = lc
          · subst hl
            rcases hsub1 j w hw with h1 | h1 | h1
            · rw [sh1.contains]; exact hJ.resolves _ _ _ h1
            · rw [h1]; exact hxres
            · rw [(hJ.shape.trans sh1).contains]; exact (hnok w h1).1.1
          · rw [hfr1 l j hl] at hw
            rw [sh1.contains]; exact hJ.resolves _ _ _ hw
        case untouched =>
          intro l hl j
          rw [hfr1 l j (fun hh => hnd'.1 (hh ▸ hl))]
          exact hJ.untouched l (List.mem_cons_of_mem _ hl) j
        case l0b =>
          intro h0
          by_cases hlc : lc = 0
          · -- this is the bottom layer: exact effect
            subst hlc
            have hl0 := hJ.untouched 0 (by simp)
            have hM2 : M' = t0.M * 2 := by rw [← hM']; simp [hJ.shape.M]
            -- the candidates are exactly the old live vertices
            have hRold : ∀ v, RL t 0 curr v → t0.nodes.contains v = true ∧ v ≠ x := by
              intro v hv
              refine ⟨?_, reach_ne hJ.curr_ok.2 hnoin v hv⟩
              induction hv with
              | refl => exact hJ.curr_ok.1.1
              | step _ hw _ => rw [← hJ.shape.contains]; exact hJ.resolves _ _ _ hw
            have holdR : ∀ v, Live t0 v → v ≠ x → RL t 0 curr v := by
              intro v hv hvx
              by_cases hvc : curr = v
              · subst hvc; exact Reach.refl
              · refine Reach.step Reach.refl ?_
                rw [hl0]
                exact hpre.comp curr v hJ.curr_ok.1 hJ.curr_ok.2 hv hvx hvc
            -- cover for completeness: the old live ids
            have hcov : ∀ v, RL t 0 curr v → isDeleted t v = false → v ∈ (liveIds t0).erase x := by
              intro v hv hvd
              obtain ⟨h1, h2⟩ := hRold v hv
              exact (List.mem_erase_of_ne h2).2 (mem_liveIds.2 ⟨h1, by rw [← hJ.shape.isDeleted]; exact hvd⟩)
            have hxl : x ∈ liveIds t0 := mem_liveIds.2 ⟨hpre.x_res, hpre.x_live⟩
            have hlen : ((liveIds t0).erase x).length ≤ t.efC := by
              rw [List.length_erase_of_mem hxl, hJ.shape.efC]
              exact Nat.sub_le_of_le_add (Nat.le_trans (liveIds_length_le t0) hpre.efOK)
            have hall := searchLayer_complete _ hcov hlen cands hsl
            -- a list of old residents has at most 2M members
            have hroom : ∀ n, n + 1 ≤ t0.nodes.count → n ≤ M' := fun n hn => by
              rw [hM2, Nat.mul_comm]; exact Nat.le_of_succ_le_succ (Nat.le_trans hn hpre.small)
            -- the candidates are distinct old residents, so `selectNeighbors` keeps them all
            have hcl : cands.length + 1 ≤ t0.nodes.count := by
              have := old_card t0 x hpre.x_res (cands.map (·.id)) hs2 (by
                intro v hv
                obtain ⟨c, hc, rfl⟩ := List.mem_map.1 hv
                exact ⟨(hcne c hc).1.1, (hcne c hc).2⟩)
              simpa using this
            have hsel : selectNeighbors m.sc.lt cands M' = cands.map (·.id) :=
              selectNeighbors_all m.sc.lt cands M' (hroom _ hcl)
            rw [hsel] at hexact hnnd hnok
            -- no list overflows
            have hfit : ∀ nb ∈ cands.map (·.id), 0 ≤ levelOf t nb ∧ (nbrsAt t 0 nb).length + 1 ≤ M' := by
              intro nb hnb
              refine ⟨Nat.zero_le _, ?_⟩
              obtain ⟨hnl, hnx⟩ := hnok nb hnb
              rw [hl0]
              have hwf := hpre.l0 nb hnl.1
              -- `nb` and its old neighbours are distinct old residents
              have hcard : (nbrsAt t0 0 nb).length + 2 ≤ t0.nodes.count :=
                old_card t0 x hpre.x_res (nb :: nbrsAt t0 0 nb) (List.nodup_cons.2 ⟨hwf.2, hwf.1⟩) (by
                  intro v hv
                  rcases List.mem_cons.1 hv with rfl | hv
                  · exact ⟨hnl.1, hnx⟩
                  · exact ⟨hpre.resolves _ _ _ hv, fun hh => hpre.no_in 0 nb (hh ▸ hv)⟩)
              exact hroom _ hcard
            obtain ⟨hxs, hnbs, hothers⟩ := hexact hnnd (fun hh => (hnok x hh).2 rfl) hfit
            have hmemc : ∀ v, v ∈ cands.map (·.id) ↔ (Live t0 v ∧ v ≠ x) := by
              refine fun v => ⟨hnok v, ?_⟩
              rintro ⟨h1, h2⟩; exact hall v (holdR v h1 h2) (by rw [hJ.shape.isDeleted]; exact h1.2)
            refine ⟨?x_nodup, fun v => ?x_mem, fun v hv hvx => ?back, fun j hjx hj => ?rest⟩
            case x_nodup => rw [hxs, hl0, hpre.x_empty]; simpa using hnnd
            case x_mem =>
              rw [hxs, hl0, hpre.x_empty]
              simpa using hmemc v
            case back => rw [hnbs v ((hmemc v).2 ⟨hv, hvx⟩), hl0]
            case rest => rw [hothers j hjx (fun hh => hj ((hmemc j).1 hh).1), hl0]
          · -- an upper layer: layer 0 is untouched
            have hne : 0 ≠ lc := fun hh => hlc hh.symm
            have hf := hJ.l0b fun hh => (List.mem_cons.1 hh).elim hne h0
            exact {
              x_nodup := by rw [hfr1 0 x hne]; exact hf.x_nodup
              x_mem := fun v => by rw [hfr1 0 x hne]; exact hf.x_mem v
              back := fun v hv hvx => by rw [hfr1 0 v hne]; exact hf.back v hv hvx
              rest := fun j hjx hj => by rw [hfr1 0 j hne]; exact hf.rest j hjx hj }

theorem insertNode_shape {t t' : State V} {x : Id} {nx nx' : Node V}
    (hsync : t.nodes.get? x = some nx) (h : insertNode m true t x nx = .ok (t', nx')) :
    Shape t t' := by
  simp only [insertNode] at h
  split at h
  · cases h
  · split at h
    · cases h
    · exact (insertLayers_shape m hsync h).1

/-- `insertNode` for a registered fresh vertex in the small regime: the greedy descent ends
    on an old live vertex (an old vertex has old neighbours only), then the layer loop runs -/
theorem insertNode_inv {t0 t' : State V} {x : Id} {v' : V} {level : Nat} {nx' : Node V}
    (hpre : Pre t0 x) (hsync : t0.nodes.get? x = some (Node.new v' level))
    (hentry : Live t0 t0.entry ∧ t0.entry ≠ x)
    (h : insertNode m true t0 x (Node.new v' level) = .ok (t', nx')) :
    ∃ curr', J t0 t' x nx' curr' [] := by
  simp only [insertNode] at h
  split at h
  · cases h
  · split at h
    · cases h
    · next curr cd hg =>
      have hcurr : Live t0 curr ∧ curr ≠ x :=
        greedyDescend_closed m t0 _ (fun i => Live t0 i ∧ i ≠ x)
          (fun u _ l w hw hwd hwr => ⟨⟨hwr, hwd⟩, fun hh => hpre.no_in l u (hh ▸ hw)⟩) _ (t0.entry, _) (curr, cd)
          hentry hg
      exact insertLayers_inv m hpre
        ((List.reverse_perm _).nodup_iff.2 List.nodup_range)
        ⟨Shape.refl t0, hsync, hpre.resolves, fun _ _ _ => rfl, hcurr, fun h0 => absurd (by simp) h0⟩ h

end
end Comet.HNSW
