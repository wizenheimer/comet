/-
  Helper lemmas for C11 (D): the invariant behind `add_never_fails_or_lost` and
  `rotation_partial` (model: Comet/Conc/Rotation.lean).
-/
import Comet.Conc.Rotation
namespace Comet.Conc.Rot

/-- `visibleDoc` as a proposition -/
def Vis (s : RSt) (d : Doc) : Prop :=
  d ∈ s.segments ∨ ∃ p ∈ s.contents, p.2 = d ∧ (p.1 = s.mutable ∨ p.1 ∈ s.frozenQ)

theorem visibleDoc_iff (s : RSt) (d : Doc) : visibleDoc s d = true ↔ Vis s d := by
  simp only [visibleDoc, Vis, Bool.or_eq_true, Bool.and_eq_true, List.any_eq_true,
    List.contains_iff_mem, beq_iff_eq]

theorem Vis.mono {s s' : RSt} {d : Doc} (v : Vis s d) (hs : s.segments ⊆ s'.segments)
    (hc : s.contents ⊆ s'.contents)
    (hq : ∀ m, m = s.mutable ∨ m ∈ s.frozenQ → m = s'.mutable ∨ m ∈ s'.frozenQ) : Vis s' d :=
  v.imp (hs ·) fun h => h.elim fun p h => ⟨p, hc h.1, h.2.1, hq _ h.2.2⟩

/-- the invariant; `quiet`: with the locked add no add is ever pending between regions -/
structure RGood (locked : Bool) (s : RSt) : Prop where
  quiet : locked = true → s.picked = [] ∧ s.checked = []
  -- an add between its regions (`locked = false`) holds the memtable that is still the mutable one
  pickMut : ∀ p ∈ s.picked, p.2.1 = s.mutable
  checkMut : ∀ p ∈ s.checked, p.2.1 = s.mutable
  ackVis : ∀ d ∈ s.acked, Vis s d
  -- a memtable between its segment write and its drop is frozen and wholly in `segments`
  curOK : ∀ p ∈ s.cur, p.2 < s.mutable ∧ ∀ d, (p.2, d) ∈ s.contents → d ∈ s.segments
  snapOld : ∀ p ∈ s.snaps, ∀ m ∈ p.2, m < s.mutable
  noFail : s.failed = []
  older : ∀ m ∈ s.frozenQ, m < s.mutable

variable {locked : Bool} {s : RSt}

theorem rgood_init : RGood locked {} :=
  ⟨fun _ => ⟨rfl, rfl⟩, List.forall_mem_nil _, List.forall_mem_nil _, List.forall_mem_nil _,
    List.forall_mem_nil _, List.forall_mem_nil _, rfl, List.forall_mem_nil _⟩

theorem rgood_rotate (g : RGood locked s) (h : s.picked = [] ∧ s.checked = []) :
    RGood locked (rotateSt s) := by
  refine { g with
    quiet := fun _ => h,
    pickMut := h.1 ▸ List.forall_mem_nil _,
    checkMut := h.2 ▸ List.forall_mem_nil _,
    ackVis := ?_, curOK := ?_, snapOld := ?_, older := ?_ }
  · intro d hd
    refine (g.ackVis d hd).mono (fun _ h => h) (fun _ h => h) fun m hm => .inr ?_
    exact hm.elim (· ▸ List.mem_append_right _ (List.mem_singleton_self _)) (List.mem_append_left _)
  · intro p hp
    exact ⟨Nat.lt_succ_of_lt (g.curOK p hp).1, (g.curOK p hp).2⟩
  · intro p hp m hm
    exact Nat.lt_succ_of_lt (g.snapOld p hp m hm)
  · exact List.forall_mem_append.2
      ⟨fun m hm => Nat.lt_succ_of_lt (g.older m hm), List.forall_mem_singleton.2 (Nat.lt_succ_self _)⟩

theorem rgood_write_mutable (g : RGood locked s) (d : Doc) (ck : List (Nat × Mt × Doc))
    (hck : ck ⊆ s.checked) :
    RGood locked { s with checked := ck, contents := s.contents ++ [(s.mutable, d)],
                          acked := d :: s.acked } := by
  refine { g with
    quiet := fun hl => ?_, checkMut := fun p hp => g.checkMut p (hck hp), ackVis := ?_,
    curOK := ?_ }
  · exact ⟨(g.quiet hl).1, List.subset_nil.1 ((g.quiet hl).2 ▸ hck)⟩
  · refine List.forall_mem_cons.2 ⟨?_, fun x hx => ?_⟩
    · exact .inr ⟨(s.mutable, d), List.mem_append_right _ (List.mem_singleton_self _), rfl, .inl rfl⟩
    · exact (g.ackVis x hx).mono (fun _ h => h) (List.subset_append_left ..) fun _ h => h
  · intro p hp
    refine ⟨(g.curOK p hp).1, fun d' hd' => ?_⟩
    rcases List.mem_append.1 hd' with hd' | hd'
    · exact (g.curOK p hp).2 d' hd'
    · -- a memtable being flushed is frozen, the write goes to the mutable one
      have e : p.2 = s.mutable := (Prod.mk.inj (List.mem_singleton.1 hd')).1
      exact absurd (g.curOK p hp).1 (e ▸ Nat.lt_irrefl _)

/-- `pick` on a state that needs no rotation, or after it: the add of the locked shape, the pick
    region of the three-region one (`locked = false`) -/
theorem rgood_pick (g : RGood locked s) (t : Nat) (d : Doc) :
    RGood locked
      (if locked then { s with contents := s.contents ++ [(s.mutable, d)], acked := d :: s.acked }
       else { s with picked := s.picked ++ [(t, s.mutable, d)] }) := by
  cases locked
  · exact { g with
      quiet := nofun,
      pickMut := List.forall_mem_append.2 ⟨g.pickMut, List.forall_mem_singleton.2 rfl⟩ }
  · exact rgood_write_mutable g d s.checked fun _ h => h

/-- one region keeps the invariant, if it does not rotate while an add is pending (which the
    locked shape excludes) -/
theorem rgood_step (g : RGood locked s) (a : RAct)
    (hrot : locked = true ∨ (match a with
      | .rotate => s.picked.isEmpty && s.checked.isEmpty
      | .pick _ _ true => s.picked.isEmpty && s.checked.isEmpty
      | _ => true) = true) : RGood locked (rstep locked s a) := by
  have hq (h : (s.picked.isEmpty && s.checked.isEmpty) = true) : s.picked = [] ∧ s.checked = [] :=
    (Bool.and_eq_true_iff.1 h).imp List.isEmpty_iff.1 List.isEmpty_iff.1
  cases a with
  | pick t d rot =>
    cases rot
    · exact rgood_pick g t d
    · exact rgood_pick (rgood_rotate g (hrot.elim g.quiet hq)) t d
  | rotate => exact rgood_rotate g (hrot.elim g.quiet hq)
  | check t =>
    -- head-normalise the step (rewriting with the equations of `rstep` is slow to check)
    conv => arg 2; whnf
    cases hf : s.picked.find? (·.1 == t) with
    | none => exact g
    | some p =>
      obtain ⟨t', m, d⟩ := p
      have hmem := List.mem_of_find?_eq_some hf
      have hm : m = s.mutable := g.pickMut _ hmem
      subst hm
      simp only [bne_self_eq_false, Bool.false_eq_true, ↓reduceIte]
      exact { g with
        quiet := fun hl => absurd hmem ((g.quiet hl).1 ▸ List.not_mem_nil),
        pickMut := fun p hp => g.pickMut p (List.mem_of_mem_erase hp),
        checkMut := List.forall_mem_append.2 ⟨g.checkMut, List.forall_mem_singleton.2 rfl⟩ }
  | write t =>
    conv => arg 2; whnf
    cases hf : s.checked.find? (·.1 == t) with
    | none => exact g
    | some p =>
      obtain ⟨t', m, d⟩ := p
      have hm : m = s.mutable := g.checkMut _ (List.mem_of_find?_eq_some hf)
      subst hm
      exact rgood_write_mutable g d _ fun _ h => List.mem_of_mem_erase h
  | flushSnap f =>
    show RGood locked (ite _ _ _)
    split
    · exact g
    · exact { g with snapOld := List.forall_mem_cons.2 ⟨g.older, g.snapOld⟩ }
  | flushWrite f =>
    show RGood locked (ite _ _ _)
    split
    · exact g
    · cases hf : s.snaps.find? (·.1 == f) with
      | none => exact g
      | some p =>
        have hold := g.snapOld _ (List.mem_of_find?_eq_some hf)
        have hrest (q) (hq : q ∈ s.snaps.erase p) := g.snapOld q (List.mem_of_mem_erase hq)
        obtain ⟨f', _ | ⟨m, rest⟩⟩ := p
        · exact { g with snapOld := hrest }
        · refine { g with
            ackVis := ?_, curOK := List.forall_mem_cons.2 ⟨⟨?_, ?_⟩, ?_⟩,
            snapOld := List.forall_mem_cons.2 ⟨fun m' hm' => hold m' (.tail _ hm'), hrest⟩ }
          · intro x hx
            exact (g.ackVis x hx).mono (List.subset_append_left ..) (fun _ h => h) fun _ h => h
          · exact hold m (List.mem_cons_self ..)
          · intro d hd
            refine List.mem_append_right _ (List.mem_map.2 ⟨(m, d), ?_, rfl⟩)
            exact List.mem_filter.2 ⟨hd, decide_eq_true rfl⟩
          · intro p hp
            exact ⟨(g.curOK p hp).1, fun d hd => List.mem_append_left _ ((g.curOK p hp).2 d hd)⟩
  | flushDrop f =>
    conv => arg 2; whnf
    cases hf : s.cur.find? (·.1 == f) with
    | none => exact g
    | some p =>
      obtain ⟨f', m⟩ := p
      have hm := g.curOK _ (List.mem_of_find?_eq_some hf)
      refine { g with
        ackVis := ?_, curOK := fun p hp => g.curOK p (List.mem_of_mem_erase hp),
        older := fun m' hm' => g.older m' (List.mem_of_mem_erase hm') }
      intro x hx
      rcases g.ackVis x hx with h | ⟨p, hp1, hp2, h | h⟩
      · exact .inl h
      · exact .inr ⟨p, hp1, hp2, .inl h⟩
      · -- the dropped memtable's documents are in the segment written just before
        by_cases hpm : p.1 = m
        · exact .inl (hm.2 x (hpm ▸ hp2 ▸ hp1))
        · exact .inr ⟨p, hp1, hp2, .inr ((List.mem_erase_of_ne hpm).2 h)⟩

theorem rgood_run (acts : List RAct) : ∀ s : RSt, RGood locked s →
    locked = true ∨ noRotationDuringAdd locked s acts = true →
    RGood locked (acts.foldl (rstep locked) s) := by
  induction acts with
  | nil => exact fun _ g _ => g
  | cons a as ih =>
    intro s g h
    have h := h.imp_right Bool.and_eq_true_iff.1
    exact ih _ (rgood_step g a (h.imp_right (·.1))) (h.imp_right (·.2))

/-- no add fails and no acknowledged document is lost: in every interleaving of the locked shape,
    and in those of the three-region shape in which no rotation runs while an add is pending -/
theorem run_ok {acts : List RAct} (h : locked = true ∨ noRotationDuringAdd locked {} acts = true) :
    (rrun locked acts).failed = [] ∧
      ∀ d ∈ (rrun locked acts).acked, visibleDoc (rrun locked acts) d = true :=
  have g := rgood_run acts {} rgood_init h
  ⟨g.noFail, fun d hd => (visibleDoc_iff _ d).2 (g.ackVis d hd)⟩

end Comet.Conc.Rot
