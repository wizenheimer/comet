/-
  Helper lemmas for C11 (C), model Comet/Conc/RemoveProto.lean: the shapes of one region
  execution (`Region`; `step_region` ties them to the model's `step`), the invariant `Good` behind
  `lin_visibility`, the reflection of the checker (`checkV1_iff` …), the invariants behind the error
  and panic theorems (`Tidy` only under the window hypothesis, in `tidy_steps`), and the arithmetic
  of `ids_unique`.
-/
import Comet.Conc.RemoveProto
namespace Comet.Conc.Proto

theorem not_or_eq_true : ∀ {b c : Bool}, (!b || c) = true ↔ (b = true → c = true) := by
  decide

theorem mem_visible {st dl : List Id} {x : Id} : x ∈ visible st dl ↔ x ∈ st ∧ x ∉ dl := by
  simp [visible, List.mem_filter]

theorem visible_nil (st : List Id) : visible st [] = st :=
  List.filter_eq_self.2 fun _ _ => rfl

/-- a flush panics only on a negative capacity `len(stored) - |deleted|`; otherwise it keeps
    exactly the visible ids and clears the tombstones (also when there was no tombstone and it
    returned early) -/
theorem flushCore_cases (cfg : Cfg) (st dl : List Id) :
    (flushCore cfg st dl = none ∧ st.length < dl.length) ∨
    flushCore cfg st dl = some (visible st dl, []) := by
  unfold flushCore
  by_cases he : dl.isEmpty = true
  · cases List.isEmpty_iff.1 he
    exact .inr (congrArg (fun l => some (l, [])) (visible_nil st).symm)
  · rw [if_neg he]
    by_cases hc : (cfg.capPanic && decide (st.length < dl.length)) = true
    · rw [if_pos hc]
      exact .inl ⟨rfl, of_decide_eq_true (Bool.and_eq_true_iff.1 hc).2⟩
    · rw [if_neg hc]
      exact .inr rfl

theorem flushCore_ne_none {cfg : Cfg} {st dl : List Id} (h : dl.length ≤ st.length) :
    flushCore cfg st dl ≠ none := fun hf =>
  (flushCore_cases cfg st dl).elim (fun h' => Nat.not_lt.2 h h'.2) fun h' => nomatch hf.symm.trans h'

/-- `deleted` after the write region of a Remove -/
def tombstone (dl : List Id) (id : Id) : List Id := if dl.contains id then dl else id :: dl

theorem mem_tombstone {dl : List Id} {id x : Id} : x ∈ tombstone dl id ↔ x = id ∨ x ∈ dl := by
  unfold tombstone
  split
  · next h => exact ⟨.inr, fun hx => hx.elim (fun e => e ▸ List.contains_iff_mem.1 h) fun hx => hx⟩
  · exact List.mem_cons

theorem nodup_tombstone {dl : List Id} (id : Id) (h : dl.Nodup) : (tombstone dl id).Nodup := by
  unfold tombstone
  split
  · exact h
  · next hc => exact List.nodup_cons.2 ⟨fun hm => hc (List.contains_iff_mem.2 hm), h⟩

theorem rmCheckResp_eq_none {st dl : List Id} {id : Id} :
    rmCheckResp st dl id = none ↔ id ∈ st ∧ id ∉ dl := by
  rw [← List.contains_iff_mem, ← List.contains_iff_mem]
  unfold rmCheckResp
  generalize st.contains id = a
  generalize dl.contains id = b
  revert a b
  decide

/-- the check region fails exactly when, and as, the atomic Remove fails -/
theorem seqRemove_eq (st dl : List Id) (id : Id) :
    seqRemove st dl id =
      match rmCheckResp st dl id with
      | some e => (dl, e)
      | none => (id :: dl, .ok) := by
  unfold seqRemove rmCheckResp
  cases st.contains id <;> cases dl.contains id <;> rfl

theorem rmCheckResp_ne_ok {st dl : List Id} {id : Id} : rmCheckResp st dl id ≠ some .ok := by
  unfold rmCheckResp
  generalize st.contains id = a
  generalize dl.contains id = b
  revert a b
  decide

/-- `Region cfg s a s'`: the state `s'` that executing `a` in `s` can leave, case by case, with
    what the region read.  A flush that did not panic is recorded with its result inlined
    (`flushCore_cases`). -/
inductive Region (cfg : Cfg) (s : PSt) : Act → PSt → Prop
  | addPanic (id : Id) : (cfg.purge && s.deleted.contains id) = true →
      flushCore cfg s.stored s.deleted = none →
      Region cfg s (.add id)
        { s with panicked := true, now := s.now + 1,
                 hist := { kind := .add, id := id, inv := s.now, resp := s.now, ok := false } :: s.hist }
  | addFlush (id : Id) : (cfg.purge && s.deleted.contains id) = true →
      Region cfg s (.add id)
        { s with stored := visible s.stored s.deleted ++ [id], deleted := [], now := s.now + 1,
                 hist := { kind := .add, id := id, inv := s.now, resp := s.now } :: s.hist }
  | add (id : Id) : (cfg.purge && s.deleted.contains id) = false →
      Region cfg s (.add id)
        { s with stored := s.stored ++ [id], now := s.now + 1,
                 hist := { kind := .add, id := id, inv := s.now, resp := s.now } :: s.hist }
  | rmFail (id : Id) : rmCheckResp s.stored s.deleted id ≠ none →
      Region cfg s (.rmCheck id)
        { s with now := s.now + 1,
                 hist := { kind := .remove, id := id, inv := s.now, resp := s.now, ok := false } :: s.hist }
  | rmAtomic (id : Id) : rmCheckResp s.stored s.deleted id = none → cfg.atomicRemove = true →
      Region cfg s (.rmCheck id)
        { s with now := s.now + 1, deleted := tombstone s.deleted id,
                 hist := { kind := .remove, id := id, inv := s.now, resp := s.now } :: s.hist }
  | rmPend (id : Id) : rmCheckResp s.stored s.deleted id = none → cfg.atomicRemove = false →
      Region cfg s (.rmCheck id) { s with now := s.now + 1, pend := s.pend ++ [(id, s.now)] }
  | wrNone (k : Nat) : s.pend[k]? = none → Region cfg s (.rmWrite k) { s with now := s.now + 1 }
  | wr (k : Nat) (id : Id) (t0 : Nat) : s.pend[k]? = some (id, t0) →
      Region cfg s (.rmWrite k)
        { s with now := s.now + 1, pend := s.pend.eraseIdx k, deleted := tombstone s.deleted id,
                 hist := { kind := .remove, id := id, inv := t0, resp := s.now } :: s.hist }
  | search :
      Region cfg s .search
        { s with now := s.now + 1,
                 hist := { kind := .search, inv := s.now, resp := s.now,
                           res := visible s.stored s.deleted } :: s.hist }
  | flushPanic : flushCore cfg s.stored s.deleted = none →
      Region cfg s .flush
        { s with panicked := true, now := s.now + 1,
                 hist := { kind := .flush, inv := s.now, resp := s.now, ok := false } :: s.hist }
  | flush :
      Region cfg s .flush
        { s with stored := visible s.stored s.deleted, deleted := [], now := s.now + 1,
                 hist := { kind := .flush, inv := s.now, resp := s.now } :: s.hist }

theorem step_region (cfg : Cfg) (s : PSt) (a : Act) : Region cfg s a (step cfg s a) := by
  cases a with
  | add id =>
    rw [step]
    by_cases hc : (cfg.purge && s.deleted.contains id) = true
    · rw [if_pos hc]
      rcases flushCore_cases cfg s.stored s.deleted with ⟨hf, _⟩ | hf <;> rw [hf]
      · exact .addPanic id hc hf
      · exact .addFlush id hc
    · rw [if_neg hc]
      exact .add id (Bool.eq_false_iff.2 hc)
  | rmCheck id =>
    have hn : rmCheckResp s.stored s.deleted id = none ↔
        (!s.stored.contains id || s.deleted.contains id) = false := by
      unfold rmCheckResp
      generalize s.stored.contains id = a
      generalize s.deleted.contains id = b
      revert a b
      decide
    rw [step]
    by_cases hc : (!s.stored.contains id || s.deleted.contains id) = true
    · rw [if_pos hc]
      exact .rmFail id fun h => Bool.false_ne_true ((hn.1 h).symm.trans hc)
    · have hc' := hn.2 (Bool.eq_false_iff.2 hc)
      rw [if_neg hc]
      by_cases ha : cfg.atomicRemove = true
      · rw [if_pos ha]
        exact .rmAtomic id hc' ha
      · rw [if_neg ha]
        exact .rmPend id hc' (Bool.eq_false_iff.2 ha)
  | rmWrite k =>
    rw [step]
    cases hk : s.pend[k]? with
    | none => exact .wrNone k hk
    | some q => exact .wr k q.1 q.2 hk
  | search => exact .search
  | flush =>
    rw [step]
    rcases flushCore_cases cfg s.stored s.deleted with ⟨hf, _⟩ | hf <;> rw [hf]
    · exact .flushPanic hf
    · exact .flush

theorem run_induction (cfg : Cfg) {P : PSt → Prop} (h0 : P {})
    (hstep : ∀ s a s', Region cfg s a s' → P s → P s') (acts : List Act) : P (run cfg acts) := by
  unfold run
  generalize ({} : PSt) = s at h0 ⊢
  induction acts generalizing s with
  | nil => exact h0
  | cons a as ih => exact ih _ (hstep s a _ (step_region cfg s a) h0)

structure Good (s : PSt) : Prop where
  -- every recorded operation responded before the current time
  times : ∀ op ∈ s.hist, op.inv ≤ op.resp ∧ op.resp < s.now
  pendT : ∀ p ∈ s.pend, p.2 < s.now
  storedAdded : ∀ x ∈ s.stored, ∃ A ∈ s.hist, A.kind = .add ∧ A.id = x ∧ A.ok = true
  deletedRemoved : ∀ x ∈ s.deleted, ∃ M ∈ s.hist, M.kind = .remove ∧ M.id = x ∧ M.ok = true
  addedStored : ∀ A ∈ s.hist, A.kind = .add → A.ok = true →
    (∀ M ∈ s.hist, M.kind = .remove → M.ok = true → M.id ≠ A.id) → A.id ∈ s.stored
  -- what V2 needs: a removed id is hidden unless some Add of it responded after the Remove began
  removedHidden : ∀ M ∈ s.hist, M.kind = .remove → M.ok = true →
    (∀ A ∈ s.hist, A.kind = .add → A.id = M.id → A.resp ≤ M.inv) →
    M.id ∉ visible s.stored s.deleted
  vis : VisibilityOK s.hist

theorem good_init : Good {} :=
  ⟨List.forall_mem_nil _, List.forall_mem_nil _, List.forall_mem_nil _, List.forall_mem_nil _,
    List.forall_mem_nil _, List.forall_mem_nil _, List.forall_mem_nil _⟩

/-- an operation recorded by time `now` began before one that responds at `now` or later -/
theorem began_before {now : Nat} {a b : HOp} (ha : a.inv ≤ a.resp ∧ a.resp < now)
    (hb : now ≤ b.resp) : a.inv < b.resp :=
  Nat.lt_of_lt_of_le (Nat.lt_of_le_of_lt ha.1 ha.2) hb

/-- the verdict on an already recorded search is not changed by operations responding later -/
theorem vis_old {h : List HOp} {now : Nat} (ht : ∀ o ∈ h, o.inv ≤ o.resp ∧ o.resp < now)
    (op : HOp) (hop : now ≤ op.resp) {S : HOp} (hS : S ∈ h)
    (hv : V1 h S ∧ V2 h S ∧ V3 h S) : V1 (op :: h) S ∧ V2 (op :: h) S ∧ V3 (op :: h) S := by
  obtain ⟨v1, v2, v3⟩ := hv
  have hSt := began_before (ht S hS) hop
  refine ⟨?_, ?_, ?_⟩
  · intro A hA hk hok hlt hrem
    rcases List.mem_cons.1 hA with rfl | hA
    · exact absurd hSt (Nat.lt_asymm hlt)
    · exact v1 A hA hk hok hlt fun M hM => hrem M (List.mem_cons_of_mem _ hM)
  · intro x hx M hM hk hok hid hlt
    rcases List.mem_cons.1 hM with rfl | hM
    · exact absurd hSt (Nat.lt_asymm hlt)
    · obtain ⟨A, hA, h1⟩ := v2 x hx M hM hk hok hid hlt
      exact ⟨A, List.mem_cons_of_mem _ hA, h1⟩
  · intro x hx
    obtain ⟨A, hA, h1⟩ := v3 x hx
    exact ⟨A, List.mem_cons_of_mem _ hA, h1⟩

theorem Good.times_succ {s : PSt} (g : Good s) :
    ∀ o ∈ s.hist, o.inv ≤ o.resp ∧ o.resp < s.now + 1 :=
  fun o ho => ⟨(g.times o ho).1, Nat.lt_succ_of_lt (g.times o ho).2⟩

/-- an added id none of whose removals succeeded is still there -/
theorem Good.live {s : PSt} (g : Good s) {A : HOp} (hA : A ∈ s.hist) (hk : A.kind = .add)
    (hok : A.ok = true) (hno : ∀ M ∈ s.hist, M.kind = .remove → M.ok = true → M.id ≠ A.id) :
    A.id ∈ s.stored ∧ A.id ∉ s.deleted :=
  ⟨g.addedStored A hA hk hok hno, fun hd =>
    let ⟨M, hM, hMk, hMid, hMok⟩ := g.deletedRemoved _ hd
    hno M hM hMk hMok hMid⟩

/-- a search region is judged on the state it read -/
theorem Good.vis_search {s : PSt} (g : Good s) (S : HOp) (hk : S.kind = .search)
    (hresp : S.resp = s.now) (hres : S.res = visible s.stored s.deleted) :
    V1 (S :: s.hist) S ∧ V2 (S :: s.hist) S ∧ V3 (S :: s.hist) S := by
  refine ⟨?_, ?_, ?_⟩
  · intro A hA hAk hok hlt hrem
    rcases List.mem_cons.1 hA with rfl | hA
    · exact nomatch hk.symm.trans hAk
    · rw [hres]
      refine mem_visible.2 (g.live hA hAk hok ?_)
      intro M hM hMk hMok hid
      exact Nat.lt_asymm (hrem M (List.mem_cons_of_mem _ hM) hMk hMok hid)
        (began_before (g.times M hM) (Nat.le_of_eq hresp.symm))
  · intro x hx M hM hMk hok hid hlt
    rcases List.mem_cons.1 hM with rfl | hM
    · exact nomatch hk.symm.trans hMk
    · -- otherwise every add of `x` responded before `M` began, and `x` would be hidden
      false_or_by_contra
      rename_i hcon
      apply g.removedHidden M hM hMk hok ?_ (hid ▸ hres ▸ hx)
      intro A hA hAk hAid
      false_or_by_contra
      rename_i hgt
      exact hcon ⟨A, List.mem_cons_of_mem _ hA, hAk, hAid.trans hid, Nat.lt_of_not_le hgt⟩
  · intro x hx
    obtain ⟨A, hA, hAk, hAid, _⟩ := g.storedAdded x (mem_visible.1 (hres ▸ hx)).1
    exact ⟨A, List.mem_cons_of_mem _ hA, hAk, hAid,
      began_before (g.times A hA) (Nat.le_of_eq hresp.symm)⟩

/-- A region that completes the operation `op` at the current time and leaves the data
    `st`, `dl` keeps the invariant, if the data moved as `op` says: a new stored id is the id
    of a successful Add, a new tombstone that of a successful Remove, live ids stay stored, a
    successful Add's id is stored, only an Add makes an id visible, a successful Remove's id is
    hidden, and a search returns what was visible. -/
theorem Good.push {s : PSt} (g : Good s) {op : HOp} {st dl : List Id} {pend : List (Id × Nat)}
    {p : Bool} (hinv : op.inv ≤ op.resp) (hresp : op.resp = s.now)
    (hpend : ∀ q ∈ pend, q ∈ s.pend)
    (hst : ∀ x ∈ st, x ∈ s.stored ∨ (op.kind = .add ∧ op.id = x ∧ op.ok = true))
    (hdl : ∀ x ∈ dl, x ∈ s.deleted ∨ (op.kind = .remove ∧ op.id = x ∧ op.ok = true))
    (hkeep : ∀ x ∈ s.stored, x ∉ s.deleted → x ∈ st)
    (hadd : op.kind = .add → op.ok = true → op.id ∈ st)
    (hvis : ∀ x ∈ visible st dl, x ∈ visible s.stored s.deleted ∨ (op.kind = .add ∧ op.id = x))
    (hrm : op.kind = .remove → op.ok = true → op.id ∉ visible st dl)
    (hres : op.kind = .search → op.res = visible s.stored s.deleted) :
    Good ⟨st, dl, pend, p, op :: s.hist, s.now + 1⟩ where
  times := List.forall_mem_cons.2 ⟨⟨hinv, Nat.lt_succ_of_le (Nat.le_of_eq hresp)⟩, g.times_succ⟩
  pendT q hq := Nat.lt_succ_of_lt (g.pendT q (hpend q hq))
  storedAdded x hx := by
    rcases hst x hx with h | h
    · obtain ⟨A, hA, h1⟩ := g.storedAdded x h
      exact ⟨A, List.mem_cons_of_mem _ hA, h1⟩
    · exact ⟨op, List.mem_cons_self .., h⟩
  deletedRemoved x hx := by
    rcases hdl x hx with h | h
    · obtain ⟨M, hM, h1⟩ := g.deletedRemoved x h
      exact ⟨M, List.mem_cons_of_mem _ hM, h1⟩
    · exact ⟨op, List.mem_cons_self .., h⟩
  addedStored A hA hk hok hno := by
    rcases List.mem_cons.1 hA with rfl | hA
    · exact hadd hk hok
    · have := g.live hA hk hok fun M hM => hno M (List.mem_cons_of_mem _ hM)
      exact hkeep _ this.1 this.2
  removedHidden M hM hk hok hadds := by
    rcases List.mem_cons.1 hM with rfl | hM
    · exact hrm hk hok
    · intro hv
      rcases hvis _ hv with h | ⟨hk', hid⟩
      · exact g.removedHidden M hM hk hok (fun A hA => hadds A (List.mem_cons_of_mem _ hA)) h
      · -- the new add responds after `M` began: the hypothesis is contradictory
        exact Nat.not_le_of_lt (began_before (g.times M hM) (Nat.le_of_eq hresp.symm))
          (hadds op (List.mem_cons_self ..) hk' hid)
  vis S hS hSk := by
    rcases List.mem_cons.1 hS with rfl | hS
    · exact g.vis_search S hSk hresp (hres hSk)
    · exact vis_old g.times op (Nat.le_of_eq hresp.symm) hS (g.vis S hS hSk)

/-- an operation that leaves the data alone: a failure, a panic, a search -/
theorem Good.record {s : PSt} (g : Good s) {op : HOp} {p : Bool} (hinv : op.inv ≤ op.resp)
    (hresp : op.resp = s.now) (hadd : op.kind = .add → op.ok = true → op.id ∈ s.stored)
    (hrm : op.kind = .remove → op.ok = true → op.id ∉ visible s.stored s.deleted)
    (hres : op.kind = .search → op.res = visible s.stored s.deleted) :
    Good ⟨s.stored, s.deleted, s.pend, p, op :: s.hist, s.now + 1⟩ :=
  g.push hinv hresp (fun _ h => h) (fun _ h => .inl h)
    (fun _ h => .inl h) (fun _ h _ => h) hadd (fun _ h => .inl h) hrm hres

/-- the invariant sees the data only through `visible`: purging the tombstoned ids keeps it -/
theorem Good.purge {s : PSt} (g : Good s) :
    Good { s with stored := visible s.stored s.deleted, deleted := [] } :=
  { g with
    storedAdded := fun x hx => g.storedAdded x (mem_visible.1 hx).1
    deletedRemoved := List.forall_mem_nil _
    addedStored := fun _ hA hk hok hno => mem_visible.2 (g.live hA hk hok hno)
    removedHidden := fun M hM hk hok hadds => visible_nil _ ▸ g.removedHidden M hM hk hok hadds }

theorem Good.added {s : PSt} (g : Good s) (id : Id) :
    Good ⟨s.stored ++ [id], s.deleted, s.pend, s.panicked,
      { kind := .add, id := id, inv := s.now, resp := s.now } :: s.hist, s.now + 1⟩ := by
  refine g.push (Nat.le_refl _) rfl (fun _ h => h) ?_
    (fun _ h => .inl h) (fun _ h _ => List.mem_append_left _ h)
    (fun _ _ => List.mem_append_right _ (List.mem_singleton_self id)) ?_ nofun nofun
  · intro x hx
    exact (List.mem_append.1 hx).imp_right fun h => ⟨rfl, (List.mem_singleton.1 h).symm, rfl⟩
  · intro x hx
    obtain ⟨h1, h2⟩ := mem_visible.1 hx
    exact (List.mem_append.1 h1).imp (fun h => mem_visible.2 ⟨h, h2⟩)
      fun h => ⟨rfl, (List.mem_singleton.1 h).symm⟩

/-- a successful Remove writes its tombstone (write region of the two-region shape, or the
    single region of the atomic shape) -/
theorem Good.tombstone {s : PSt} (g : Good s) (id : Id) (t0 : Nat) (ht0 : t0 ≤ s.now)
    {pend : List (Id × Nat)} (hp : ∀ q ∈ pend, q ∈ s.pend) :
    Good ⟨s.stored, tombstone s.deleted id, pend, s.panicked,
      { kind := .remove, id := id, inv := t0, resp := s.now } :: s.hist, s.now + 1⟩ :=
  g.push ht0 rfl hp (fun _ h => .inl h)
    (fun _ hx => (mem_tombstone.1 hx).symm.imp_right fun e => ⟨rfl, e.symm, rfl⟩) (fun _ h _ => h)
    nofun
    (fun _ hx => .inl (mem_visible.2 ⟨(mem_visible.1 hx).1,
      fun hd => (mem_visible.1 hx).2 (mem_tombstone.2 (.inr hd))⟩))
    (fun _ _ hv => (mem_visible.1 hv).2 (mem_tombstone.2 (.inl rfl))) nofun

/-- only the clock and the pending Removes change -/
theorem Good.tick {s : PSt} (g : Good s) {pend : List (Id × Nat)} (hp : ∀ q ∈ pend, q.2 ≤ s.now) :
    Good { s with now := s.now + 1, pend := pend } :=
  ⟨g.times_succ, fun q hq => Nat.lt_succ_of_le (hp q hq),
    g.storedAdded, g.deletedRemoved, g.addedStored, g.removedHidden, g.vis⟩

theorem Region.good {cfg : Cfg} {s s' : PSt} {a : Act} (r : Region cfg s a s') (g : Good s) :
    Good s' := by
  have hp : ∀ q ∈ s.pend, q.2 ≤ s.now := fun q hq => Nat.le_of_lt (g.pendT q hq)
  cases r with
  | addPanic | rmFail | flushPanic => exact g.record (Nat.le_refl _) rfl nofun nofun nofun
  | search => exact g.record (Nat.le_refl _) rfl nofun nofun fun _ => rfl
  | addFlush id => exact g.purge.added id
  | add id => exact g.added id
  | rmAtomic id => exact g.tombstone id s.now (Nat.le_refl _) fun _ h => h
  | rmPend id =>
    refine g.tick fun q hq => ?_
    rcases List.mem_append.1 hq with hq | hq
    · exact hp q hq
    · cases List.mem_singleton.1 hq
      exact Nat.le_refl _
  | wrNone => exact g.tick hp
  | wr k id t0 hk =>
    exact g.tombstone id t0 (hp _ (List.mem_of_getElem? hk)) fun _ h => List.mem_of_mem_eraseIdx h
  | flush => exact g.purge.record (Nat.le_refl _) rfl nofun nofun nofun

theorem good_run (cfg : Cfg) (acts : List Act) : Good (run cfg acts) :=
  run_induction cfg good_init (fun _ _ _ r g => r.good g) acts

theorem checkV1_iff (h : List HOp) (S : HOp) : checkV1 h S = true ↔ V1 h S := by
  simp only [checkV1, V1, List.all_eq_true, Bool.or_assoc, not_or_eq_true, Bool.and_eq_true,
    beq_iff_eq, decide_eq_true_eq, List.contains_iff_mem, and_imp]

theorem checkV2_iff (h : List HOp) (S : HOp) : checkV2 h S = true ↔ V2 h S := by
  simp only [checkV2, V2, List.all_eq_true, List.any_eq_true, not_or_eq_true, Bool.and_eq_true,
    beq_iff_eq, decide_eq_true_eq, and_imp, and_assoc]

theorem checkV3_iff (h : List HOp) (S : HOp) : checkV3 h S = true ↔ V3 h S := by
  simp only [checkV3, V3, List.all_eq_true, List.any_eq_true, Bool.and_eq_true, beq_iff_eq,
    decide_eq_true_eq, and_assoc]

/-! ### helpers for no_spurious_error, the panic theorems and ids_unique -/

/-- every failing response in a history of the model is of one of two kinds -/
def FailKinds (s : PSt) : Prop :=
  ∀ op ∈ s.hist, op.ok = false →
    (op.kind = .remove ∧ op.inv = op.resp) ∨ ((op.kind = .add ∨ op.kind = .flush) ∧ s.panicked = true)

theorem FailKinds.push {s : PSt} (h : FailKinds s) {op : HOp} {st dl : List Id}
    {pend : List (Id × Nat)} {p : Bool} {n : Nat} (hp : s.panicked = true → p = true)
    (hop : op.ok = false →
      (op.kind = .remove ∧ op.inv = op.resp) ∨ ((op.kind = .add ∨ op.kind = .flush) ∧ p = true)) :
    FailKinds ⟨st, dl, pend, p, op :: s.hist, n⟩ := by
  intro o ho hok
  rcases List.mem_cons.1 ho with rfl | ho
  · exact hop hok
  · exact (h o ho hok).imp_right fun h1 => ⟨h1.1, hp h1.2⟩

theorem Region.failKinds {cfg : Cfg} {s s' : PSt} {a : Act} (r : Region cfg s a s')
    (h : FailKinds s) : FailKinds s' := by
  cases r with
  | addPanic => exact h.push (fun _ => rfl) fun _ => .inr ⟨.inl rfl, rfl⟩
  | flushPanic => exact h.push (fun _ => rfl) fun _ => .inr ⟨.inr rfl, rfl⟩
  | rmFail => exact h.push id fun _ => .inl ⟨rfl, rfl⟩
  | addFlush | add | rmAtomic | wr | search | flush => exact h.push id nofun
  | rmPend | wrNone => exact h

theorem failKinds_run (cfg : Cfg) (acts : List Act) : FailKinds (run cfg acts) :=
  run_induction cfg (List.forall_mem_nil _) (fun _ _ _ r h => r.failKinds h) acts

/-- invariant behind `flush_no_panic_partial` -/
structure Tidy (s : PSt) : Prop where
  sub : ∀ x ∈ s.deleted, x ∈ s.stored
  nd : s.deleted.Nodup
  pend : ∀ p ∈ s.pend, p.1 ∈ s.stored
  np : s.panicked = false

theorem Tidy.tombstone {s : PSt} (t : Tidy s) {id : Id} (hid : id ∈ s.stored)
    {pend : List (Id × Nat)} (hp : ∀ q ∈ pend, q ∈ s.pend) {h : List HOp} {n : Nat} :
    Tidy ⟨s.stored, tombstone s.deleted id, pend, s.panicked, h, n⟩ :=
  ⟨fun x hx => (mem_tombstone.1 hx).elim (fun e => e ▸ hid) (t.sub x),
    nodup_tombstone id t.nd, fun q hq => t.pend q (hp q hq), t.np⟩

theorem Tidy.flushed {s : PSt} (t : Tidy s) (hp : s.pend = []) {st : List Id} {h : List HOp}
    {n : Nat} : Tidy ⟨st, [], s.pend, s.panicked, h, n⟩ :=
  ⟨List.forall_mem_nil _, List.nodup_nil, hp ▸ List.forall_mem_nil _, t.np⟩

theorem tidy_steps (cfg : Cfg) : ∀ (acts : List Act) (s : PSt), Tidy s →
    noFlushInRemoveWindow cfg s acts = true → (acts.foldl (step cfg) s).panicked = false := by
  intro acts
  induction acts with
  | nil => exact fun s t _ => t.np
  | cons a as ih =>
    intro s t hw
    have hw := Bool.and_eq_true_iff.1 hw
    refine ih _ ?_ hw.2
    have hw := hw.1
    -- `deleted ⊆ stored` without duplicates: the flush's capacity is not negative
    have hfl := flushCore_ne_none (cfg := cfg) (t.nd.length_le_of_subset t.sub)
    have r := step_region cfg s a
    generalize step cfg s a = s' at r
    cases r with
    | addPanic _ _ hf => exact absurd hf hfl
    | flushPanic hf => exact absurd hf hfl
    | addFlush _ hc => exact t.flushed (List.isEmpty_iff.1 (not_or_eq_true.1 hw hc))
    | flush => exact t.flushed (List.isEmpty_iff.1 hw)
    | add => exact ⟨fun x hx => List.mem_append_left _ (t.sub x hx), t.nd,
        fun q hq => List.mem_append_left _ (t.pend q hq), t.np⟩
    | rmFail | wrNone | search => exact ⟨t.sub, t.nd, t.pend, t.np⟩
    | rmAtomic _ hc => exact t.tombstone (rmCheckResp_eq_none.1 hc).1 fun _ h => h
    | rmPend id hc =>
      refine ⟨t.sub, t.nd, fun q hq => ?_, t.np⟩
      rcases List.mem_append.1 hq with hq | hq
      · exact t.pend q hq
      · cases List.mem_singleton.1 hq
        exact (rmCheckResp_eq_none.1 hc).1
    | wr _ _ _ hk =>
      exact t.tombstone (t.pend _ (List.mem_of_getElem? hk)) fun _ h => List.mem_of_mem_eraseIdx h

theorem Region.pend_nil {cfg : Cfg} {s s' : PSt} {a : Act} (r : Region cfg s a s')
    (ha : cfg.atomicRemove = true) (hp : s.pend = []) : s'.pend = [] := by
  cases r with
  | rmPend _ _ hn => exact absurd ha (hn ▸ Bool.false_ne_true)
  | wr k => exact congrArg (List.eraseIdx · k) hp
  | _ => exact hp

/-- with the one-region Remove no Remove is ever between two regions -/
theorem noWindow_of_atomic (cfg : Cfg) (ha : cfg.atomicRemove = true) :
    ∀ (acts : List Act) (s : PSt), s.pend = [] → noFlushInRemoveWindow cfg s acts = true := by
  intro acts
  induction acts with
  | nil => exact fun _ _ => rfl
  | cons a as ih =>
    intro s hp
    refine Bool.and_eq_true_iff.2 ⟨?_, ih _ ((step_region cfg s a).pend_nil ha hp)⟩
    cases a with
    | flush => exact List.isEmpty_iff.2 hp
    | add => exact not_or_eq_true.2 fun _ => List.isEmpty_iff.2 hp
    | _ => rfl

/-- the ids drawn after counter value `c` are `c + 1, c + 2, …` modulo 2³² -/
theorem issue_ids (whos : List (Nat × Nat)) : ∀ c : Nat,
    (issue c whos).map (·.2) = (List.range' 1 whos.length).map fun j => (c + j) % W32 := by
  induction whos with
  | nil => exact fun _ => rfl
  | cons w rest ih =>
    intro c
    rw [issue, List.map_cons, ih, List.length_cons, List.range'_succ, List.map_cons,
      ← List.map_add_range' (a := 1) 1 rest.length 1, List.map_map]
    refine congrArg _ (List.map_congr_left fun j _ => ?_)
    rw [Nat.mod_add_mod, Nat.add_assoc]
    rfl

/-- fewer than `W` consecutive numbers are pairwise distinct modulo `W` -/
theorem mod_inj {W c i j : Nat} (hi : i < W) (hj : j < W) (h : (c + i) % W = (c + j) % W) :
    i = j := by
  -- `i - j` is a multiple of `W` below `W`
  have le : ∀ {i j : Nat}, i < W → (c + i) % W = (c + j) % W → i ≤ j := fun hi h => by
    have h0 := Nat.sub_mod_eq_zero_of_mod_eq h
    rw [Nat.add_sub_add_left, Nat.mod_eq_of_lt (Nat.lt_of_le_of_lt (Nat.sub_le ..) hi)] at h0
    exact Nat.le_of_sub_eq_zero h0
  exact Nat.le_antisymm (le hi h) (le hj h.symm)

end Comet.Conc.Proto
