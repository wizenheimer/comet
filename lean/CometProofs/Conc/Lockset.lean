/-
  Helper lemmas for C11 (A): the invariant of the abstract machine of
  Comet/Conc/Lockset.lean and its preservation.  The property theorems
  (`lockset_sound`, …) are in CometProofs/Properties/C11.lean.
-/
import Comet.Conc.Lockset
namespace Comet.Conc

theorem holds_iff (h : Held) (b : Base) (m : Mode) :
    holds h b m = true ↔ (b, Mode.W) ∈ h ∨ (m = .R ∧ (b, Mode.R) ∈ h) := by
  simp only [holds, Bool.or_eq_true, Bool.and_eq_true, List.contains_iff_mem, beq_iff_eq]

theorem holds_append (a c : Held) (b : Base) (m : Mode) :
    holds (a ++ c) b m = true ↔ holds a b m = true ∨ holds c b m = true := by
  simp only [holds_iff, List.mem_append, and_or_left]
  exact or_or_or_comm

theorem holds_mem {h : Held} {b : Base} {m : Mode} (hh : holds h b m = true) :
    ∃ m', (b, m') ∈ h :=
  ((holds_iff h b m).1 hh).elim (⟨_, ·⟩) (⟨_, ·.2⟩)

theorem holds_W {h : Held} {b : Base} (hh : holds h b .W = true) : (b, Mode.W) ∈ h :=
  ((holds_iff h b .W).1 hh).elim id (Mode.noConfusion ·.1)

/-- a W entry covers every request; an R entry covers R -/
theorem holds_of_holds_req {h : Held} {req : Held}
    (hcov : ∀ r ∈ req, holds h r.1 r.2 = true) {b : Base} {m : Mode}
    (hr : holds req b m = true) : holds h b m = true := by
  rcases (holds_iff req b m).1 hr with h1 | ⟨rfl, h1⟩
  · exact (holds_iff h b m).2 (.inl (holds_W (hcov _ h1)))
  · exact hcov _ h1

def topH : Thread → Held
  | [] => []
  | g :: _ => g.h

/-- `WC T ctx t`: the top frame of `t` is checked under inherited locks `ctx`, which are
    covered by what the frames below hold; and so on down the stack. -/
inductive WC (T : Table) : Held → Thread → Prop
  | nil : WC T [] []
  | cons (ctx ctx' : Held) (f : Frame) (rest : Thread) :
      chk T ctx f.h f.prog = some [] →
      (∀ r ∈ ctx, holds (topH rest ++ ctx') r.1 r.2 = true) →
      WC T ctx' rest → WC T ctx (f :: rest)

theorem heldAll_cons (f : Frame) (rest : Thread) : heldAll (f :: rest) = f.h ++ heldAll rest := rfl

/-- what the static tracker believes is held is really held by the thread -/
theorem WC.covered {T : Table} {ctx : Held} {t : Thread} (w : WC T ctx t) :
    ∀ b m, holds (topH t ++ ctx) b m = true → holds (heldAll t) b m = true := by
  induction w with
  | nil => exact fun _ _ h => h
  | cons ctx ctx' f rest hchk hcov _ ih =>
    intro b m h
    refine (holds_append f.h _ b m).2 (((holds_append f.h ctx b m).1 h).imp_right fun h1 => ?_)
    exact ih b m (holds_of_holds_req hcov h1)

/-- a lock held for writing by one side is not held at all by the other -/
def Excl (a c : Held) : Prop :=
  ∀ x, ((x, Mode.W) ∈ a → ∀ m, (x, m) ∉ c) ∧ ((x, Mode.W) ∈ c → ∀ m, (x, m) ∉ a)

theorem Excl.symm {a c : Held} (h : Excl a c) : Excl c a := fun x => ⟨(h x).2, (h x).1⟩

theorem Excl.mono_right {a c c' : Held} (h : Excl a c) (hs : c' ⊆ c) : Excl a c' :=
  fun x => ⟨fun hx m hm => (h x).1 hx m (hs hm), fun hx m => (h x).2 (hs hx) m⟩

theorem Excl.not_holds {a c : Held} (h : Excl a c) {b : Base} {m₁ m₂ : Mode}
    (h₁ : holds a b m₁ = true) (h₂ : holds c b m₂ = true) : ¬ (m₁ = .W ∨ m₂ = .W) := by
  rintro (rfl | rfl)
  · exact (holds_mem h₂).elim ((h b).1 (holds_W h₁))
  · exact (holds_mem h₁).elim ((h b).2 (holds_W h₂))

theorem Excl.nil_left (c : Held) : Excl [] c :=
  fun _ => ⟨fun h => (List.not_mem_nil h).elim, fun _ _ => List.not_mem_nil⟩

theorem Excl.append_right {a c c' : Held} (h : Excl a c) (h' : Excl a c') : Excl a (c ++ c') :=
  fun x => ⟨fun hx m hm => (List.mem_append.1 hm).elim ((h x).1 hx m) ((h' x).1 hx m),
    fun hx => (List.mem_append.1 hx).elim (h x).2 (h' x).2⟩

theorem heldAll_mem_of_free_W {st : State} {b : Base} (hf : free st b .W) {u : Thread}
    (hu : u ∈ st) (m : Mode) : (b, m) ∉ heldAll u := hf u hu m

theorem free_of_idle {st : State} (h : ∀ u ∈ st, heldAll u = []) (b : Base) (m : Mode) :
    free st b m := by
  cases m with
  | W => exact fun u hu _ => h u hu ▸ List.not_mem_nil
  | R => exact fun u hu => h u hu ▸ List.not_mem_nil

theorem Excl.of_free {st : State} {b : Base} {m : Mode} (hf : free st b m) {u : Thread}
    (hu : u ∈ st) : Excl (heldAll u) [(b, m)] := by
  intro x
  constructor
  · intro hx m' hm'
    cases List.mem_singleton.1 hm'
    cases m with
    | W => exact heldAll_mem_of_free_W hf hu .W hx
    | R => exact hf u hu hx
  · intro hx m' hm'
    cases List.mem_singleton.1 hx
    exact heldAll_mem_of_free_W hf hu m' hm'

/-- no two threads hold conflicting locks; every thread's stack passes the tracker (`WC`) -/
def Inv (T : Table) (st : State) : Prop :=
  st.Pairwise (fun t u => Excl (heldAll t) (heldAll u)) ∧ ∀ t ∈ st, ∃ ctx, WC T ctx t

theorem pairwise_rel_of_mem {α} {R : α → α → Prop} (hsym : ∀ a b, R a b → R b a)
    (pre post : List α) (t u : α) (h : (pre ++ t :: post).Pairwise R)
    (hu : u ∈ pre ∨ u ∈ post) : R u t := by
  rw [List.pairwise_append, List.pairwise_cons] at h
  rcases hu with hu | hu
  · exact h.2.2 u hu t (List.mem_cons_self ..)
  · exact hsym _ _ (h.2.1.1 u hu)

theorem pairwise_replace {α} {R : α → α → Prop} (hsym : ∀ {a b}, R a b → R b a)
    {pre post : List α} {t t' : α} (h : (pre ++ t :: post).Pairwise R)
    (hrep : ∀ u ∈ pre ++ post, R u t → R u t') : (pre ++ t' :: post).Pairwise R := by
  rw [List.pairwise_middle hsym, List.pairwise_cons] at h ⊢
  exact ⟨fun u hu => hsym (hrep u hu (hsym (h.1 u hu))), h.2⟩

variable {T : Table}

theorem discipline_fn (hd : Discipline T) {g : FnId} {fn : Fn} (hl : T.lookup g = some fn) :
    (fn.entry = true → fn.req = []) ∧ ∀ q ∈ fn.paths, chk T fn.req [] q = some [] := by
  have h := Bool.and_eq_true_iff.1 (List.all_eq_true.1 hd fn (List.mem_of_find?_eq_some hl))
  refine ⟨fun he => ?_, fun q hq => eq_of_beq (List.all_eq_true.1 h.2 q hq)⟩
  rw [he] at h
  exact List.isEmpty_iff.1 h.1

theorem inv_init (hd : Discipline T) {st : State} (hi : Init T st) : Inv T st := by
  constructor
  · refine List.pairwise_of_forall_mem_list fun a ha b _ => ?_
    obtain ⟨_, _, _, _, rfl⟩ := hi a ha
    exact Excl.nil_left _
  · intro t ht
    obtain ⟨g, fn, hl, he, rfl⟩ := hi t ht
    refine ⟨[], .cons [] [] _ [] ?_ (List.forall_mem_nil _) .nil⟩
    simp only [chk, callOK, List.all_cons, List.all_nil, hl, (discipline_fn hd hl).1 he,
      Bool.and_true, if_true]

theorem tstep_wc (hd : Discipline T) {st : State} {t t' : Thread} (hs : TStep T st t t')
    {ctx : Held} (w : WC T ctx t) : ∃ ctx', WC T ctx' t' := by
  rcases w with _ | ⟨_, ctx', _, _, hchk, hcov, wrest⟩
  · cases hs
  cases hs with
  | acq => exact ⟨ctx, .cons ctx ctx' _ _ hchk hcov wrest⟩
  | rel | acc => exact ⟨ctx, .cons ctx ctx' _ _ (Option.ite_none_right_eq_some.1 hchk).2 hcov wrest⟩
  | call h p fs gs g fn q hg hl hq =>
    obtain ⟨hcall, hchk⟩ := Option.ite_none_right_eq_some.1 hchk
    have hreq := List.all_eq_true.1 hcall g hg
    rw [hl] at hreq
    exact ⟨fn.req, .cons fn.req ctx _ _ ((discipline_fn hd hl).2 q hq) (List.all_eq_true.1 hreq)
      (.cons ctx ctx' _ _ hchk hcov wrest)⟩
  | ret =>
    cases Option.some.inj hchk
    exact ⟨ctx', wrest⟩

theorem tstep_excl {st : State} {t t' u : Thread} (hs : TStep T st t t') (hu : u ∈ st)
    (hex : Excl (heldAll u) (heldAll t)) : Excl (heldAll u) (heldAll t') := by
  cases hs with
  | acq h p fs b m hfree => exact (Excl.of_free hfree hu).append_right hex
  | rel h p fs b m =>
    exact hex.mono_right (List.erase_sublist.append_right _).subset
  | acc | call => exact hex
  | ret h g fs =>
    rw [heldAll_cons, heldAll_cons, ← List.append_assoc] at hex
    exact hex

theorem inv_step (hd : Discipline T) {st st' : State}
    (hinv : Inv T st) (hs : Step T st st') : Inv T st' := by
  cases hs with
  | mk pre post t t' hts =>
    have hwc := List.forall_mem_append.1 hinv.2
    have hwt := List.forall_mem_cons.1 hwc.2
    refine ⟨pairwise_replace Excl.symm hinv.1 fun u hu => ?_,
      List.forall_mem_append.2 ⟨hwc.1, List.forall_mem_cons.2 ⟨?_, hwt.2⟩⟩⟩
    · exact tstep_excl hts
        (List.mem_append.2 ((List.mem_append.1 hu).imp_right (List.mem_cons_of_mem _)))
    · exact hwt.1.elim fun _ => tstep_wc hd hts

theorem inv_reachable (hd : Discipline T) {st : State} (hr : Reachable T st) :
    Inv T st := by
  induction hr with
  | init st hi => exact inv_init hd hi
  | step st st' _ hs ih => exact inv_step hd ih hs

/-- an access that passes `accOK` without being exempt holds the lock, or reads a field that
    is never written -/
theorem accOK_cases {h : Held} {b : Base} {f : Field} {m : Mode} {s : FnId}
    (hok : accOK T h b f m s = true) (hex : T.exempt s f = false)
    (hna : T.classOf f ≠ .atomic) (hns : T.classOf f ≠ .sync) :
    (T.classOf f = .guarded → holds h b m = true) ∧ (T.classOf f ≠ .guarded → m = .R) := by
  unfold accOK at hok
  rw [hex, Bool.false_or] at hok
  revert hok
  cases hc : T.classOf f with
  | atomic => exact absurd hc hna
  | sync => exact absurd hc hns
  | immutable => exact fun hok => ⟨nofun, fun _ => eq_of_beq hok⟩
  | guarded => exact fun hok => ⟨fun _ => hok, (absurd rfl ·)⟩

theorem next_access_held {ctx : Held} {t : Thread} (w : WC T ctx t)
    {b : Base} {f : Field} {m : Mode} {s : FnId} (hn : nextAcc t = some (b, f, m, s))
    (hex : T.exempt s f = false) (hna : T.classOf f ≠ .atomic) (hns : T.classOf f ≠ .sync) :
    (T.classOf f = .guarded → holds (heldAll t) b m = true) ∧ (T.classOf f ≠ .guarded → m = .R) := by
  unfold nextAcc at hn
  split at hn
  · cases hn
    have hcov := w.covered b m
    rcases w with _ | ⟨_, _, _, _, hchk, _, _⟩
    exact (accOK_cases (Option.ite_none_right_eq_some.1 hchk).1 hex hna hns).imp_left
      fun h hg => hcov (h hg)
  · cases hn

end Comet.Conc
