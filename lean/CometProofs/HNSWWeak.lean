/-
  What Add / Remove / Flush do to a state (no invariant needed), the induction over
  histories, and the weak invariant `WInv`, which holds along every history with fresh ids
  and allowed flush picks, whatever its size (helper lemmas for C12).  The effects are stated
  through proof-side state transformers: `flushed` (built from `flushNode`, `flushFold`,
  `flushMaxLevel`) and `purge` for Flush, `raised`, `registered`, `withEntry` for the stages of
  Add; `FreshFor` is the freshness hypothesis on a history.
-/
import CometProofs.HNSWInsert
namespace Comet.HNSW

variable {V S : Type}

structure SameParams (s s' : State V) : Prop where
  dim : s'.dim = s.dim
  M : s'.M = s.M
  efC : s'.efC = s.efC
  efS : s'.efS = s.efS

theorem SameParams.refl (s : State V) : SameParams s s := ⟨rfl, rfl, rfl, rfl⟩

theorem SameParams.trans {a b c : State V} (h1 : SameParams a b) (h2 : SameParams b c) :
    SameParams a c :=
  ⟨h2.dim.trans h1.dim, h2.M.trans h1.M, h2.efC.trans h1.efC, h2.efS.trans h1.efS⟩

theorem Shape.params {s s' : State V} (h : Shape s s') : SameParams s s' :=
  ⟨h.dim, h.M, h.efC, h.efS⟩

/-- `s'` has the live vertices of `s`, with their vectors, and no vertex that `s` has not -/
structure KeepsLive (s s' : State V) : Prop where
  live : ∀ j, Live s' j ↔ Live s j
  vec : ∀ j n, Live s j → s.nodes.get? j = some n → ∃ n', s'.nodes.get? j = some n' ∧ n'.vec = n.vec
  sub : ∀ j, s'.nodes.contains j = true → s.nodes.contains j = true

theorem KeepsLive.refl (s : State V) : KeepsLive s s :=
  ⟨fun _ => Iff.rfl, fun _ n _ hn => ⟨n, hn, rfl⟩, fun _ h => h⟩

theorem KeepsLive.fresh {s s' : State V} (h : KeepsLive s s') {x : Id}
    (hx : s.nodes.contains x = false) : s'.nodes.contains x = false :=
  Bool.eq_false_iff.2 (mt (h.sub x) (Bool.eq_false_iff.1 hx))

/-- `Remove` only puts a tombstone on a resident vertex -/
theorem remove_spec (s : State V) (id : Id) :
    (remove s id).1.nodes = s.nodes ∧ (remove s id).1.entry = s.entry ∧
    (remove s id).1.maxLevel = s.maxLevel ∧ SameParams s (remove s id).1 ∧
    ∀ j, isDeleted (remove s id).1 j =
      (isDeleted s j || (decide (id = j) && s.nodes.contains id)) := by
  cases hres : s.nodes.contains id with
  | false =>
    rw [show remove s id = (s, some .notFound) by simp [remove, hres]]
    exact ⟨rfl, rfl, rfl, .refl s, fun j => by simp⟩
  | true =>
    cases hdel : s.deleted.contains id with
    | true =>
      rw [show remove s id = (s, some .deleted) by simp [remove, hres, hdel]]
      refine ⟨rfl, rfl, rfl, .refl s, fun j => ?_⟩
      by_cases hj : id = j
      · subst hj; simp [isDeleted, hdel]
      · simp [hj]
    | false =>
      rw [show remove s id = ({ s with deleted := s.deleted.set id () }, none) by simp [remove, hres, hdel]]
      refine ⟨rfl, rfl, rfl, ⟨rfl, rfl, rfl, rfl⟩, fun j => ?_⟩
      simp only [isDeleted, IdMap.contains_set, Bool.and_true]
      rw [Bool.or_comm]

/-- what phase 1 + 3 of `Flush` do to one vertex -/
def flushNode (s : State V) (n : Node V) : Node V :=
  { n with edges := n.edges.map fun l => l.filter fun t => !isDeleted s t }

def flushFold (s : State V) (acc : IdMap (Node V)) (i : Id) : IdMap (Node V) :=
  if isDeleted s i then acc.erase i else
  match acc.get? i with
  | none => acc
  | some n => acc.set i (flushNode s n)

theorem flushFold_get? (s : State V) :
    ∀ (L : List Id) (acc : IdMap (Node V)) (j : Id), L.Nodup →
      (L.foldl (flushFold s) acc).get? j =
        if j ∈ L then (if isDeleted s j then none else (acc.get? j).map (flushNode s)) else acc.get? j := by
  intro L
  induction L with
  | nil => intro acc j _; simp
  | cons i rest ih =>
    intro acc j hnd
    have hnd' := List.nodup_cons.1 hnd
    rw [List.foldl_cons, ih _ j hnd'.2]
    by_cases hji : j = i
    · subst hji
      simp only [hnd'.1, if_false, List.mem_cons, true_or, if_true]
      simp only [flushFold]
      split
      · simp [IdMap.get?_erase]
      · cases hg : acc.get? j with
        | none => simp [hg]
        | some n => simp [IdMap.get?_set]
    · have hij : ¬ i = j := fun hh => hji hh.symm
      have hacc : (flushFold s acc i).get? j = acc.get? j := by
        simp only [flushFold]
        split
        · simp [IdMap.get?_erase, hij]
        · cases hg : acc.get? i with
          | none => rfl
          | some n => simp [IdMap.get?_set, hij]
      simp only [List.mem_cons, hji, false_or, hacc]

def flushMaxLevel (s : State V) : Int :=
  if !isDeleted s s.entry then s.maxLevel else
  let live := liveIds s
  if live.any (fun i => (levelOf s i : Int) == s.maxLevel) then s.maxLevel
  else if live.isEmpty then -1 else (maxNat (live.map (levelOf s)) : Nat)

/-- the model's `flushTo` past its tombstone test, with the fold body and phase 2 named
    (`flushFold`, `flushMaxLevel`); `flushTo_eq` is `rfl` -/
def flushed (s : State V) (e : Id) : State V :=
  { s with nodes := s.nodes.keys.foldl (flushFold s) s.nodes, deleted := .empty, entry := e, maxLevel := flushMaxLevel s }

theorem flushTo_eq (s : State V) (e : Id) :
    flushTo s e = if s.deleted.count == 0 then s else flushed s e := rfl

theorem flushChoices_spec (s : State V) (e : Id) (he : e ∈ flushChoices s) :
    (isDeleted s s.entry = false ∧ e = s.entry) ∨
    (isDeleted s s.entry = true ∧ (e ∈ liveIds s ∨ liveIds s = [] ∧ e = 0)) := by
  simp only [flushChoices] at he
  cases hde : isDeleted s s.entry <;> rw [hde] at he
  · exact Or.inl ⟨rfl, by simpa using he⟩
  · refine Or.inr ⟨rfl, ?_⟩
    simp only [Bool.not_true, Bool.false_eq_true, if_false] at he
    split at he
    · exact Or.inl (List.mem_of_mem_filter he)
    · split at he
      · next hemp => exact Or.inr ⟨by simpa using hemp, by simpa using he⟩
      · exact Or.inl (List.mem_of_mem_filter he)

/-! `Flush` described uniformly: a `Flush` without tombstones returns the state unchanged,
    which is what the description of the real purge says when nothing is soft-deleted. -/

theorem no_tombstones {s : State V} (h : (s.deleted.count == 0) = true) (j : Id) :
    isDeleted s j = false :=
  (IdMap.count_eq_zero_iff _).1 (by simpa using h) j

theorem flushTo_isDeleted (s : State V) (e j : Id) : isDeleted (flushTo s e) j = false := by
  rw [flushTo_eq]
  split
  · next hz => exact no_tombstones hz j
  · simp [flushed, isDeleted]

theorem flushTo_get? (s : State V) (e j : Id) :
    (flushTo s e).nodes.get? j =
      if isDeleted s j then none else (s.nodes.get? j).map (flushNode s) := by
  rw [flushTo_eq]
  split
  · next hz =>
    have hid : ∀ n : Node V, flushNode s n = n := by
      intro n; simp [flushNode, no_tombstones hz]
    cases hg : s.nodes.get? j <;> simp [no_tombstones hz, hid]
  · show (s.nodes.keys.foldl (flushFold s) s.nodes).get? j = _
    rw [flushFold_get? s _ _ j (IdMap.keys_nodup _)]
    by_cases hj : j ∈ s.nodes.keys
    · simp [hj]
    · simp [hj, IdMap.get?_eq_none (by simpa [IdMap.mem_keys] using hj)]

theorem flushTo_params (s : State V) (e : Id) : SameParams s (flushTo s e) := by
  rw [flushTo_eq]; split
  · exact .refl s
  · exact ⟨rfl, rfl, rfl, rfl⟩

theorem flushTo_maxLevel (s : State V) (e : Id) : (flushTo s e).maxLevel = flushMaxLevel s := by
  rw [flushTo_eq]; split
  · next hz => simp [flushMaxLevel, no_tombstones hz]
  · rfl

theorem flushTo_entry {s : State V} {e : Id} (he : e ∈ flushChoices s) : (flushTo s e).entry = e := by
  rw [flushTo_eq]; split
  · next hz =>
    rcases flushChoices_spec s e he with ⟨_, h⟩ | ⟨hd, _⟩
    · exact h.symm
    · rw [no_tombstones hz] at hd; cases hd
  · rfl

theorem flushTo_contains (s : State V) (e j : Id) :
    (flushTo s e).nodes.contains j = true ↔ Live s j := by
  simp only [IdMap.contains, flushTo_get?, Live]
  cases isDeleted s j <;> simp

theorem flushTo_live (s : State V) (e j : Id) : Live (flushTo s e) j ↔ Live s j := by
  simp only [Live, flushTo_isDeleted, and_true, flushTo_contains]

theorem nbrsAt_flushTo (s : State V) (e : Id) (l : Nat) (j : Id) :
    nbrsAt (flushTo s e) l j =
      if isDeleted s j then [] else (nbrsAt s l j).filter fun t => !isDeleted s t := by
  simp only [nbrsAt, flushTo_get?]
  cases isDeleted s j with
  | true => simp
  | false =>
    cases s.nodes.get? j with
    | none => simp
    | some n =>
      simp only [Bool.false_eq_true, if_false, Option.map_some, flushNode, List.getElem?_map]
      cases n.edges[l]? <;> simp

theorem flushTo_count (s : State V) (e : Id) : (flushTo s e).nodes.count = 0 ↔ liveIds s = [] := by
  simp only [IdMap.count_eq_zero_iff, List.eq_nil_iff_forall_not_mem, mem_liveIds,
    ← flushTo_contains s e, Bool.not_eq_true]

theorem flushTo_keepsLive (s : State V) (e : Id) : KeepsLive s (flushTo s e) :=
  ⟨flushTo_live s e,
   fun j n hl hn => ⟨flushNode s n, by rw [flushTo_get?, hl.2, hn]; rfl, rfl⟩,
   fun j hj => ((flushTo_contains s e j).1 hj).1⟩

/-! ### Add of an id that is not soft-deleted = (purge when the entry point is soft-deleted)
    + register + insertNode -/

/-- `if level > idx.maxLevel { idx.maxLevel = level }` -/
def raised (s : State V) (level : Nat) : State V :=
  if (level : Int) > s.maxLevel then { s with maxLevel := level } else s

/-- the state in which `insertNode` runs: `maxLevel` raised, the new vertex registered
    (`idx.nodes[id] = node`) -/
def registered (s : State V) (x : Id) (v' : V) (level : Nat) : State V :=
  { raised s level with nodes := (raised s level).nodes.set x (Node.new v' level) }

/-- `idx.entryPoint = id` -/
def withEntry (s : State V) (e : Id) : State V := { s with entry := e }

theorem withEntry_frame (t : State V) (e : Id) :
    (withEntry t e).nodes = t.nodes ∧ (withEntry t e).deleted = t.deleted ∧
    (withEntry t e).maxLevel = t.maxLevel ∧ (withEntry t e).entry = e ∧
    SameParams t (withEntry t e) :=
  ⟨rfl, rfl, rfl, rfl, ⟨rfl, rfl, rfl, rfl⟩⟩

theorem raised_nodes (s : State V) (level : Nat) : (raised s level).nodes = s.nodes := by
  unfold raised; split <;> rfl

theorem raised_entry (s : State V) (level : Nat) : (raised s level).entry = s.entry := by
  unfold raised; split <;> rfl

theorem registered_frame (s : State V) (x : Id) (v' : V) (level : Nat) :
    SameParams s (registered s x v' level) ∧ (registered s x v' level).deleted = s.deleted ∧
    (registered s x v' level).entry = s.entry ∧ 0 ≤ (registered s x v' level).maxLevel := by
  unfold registered raised
  split
  · exact ⟨⟨rfl, rfl, rfl, rfl⟩, rfl, rfl, Int.natCast_nonneg _⟩
  · exact ⟨⟨rfl, rfl, rfl, rfl⟩, rfl, rfl, by simp only; omega⟩

theorem registered_nodes (s : State V) (x : Id) (v' : V) (level : Nat) :
    (registered s x v' level).nodes = s.nodes.set x (Node.new v' level) := by
  rw [← raised_nodes s level]; rfl

theorem registered_get? (s : State V) (x : Id) (v' : V) (level : Nat) (j : Id) :
    (registered s x v' level).nodes.get? j =
      if x = j then some (Node.new v' level) else s.nodes.get? j := by
  rw [registered_nodes, IdMap.get?_set]

theorem registered_get?_self (s : State V) (x : Id) (v' : V) (level : Nat) :
    (registered s x v' level).nodes.get? x = some (Node.new v' level) := by
  rw [registered_get?, if_pos rfl]

theorem registered_contains (s : State V) (x : Id) (v' : V) (level : Nat) (j : Id) :
    (registered s x v' level).nodes.contains j = (decide (x = j) || s.nodes.contains j) := by
  rw [registered_nodes, IdMap.contains_set]

theorem nbrsAt_new (v : V) (level l : Nat) : ((Node.new v level).edges[l]?).getD [] = [] := by
  simp only [Node.new, List.getElem?_replicate]
  split <;> rfl

theorem nbrsAt_registered (s : State V) (x : Id) (v' : V) (level l : Nat) (j : Id) :
    nbrsAt (registered s x v' level) l j = if x = j then [] else nbrsAt s l j := by
  by_cases h : x = j <;> simp [nbrsAt, registered_get?, h, nbrsAt_new]

section
variable (m : Metric V S)

/-- `addLinked` with `registerFirst = true` (the order of fix fb5d06f): the first vertex of
    an empty index becomes the entry point, any other one is registered and then linked -/
theorem addLinked_cases {s s' : State V} {x : Id} {v' : V} {level : Nat}
    (h : addLinked m true s x v' level = .ok s') :
    (s.entry = 0 ∧ s.nodes.count = 0 ∧ s' = withEntry (registered s x v' level) x) ∨
    (¬ (s.entry = 0 ∧ s.nodes.count = 0) ∧
      ∃ nx', insertNode m true (registered s x v' level) x (Node.new v' level) = .ok (s', nx')) := by
  simp only [addLinked, if_true] at h
  generalize hs0 : (if (level : Int) > s.maxLevel then { s with maxLevel := (level : Int) } else s) = s0 at h
  obtain rfl : s0 = raised s level := hs0.symm
  split at h
  · next hc =>
    simp only [Bool.and_eq_true, beq_iff_eq, raised_entry, raised_nodes] at hc
    simp only [Except.ok.injEq] at h
    -- stated for a variable: comparing the two records over `raised s level` is slow
    have hw : ∀ t : State V, ({ t with entry := x, nodes := t.nodes.set x (Node.new v' level) } : State V) =
        withEntry { t with nodes := t.nodes.set x (Node.new v' level) } x := fun _ => rfl
    exact Or.inl ⟨hc.1, hc.2, h.symm.trans (hw _)⟩
  · next hc =>
    simp only [Bool.and_eq_true, beq_iff_eq, raised_entry, raised_nodes] at hc
    split at h
    · cases h
    · next s2 nx2 hins =>
      simp only [Except.ok.injEq] at h
      exact Or.inr ⟨hc, nx2, h ▸ hins⟩

theorem Shape.vec {t t' : State V} (h : Shape t t') {j : Id} {n : Node V}
    (hn : t.nodes.get? j = some n) : ∃ n', t'.nodes.get? j = some n' ∧ n'.vec = n.vec := by
  rcases h.nodes j with ⟨ha, _⟩ | ⟨n0, n', ha, hb, hv, _⟩
  · rw [hn] at ha; cases ha
  · rw [hn] at ha; cases ha
    exact ⟨n', hb, hv⟩

structure LinkEffect (s s' : State V) (x : Id) (v' : V) : Prop where
  dim : s'.dim = s.dim
  M : s'.M = s.M
  efC : s'.efC = s.efC
  efS : s'.efS = s.efS
  deleted : s'.deleted = s.deleted
  contains : ∀ j, s'.nodes.contains j = (decide (x = j) || s.nodes.contains j)
  old : ∀ j n, s.nodes.get? j = some n → ∃ n', s'.nodes.get? j = some n' ∧ n'.vec = n.vec
  new : ∃ n', s'.nodes.get? x = some n' ∧ n'.vec = v'

/-- whichever way `addLinked` goes for a fresh `x`; the entry point is the old one, or `x` in
    an empty index -/
theorem addLinked_effect {s s' : State V} {x : Id} {v' : V} {level : Nat}
    (hfresh : s.nodes.contains x = false) (h : addLinked m true s x v' level = .ok s') :
    LinkEffect s s' x v' ∧ 0 ≤ s'.maxLevel ∧
    ((s'.entry = s.entry ∧ ¬ (s.entry = 0 ∧ s.nodes.count = 0)) ∨
     (s'.entry = x ∧ s.entry = 0 ∧ s.nodes.count = 0)) := by
  obtain ⟨hp, hd, he, hml⟩ := registered_frame s x v' level
  have hcont := registered_contains s x v' level
  have hnew := registered_get?_self s x v' level
  have hold : ∀ j n, s.nodes.get? j = some n → (registered s x v' level).nodes.get? j = some n := by
    intro j n hn
    rw [registered_get?, if_neg, hn]
    rintro rfl
    simp [IdMap.contains, hn] at hfresh
  rcases addLinked_cases m h with ⟨he0, hc, rfl⟩ | ⟨hc, nx', hins⟩
  · obtain ⟨hn, hd', hml', he', hp'⟩ := withEntry_frame (registered s x v' level) x
    have hp2 := hp.trans hp'
    exact ⟨⟨hp2.dim, hp2.M, hp2.efC, hp2.efS, hd'.trans hd,
        fun j => (congrArg (·.contains j) hn).trans (hcont j),
        fun j n h' => ⟨n, (congrArg (·.get? j) hn).trans (hold j n h'), rfl⟩,
        ⟨_, (congrArg (·.get? x) hn).trans hnew, rfl⟩⟩,
      hml'.symm ▸ hml, Or.inr ⟨he', he0, hc⟩⟩
  · have hsh := insertNode_shape m hnew hins
    have hp2 := hp.trans hsh.params
    exact ⟨⟨hp2.dim, hp2.M, hp2.efC, hp2.efS, hsh.deleted.trans hd,
        fun j => (hsh.contains j).trans (hcont j), fun j n h' => hsh.vec (hold j n h'), hsh.vec hnew⟩,
      hsh.maxLevel ▸ hml, Or.inl ⟨hsh.entry.trans he, hc⟩⟩

/-- the purge `Add` runs first when the entry point is soft-deleted (fix f98dc7f) -/
def purge (s : State V) (pick : Id) : State V :=
  if s.deleted.contains s.entry then flushTo s pick else s

theorem purge_cases (s : State V) (pick : Id) :
    (isDeleted s s.entry = false ∧ purge s pick = s) ∨
    (isDeleted s s.entry = true ∧ purge s pick = flushTo s pick) := by
  unfold purge isDeleted
  cases s.deleted.contains s.entry <;> simp

/-- `Add` of an id that is not soft-deleted: rejected, or purge + `addLinked` (a run that
    completes has not met the unmodelled auto-id case) -/
theorem add_cases {s s' : State V} {x : Id} {v : V} {level : Nat} {pick : Id} {e : Option Err}
    (hxd : s.deleted.contains x = false) (h : add m s x v level pick = .ok (s', e)) :
    (s' = s ∧ e ≠ none ∧ (m.dimOf v ≠ s.dim ∨ m.pre v = none)) ∨
    (e = none ∧ ∃ v' s2 nid, m.dimOf v = s.dim ∧ m.pre v = some v' ∧
      addLinked m true (purge s pick) x v' level = .ok s2 ∧ s' = { s2 with nextID := nid }) := by
  unfold add addWith at h
  by_cases hdim : m.dimOf v = s.dim
  · cases hpre : m.pre v with
    | none =>
      simp only [hdim, hpre, ne_eq, not_true_eq_false, if_false, Except.ok.injEq, Prod.mk.injEq] at h
      exact Or.inl ⟨h.1.symm, by simp [← h.2], Or.inr rfl⟩
    | some v' =>
      have hp : (if s.deleted.contains s.entry = true then flushTo s pick else s) = purge s pick := rfl
      simp only [hdim, hpre, hxd, registerFirst, ne_eq, not_true_eq_false, if_false, Bool.and_false,
        Bool.false_eq_true, hp] at h
      generalize (if (x == 0) = true then _ else x) = key at h
      cases hk : key != x
      · cases hl : addLinked m true (purge s pick) x v' level with
        | error f => simp [hk, hl] at h
        | ok s2 =>
          simp only [hk, hl, Bool.false_eq_true, if_false, Except.ok.injEq, Prod.mk.injEq] at h
          exact Or.inr ⟨h.2.symm, v', s2, _, hdim, rfl, hl, h.1.symm⟩
      · simp [hk] at h   -- a later vector with own id 0: outside the modelled fragment
  · simp only [hdim, ne_eq, not_false_eq_true, if_true, Except.ok.injEq, Prod.mk.injEq] at h
    exact Or.inl ⟨h.1.symm, by simp [← h.2], Or.inl hdim⟩

/-- what a (successful or rejected) `Add` of a fresh id does to the live vertices -/
structure AddEffect (s s' : State V) (x : Id) (v : V) (e : Option Err) : Prop where
  dim : s'.dim = s.dim
  M : s'.M = s.M
  efC : s'.efC = s.efC
  efS : s'.efS = s.efS
  rejected : e ≠ none → s' = s ∧ (m.dimOf v ≠ s.dim ∨ m.pre v = none)
  accepted : e = none → ∃ v', m.dimOf v = s.dim ∧ m.pre v = some v' ∧
    (∀ j, Live s' j ↔ (j = x ∨ Live s j)) ∧
    (∀ j n, Live s j → s.nodes.get? j = some n → ∃ n', s'.nodes.get? j = some n' ∧ n'.vec = n.vec) ∧
    (∃ n', s'.nodes.get? x = some n' ∧ n'.vec = v') ∧
    (∀ j, s'.nodes.contains j = true → j = x ∨ s.nodes.contains j = true)

theorem purge_keepsLive (s : State V) (pick : Id) :
    KeepsLive s (purge s pick) ∧ SameParams s (purge s pick) := by
  rcases purge_cases s pick with ⟨_, h⟩ | ⟨_, h⟩ <;> rw [h]
  · exact ⟨.refl s, .refl s⟩
  · exact ⟨flushTo_keepsLive s pick, flushTo_params s pick⟩

theorem isDeleted_purge {s : State V} {pick j : Id} (h : isDeleted s j = false) :
    isDeleted (purge s pick) j = false := by
  rcases purge_cases s pick with ⟨_, hp⟩ | ⟨_, hp⟩ <;> rw [hp]
  · exact h
  · exact flushTo_isDeleted s pick j

theorem add_effect {s s' : State V} {x : Id} {v : V} {level : Nat} {pick : Id} {e : Option Err}
    (hfresh : s.nodes.contains x = false) (hxd : s.deleted.contains x = false)
    (h : add m s x v level pick = .ok (s', e)) : AddEffect m s s' x v e := by
  rcases add_cases m hxd h with ⟨rfl, he, hwhy⟩ | ⟨rfl, v', s2, nid, hdim, hpre, hlink, rfl⟩
  · exact ⟨rfl, rfl, rfl, rfl, fun _ => ⟨rfl, hwhy⟩, fun hh => absurd hh he⟩
  · obtain ⟨hk, hp⟩ := purge_keepsLive s pick
    have heff := (addLinked_effect m (hk.fresh hfresh) hlink).1
    have hdel2 := isDeleted_congr heff.deleted
    refine ⟨heff.dim.trans hp.dim, heff.M.trans hp.M, heff.efC.trans hp.efC, heff.efS.trans hp.efS,
      fun hh => absurd rfl hh, fun _ => ⟨v', hdim, hpre, fun j => ?_, fun j n hl hn => ?_, heff.new,
        fun j hj => ?_⟩⟩
    · show Live s2 j ↔ (j = x ∨ Live s j)
      rw [← hk.live j]
      simp only [Live, heff.contains, hdel2, Bool.or_eq_true, decide_eq_true_eq]
      constructor
      · rintro ⟨hc | hc, hd⟩
        · exact Or.inl hc.symm
        · exact Or.inr ⟨hc, hd⟩
      · rintro (rfl | hl)
        · exact ⟨Or.inl rfl, isDeleted_purge hxd⟩
        · exact ⟨Or.inr hl.1, hl.2⟩
    · obtain ⟨n1, hn1, hv1⟩ := hk.vec j n hl hn
      obtain ⟨n2, hn2, hv2⟩ := heff.old j n1 hn1
      exact ⟨n2, hn2, hv2.trans hv1⟩
    · have hj' : s2.nodes.contains j = true := hj
      rw [heff.contains] at hj'
      simp only [Bool.or_eq_true, decide_eq_true_eq] at hj'
      exact hj'.imp Eq.symm (hk.sub j)

end

structure WInv (s : State V) : Prop where
  -- tombstones are resident, so a fresh id is not soft-deleted (`not_deleted_of_fresh`)
  del_res : ∀ i, isDeleted s i = true → s.nodes.contains i = true
  entry_res : s.nodes.count ≠ 0 → s.nodes.contains s.entry = true
  -- `maxLevel = -1` (a search answers `[]` at once) only in an empty index
  ml : s.nodes.count ≠ 0 → 0 ≤ s.maxLevel
  -- `addLinked` tells the first vertex by `entry == 0 && count == 0`
  empty_entry : s.nodes.count = 0 → s.entry = 0

theorem init_count (dim M efC efS : Nat) : (HNSW.init dim M efC efS : State V).nodes.count = 0 :=
  (IdMap.count_eq_zero_iff _).2 IdMap.contains_empty

theorem init_winv (dim M efC efS : Nat) : WInv (HNSW.init dim M efC efS : State V) :=
  ⟨fun i hi => by simp [isDeleted, HNSW.init] at hi, fun h => absurd (init_count ..) h,
    fun h => absurd (init_count ..) h, fun _ => rfl⟩

theorem WInv.not_deleted_of_fresh {s : State V} (h : WInv s) {x : Id}
    (hfresh : s.nodes.contains x = false) : s.deleted.contains x = false :=
  Bool.eq_false_iff.2 (mt (h.del_res x) (Bool.eq_false_iff.1 hfresh))

theorem remove_winv (s : State V) (id : Id) (hinv : WInv s) : WInv (remove s id).1 := by
  obtain ⟨hn, he, hm, _, hd⟩ := remove_spec s id
  refine ⟨fun i hi => ?_, hn ▸ he ▸ hinv.entry_res, hn ▸ hm ▸ hinv.ml, hn ▸ he ▸ hinv.empty_entry⟩
  rw [hn]
  rw [hd] at hi
  simp only [Bool.or_eq_true, Bool.and_eq_true, decide_eq_true_eq] at hi
  rcases hi with hi | ⟨rfl, hi⟩
  · exact hinv.del_res i hi
  · exact hi

/-- the elected entry point is live as soon as any vertex is, and `0` otherwise -/
theorem WInv.elected {s : State V} (hinv : WInv s) {e : Id} (he : e ∈ flushChoices s) :
    (liveIds s ≠ [] → Live s e) ∧ (liveIds s = [] → e = 0) := by
  rcases flushChoices_spec s e he with ⟨hde, rfl⟩ | ⟨_, hm | ⟨hnil, rfl⟩⟩
  · -- the kept entry point is live unless the index is empty
    by_cases hc : s.nodes.count = 0
    · exact ⟨fun hne => absurd (liveIds_eq_nil hc) hne, fun _ => hinv.empty_entry hc⟩
    · have hl := mem_liveIds.2 ⟨hinv.entry_res hc, hde⟩
      exact ⟨fun _ => mem_liveIds.1 hl, fun hnil => by rw [hnil] at hl; cases hl⟩
  · exact ⟨fun _ => mem_liveIds.1 hm, fun hnil => by rw [hnil] at hm; cases hm⟩
  · exact ⟨fun hne => absurd hnil hne, fun _ => rfl⟩

theorem flush_winv (s : State V) (e : Id) (hinv : WInv s) (he : e ∈ flushChoices s) :
    WInv (flushTo s e) := by
  obtain ⟨hlive, hzero⟩ := hinv.elected he
  have hne : (flushTo s e).nodes.count ≠ 0 → liveIds s ≠ [] := mt (flushTo_count s e).2
  refine ⟨fun i hi => ?_, fun hc => ?_, fun hc => ?_, fun h0 => ?_⟩
  · rw [flushTo_isDeleted] at hi; cases hi
  · rw [flushTo_entry he, flushTo_contains]; exact hlive (hne hc)
  · obtain ⟨j, hj⟩ := List.exists_mem_of_ne_nil _ (hne hc)
    have h0 := hinv.ml (IdMap.count_ne_zero (mem_liveIds.1 hj).1)
    rw [flushTo_maxLevel]
    simp only [flushMaxLevel]
    split
    · exact h0
    · split
      · exact h0
      · split
        · next hemp => exact absurd (by simpa using hemp) (hne hc)
        · exact Int.natCast_nonneg _
  · rw [flushTo_entry he]; exact hzero ((flushTo_count s e).1 h0)

section
variable (m : Metric V S)

theorem purge_winv {s : State V} {pick : Id} (hinv : WInv s)
    (hpick : s.deleted.contains s.entry = true → pick ∈ flushChoices s) : WInv (purge s pick) := by
  rcases purge_cases s pick with ⟨_, h⟩ | ⟨hd, h⟩ <;> rw [h]
  · exact hinv
  · exact flush_winv s pick hinv (hpick hd)

theorem addLinked_winv {s s' : State V} {x : Id} {v' : V} {level : Nat}
    (hinv : WInv s) (hfresh : s.nodes.contains x = false)
    (h : addLinked m true s x v' level = .ok s') : WInv s' := by
  obtain ⟨⟨_, _, _, _, hd, hcont, _, _⟩, hml, hent⟩ := addLinked_effect m hfresh h
  have hx : s'.nodes.contains x = true := by simp [hcont]
  refine ⟨fun i hi => ?_, fun _ => ?_, fun _ => hml, fun h0 => absurd h0 (IdMap.count_ne_zero hx)⟩
  · simp [hcont, hinv.del_res i (isDeleted_congr hd i ▸ hi)]
  · rcases hent with ⟨he, hc⟩ | ⟨he, _⟩
    · have hcnt : s.nodes.count ≠ 0 := fun h0 => hc ⟨hinv.empty_entry h0, h0⟩
      simp [hcont, he, hinv.entry_res hcnt]
    · rw [he]; exact hx

theorem add_winv {s s' : State V} {x : Id} {v : V} {level : Nat} {pick : Id} {e : Option Err}
    (hinv : WInv s) (hfresh : s.nodes.contains x = false)
    (hpick : s.deleted.contains s.entry = true → pick ∈ flushChoices s)
    (h : add m s x v level pick = .ok (s', e)) : WInv s' := by
  rcases add_cases m (hinv.not_deleted_of_fresh hfresh) h with
    ⟨rfl, _⟩ | ⟨_, v', s2, nid, _, _, hlink, rfl⟩
  · exact hinv
  · have h2 := addLinked_winv m (purge_winv hinv hpick) ((purge_keepsLive s pick).1.fresh hfresh) hlink
    exact ⟨h2.del_res, h2.entry_res, h2.ml, h2.empty_entry⟩

/-- the list inside the model's `freshAdds` (definitionally) -/
def addedIds (ops : List (Op V)) : List Id := Flat.addedIds (ops.map Op.toFlat)

theorem addedIds_cons_add (id : Id) (v : V) (l : Nat) (p : Id) (rest : List (Op V)) :
    addedIds (Op.add id v l p :: rest) = id :: addedIds rest := rfl
theorem addedIds_cons_remove (id : Id) (rest : List (Op V)) :
    addedIds (Op.remove id :: rest : List (Op V)) = addedIds rest := rfl
theorem addedIds_cons_flush (e : Id) (rest : List (Op V)) :
    addedIds (Op.flush e :: rest : List (Op V)) = addedIds rest := rfl

theorem along_cons (p : State V → Op V → Bool) (fin : State V → Bool) (s : State V) (op : Op V)
    (rest : List (Op V)) :
    along m p fin s (op :: rest) =
      (p s op && match step m s op with | .ok s' => along m p fin s' rest | .error _ => true) := rfl

/-- The induction over histories: `R` relates a state, the history still to run and
    whatever the caller tracks along it (`f` updates that with each operation). -/
theorem run_induct {α : Type} (R : State V → List (Op V) → α → Prop) (f : α → Op V → α)
    (hstep : ∀ s op rest a s', R s (op :: rest) a → step m s op = .ok s' → R s' rest (f a op)) :
    ∀ (ops : List (Op V)) (s : State V) (a : α) (s' : State V),
      R s ops a → run m s ops = .ok s' → R s' [] (ops.foldl f a) := by
  intro ops
  induction ops with
  | nil =>
    intro s a s' hR hrun
    simp only [run, Except.ok.injEq] at hrun
    exact hrun ▸ hR
  | cons op rest ih =>
    intro s a s' hR hrun
    simp only [run] at hrun
    split at hrun
    · next s1 hs1 => exact ih s1 _ s' (hstep s op rest a s1 hR hs1) hrun
    · cases hrun

def FreshFor (s : State V) (ops : List (Op V)) : Prop :=
  (addedIds ops).Nodup ∧ ∀ i ∈ addedIds ops, s.nodes.contains i = false

theorem validPicks_cons {s s' : State V} {op : Op V} {rest : List (Op V)}
    (h : validPicks m s (op :: rest) = true) (hs : step m s op = .ok s') :
    (∀ e, op = .flush e → e ∈ flushChoices s) ∧
    (∀ id v l p, op = .add id v l p → addFlushes s id = true → p ∈ flushChoices s) ∧
    validPicks m s' rest = true := by
  simp only [validPicks, along_cons, hs, Bool.and_eq_true] at h
  refine ⟨fun e he => ?_, fun id v l p he hfl => ?_, h.2⟩
  · subst he; simpa using h.1
  · subst he; simpa [hfl] using h.1

theorem step_winv {s s' : State V} {op : Op V} {rest : List (Op V)}
    (hinv : WInv s) (hfresh : FreshFor s (op :: rest)) (hv : validPicks m s (op :: rest) = true)
    (hs : step m s op = .ok s') :
    WInv s' ∧ SameParams s s' ∧ FreshFor s' rest ∧ validPicks m s' rest = true := by
  obtain ⟨hpf, hpa, hv'⟩ := validPicks_cons m hv hs
  -- the ids still to be added stay fresh when the step brings no other vertex than its own
  have hrest : (∀ i ∈ addedIds rest, i ∈ addedIds (op :: rest)) →
      (∀ j, s'.nodes.contains j = true → s.nodes.contains j = true ∨ j ∉ addedIds rest) →
      (addedIds rest).Nodup → FreshFor s' rest := by
    intro hsub hres hnd
    refine ⟨hnd, fun i hi => ?_⟩
    cases hc : s'.nodes.contains i with
    | false => rfl
    | true =>
      rcases hres i hc with h1 | h1
      · rw [hfresh.2 i (hsub i hi)] at h1; cases h1
      · exact absurd hi h1
  cases op with
  | add x v level pk =>
    simp only [step] at hs
    split at hs
    · next s1 e hadd =>
      simp only [Except.ok.injEq] at hs; subst hs
      have hnd := List.nodup_cons.1 (addedIds_cons_add x v level pk rest ▸ hfresh.1)
      have hxf : s.nodes.contains x = false := hfresh.2 x (by simp [addedIds_cons_add])
      have hxd := hinv.not_deleted_of_fresh hxf
      have heff := add_effect m hxf hxd hadd
      refine ⟨add_winv m hinv hxf (fun hd => hpa x v level pk rfl (by simp [addFlushes, hd])) hadd,
        ⟨heff.dim, heff.M, heff.efC, heff.efS⟩,
        hrest (fun i hi => by simp [addedIds_cons_add, hi]) (fun j hj => ?_) hnd.2, hv'⟩
      cases he : e with
      | some err => exact Or.inl ((heff.rejected (by simp [he])).1 ▸ hj)
      | none =>
        obtain ⟨_, _, _, _, _, _, hc⟩ := heff.accepted he
        exact (hc j hj).symm.imp id fun (hjx : j = x) => hjx ▸ hnd.1
    · cases hs
  | remove id =>
    simp only [step, Except.ok.injEq] at hs; subst hs
    obtain ⟨hn, _, _, hp, _⟩ := remove_spec s id
    exact ⟨remove_winv s id hinv, hp, hrest (fun _ hi => hi) (fun j hj => Or.inl (hn ▸ hj)) hfresh.1, hv'⟩
  | flush e =>
    simp only [step, Except.ok.injEq] at hs; subst hs
    exact ⟨flush_winv s e hinv (hpf e rfl), flushTo_params s e,
      hrest (fun _ hi => hi) (fun j hj => Or.inl ((flushTo_keepsLive s e).sub j hj)) hfresh.1, hv'⟩

theorem run_winv (ops : List (Op V)) (s0 s : State V) (hinv : WInv s0) (hfresh : FreshFor s0 ops)
    (hv : validPicks m s0 ops = true) (hrun : run m s0 ops = .ok s) : WInv s ∧ s.dim = s0.dim := by
  have := run_induct m
    (fun s ops (_ : Unit) => (WInv s ∧ s.dim = s0.dim) ∧ FreshFor s ops ∧ validPicks m s ops = true)
    (fun a _ => a)
    (fun s op rest a s' ⟨⟨hw, hd⟩, hf, hv⟩ hs =>
      let ⟨hw', hp, hf', hv'⟩ := step_winv m hw hf hv hs
      ⟨⟨hw', hp.dim.trans hd⟩, hf', hv'⟩)
    ops s0 () s ⟨⟨hinv, rfl⟩, hfresh, hv⟩ hrun
  exact this.1

end
end Comet.HNSW
