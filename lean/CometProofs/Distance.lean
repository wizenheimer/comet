/-
  Lemmas for C18: the ℝ instance of the distance model (Comet/Distance.lean)
  and its links to Mathlib's Euclidean space (`dist`, `‖·‖`, `inner`).
-/
import Mathlib.Analysis.InnerProductSpace.PiL2
import Mathlib.Geometry.Euclidean.Angle.Unoriented.Basic
import Comet.Distance
namespace Comet.Dist

/-- the ℝ instance of the scalar operations: the *meaning* of distance.go's arithmetic -/
noncomputable def realOps : Ops ℝ where
  zero := 0
  one := 1
  add := (· + ·)
  sub := (· - ·)
  mul := (· * ·)
  div := (· / ·)
  neg := fun x => -x
  sqrt := Real.sqrt
  lt := fun a b => decide (a < b)
  isZero := fun x => decide (x = 0)
  ofNat := fun n => (n : ℝ)
  ltInf := fun _ => true

/-- the point of `EuclideanSpace ℝ (Fin n)` a list denotes (used with `a.length = n`) -/
noncomputable def vecN (n : ℕ) (a : List ℝ) : EuclideanSpace ℝ (Fin n) :=
  WithLp.toLp 2 fun i : Fin n => a.getD i 0

theorem sumSqDiff_eq (a b : List ℝ) :
    sumSqDiff realOps a b = (List.zipWith (fun x y => (x - y) ^ 2) a b).sum := by
  simp only [sq, List.sum_eq_foldl]
  rfl

theorem dot_eq (a b : List ℝ) : dot realOps a b = (List.zipWith (· * ·) a b).sum :=
  List.sum_eq_foldl.symm

theorem sumSq_eq_dot (a : List ℝ) : sumSq realOps a = dot realOps a a := by
  show a.foldl (fun s x => s + x * x) 0 = (List.zipWith (· * ·) a a).foldl (· + ·) 0
  rw [List.zipWith_self, List.foldl_map]

theorem sumSq_eq (a : List ℝ) : sumSq realOps a = (a.map (· ^ 2)).sum := by
  rw [sumSq_eq_dot, dot_eq, List.zipWith_self]
  simp only [sq]

theorem zipWith_sum_eq_fin (g : ℝ → ℝ → ℝ) (n : ℕ) (a b : List ℝ) (ha : a.length = n)
    (hb : b.length = n) :
    (List.zipWith g a b).sum = ∑ i : Fin n, g (a.getD i 0) (b.getD i 0) := by
  induction a generalizing b n with
  | nil => subst ha; rfl
  | cons x a ih =>
    cases b with
    | nil => subst ha; cases hb
    | cons y b =>
      subst ha
      rw [List.length_cons, Fin.sum_univ_succ, List.zipWith_cons_cons, List.sum_cons,
        ih a.length b rfl (Nat.succ.inj hb)]
      rfl

theorem sumSqDiff_nonneg (a b : List ℝ) : 0 ≤ sumSqDiff realOps a b := by
  rw [sumSqDiff_eq]
  apply List.sum_nonneg
  intro x hx
  obtain ⟨i, hi, rfl⟩ := List.mem_iff_getElem.1 hx
  simp only [List.getElem_zipWith]
  positivity

theorem sumSq_nonneg (a : List ℝ) : 0 ≤ sumSq realOps a := by
  rw [sumSq_eq]
  apply List.sum_nonneg
  intro x hx
  obtain ⟨y, _, rfl⟩ := List.mem_map.1 hx
  positivity

theorem euclid_eq_dist (n : ℕ) (a b : List ℝ) (ha : a.length = n) (hb : b.length = n) :
    euclid realOps a b = dist (vecN n a) (vecN n b) := by
  rw [EuclideanSpace.dist_eq]
  show Real.sqrt (sumSqDiff realOps a b) = _
  rw [sumSqDiff_eq, zipWith_sum_eq_fin _ n a b ha hb]
  congr 1
  refine Finset.sum_congr rfl fun i _ => ?_
  rw [Real.dist_eq, sq_abs]
  rfl

theorem dot_eq_inner (n : ℕ) (a b : List ℝ) (ha : a.length = n) (hb : b.length = n) :
    dot realOps a b = inner ℝ (vecN n a) (vecN n b) := by
  rw [dot_eq, zipWith_sum_eq_fin _ n a b ha hb, vecN, vecN, EuclideanSpace.inner_toLp_toLp]
  exact Finset.sum_congr rfl fun i _ => mul_comm _ _

theorem norm_eq_norm (n : ℕ) (a : List ℝ) (ha : a.length = n) :
    norm realOps a = ‖vecN n a‖ := by
  show Real.sqrt (sumSq realOps a) = _
  rw [sumSq_eq_dot, dot_eq_inner n a a ha ha, real_inner_self_eq_norm_sq,
    Real.sqrt_sq (_root_.norm_nonneg _)]

theorem norm_nonneg' (a : List ℝ) : 0 ≤ norm realOps a := Real.sqrt_nonneg _

theorem norm_sq (a : List ℝ) : norm realOps a ^ 2 = sumSq realOps a :=
  Real.sq_sqrt (sumSq_nonneg a)

theorem sumSq_eq_zero_iff (a : List ℝ) : sumSq realOps a = 0 ↔ ∀ x ∈ a, x = 0 := by
  rw [sumSq_eq]
  induction a with
  | nil => exact ⟨fun _ => nofun, fun _ => rfl⟩
  | cons x t ih =>
    have ht : 0 ≤ (t.map (· ^ 2)).sum := sumSq_eq t ▸ sumSq_nonneg t
    rw [List.map_cons, List.sum_cons, add_eq_zero_iff_of_nonneg (sq_nonneg x) ht, sq_eq_zero_iff,
      ih, List.forall_mem_cons]

theorem norm_eq_zero_iff (a : List ℝ) : norm realOps a = 0 ↔ ∀ x ∈ a, x = 0 := by
  show Real.sqrt (sumSq realOps a) = 0 ↔ _
  rw [Real.sqrt_eq_zero (sumSq_nonneg a), sumSq_eq_zero_iff]

theorem dot_comm (a b : List ℝ) : dot realOps a b = dot realOps b a := by
  rw [dot_eq, dot_eq, List.zipWith_comm]
  simp only [mul_comm]

theorem dot_map_mul (a b : List ℝ) (s t : ℝ) :
    dot realOps (a.map (· * s)) (b.map (· * t)) = s * t * dot realOps a b := by
  rw [dot_eq, dot_eq, List.zipWith_map, ← List.sum_zipWith_distrib_left]
  exact congrArg (fun g => (List.zipWith g a b).sum) (funext₂ fun x y => by ring)

theorem sumSq_map_mul (a : List ℝ) (s : ℝ) :
    sumSq realOps (a.map (· * s)) = s ^ 2 * sumSq realOps a := by
  rw [sumSq_eq_dot, sumSq_eq_dot, dot_map_mul]; ring

theorem norm_map_mul (a : List ℝ) (s : ℝ) (hs : 0 ≤ s) :
    norm realOps (a.map (· * s)) = s * norm realOps a := by
  show Real.sqrt (sumSq realOps _) = s * Real.sqrt (sumSq realOps a)
  rw [sumSq_map_mul, Real.sqrt_mul (sq_nonneg s), Real.sqrt_sq hs]

theorem norm_pos (a : List ℝ) (h : ∃ x ∈ a, x ≠ 0) : 0 < norm realOps a := by
  obtain ⟨x, hx, hne⟩ := h
  exact (norm_nonneg' a).lt_of_ne' fun h0 => hne ((norm_eq_zero_iff a).1 h0 x hx)

theorem norm_unit (a : List ℝ) (h : norm realOps a ≠ 0) :
    norm realOps (a.map (· * (1 / norm realOps a))) = 1 := by
  rw [norm_map_mul a _ (one_div_nonneg.2 (norm_nonneg' a)), one_div_mul_cancel h]

theorem cosPre_eq (a : List ℝ) :
    cosPre realOps a =
      if norm realOps a = 0 then none else some (a.map (· * (1 / norm realOps a))) := by
  show (if decide (norm realOps a = 0) = true then none
    else some (a.map (· * (1 / norm realOps a)))) = _
  simp only [decide_eq_true_eq]

theorem normalize_eq (a : List ℝ) :
    normalize realOps a = if norm realOps a = 0 then a else a.map (· * (1 / norm realOps a)) := by
  show (if decide (norm realOps a = 0) = true then a else a.map (· * (1 / norm realOps a))) = _
  simp only [decide_eq_true_eq]

theorem clamp_eq (d : ℝ) : clamp realOps d = max (-1) (min 1 d) := by
  show (if decide (1 < d) = true then 1 else if decide (d < -1) = true then -1 else d) = _
  simp only [decide_eq_true_eq]
  split
  next h => rw [min_eq_left h.le, max_eq_right (by norm_num)]
  next h =>
    rw [min_eq_right (not_lt.1 h)]
    split
    next h2 => rw [max_eq_left h2.le]
    next h2 => rw [max_eq_right (not_lt.1 h2)]

theorem cosine_eq (a b : List ℝ) :
    cosine realOps a b = 1 - max (-1) (min 1 (dot realOps a b)) := by
  show (1 : ℝ) - clamp realOps (dot realOps a b) = _
  rw [clamp_eq]

/-- Cauchy–Schwarz for the model's dot product and norm (through Mathlib's) -/
theorem abs_dot_le (a b : List ℝ) (h : a.length = b.length) :
    |dot realOps a b| ≤ norm realOps a * norm realOps b := by
  rw [dot_eq_inner b.length a b h rfl, norm_eq_norm b.length a h, norm_eq_norm b.length b rfl]
  exact abs_real_inner_le_norm _ _

end Comet.Dist
