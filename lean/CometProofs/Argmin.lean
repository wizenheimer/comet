/-
  The arg-min loop of `encode`, `encodeResidual` and, through `IVF.argminLoop_eq`,
  `FindNearestCentroidIndex`.
-/
import Comet.Vector.PQ
import CometProofs.Order
namespace Comet.PQ

variable {S : Type}

/-- Without any order assumption: the loop returns its start index or a position it visited,
    hence an index below any bound on both. -/
theorem argminLoop_lt (lt : S → S → Bool) (ds : List S) (k : Nat) (best : S) (bi n : Nat)
    (hb : bi < n) (hk : k + ds.length ≤ n) : argminLoop lt ds k best bi < n := by
  induction ds generalizing k best bi with
  | nil => exact hb
  | cons d ds ih =>
    rw [List.length_cons, ← Nat.add_assoc, Nat.add_right_comm] at hk
    rw [argminLoop]
    cases lt d best
    · exact ih _ _ _ hb hk
    · exact ih _ _ _ (Nat.lt_of_lt_of_le (Nat.lt_succ_self k)
        (Nat.le_trans (Nat.le_add_right ..) hk)) hk

theorem argmin_lt (lt : S → S → Bool) (inf : S) (ds : List S) (h : ds ≠ []) :
    argmin lt inf ds < ds.length :=
  argminLoop_lt lt ds 0 inf 0 _ (List.length_pos_iff.2 h) (Nat.le_of_eq (Nat.zero_add _))

/-- For a total preorder: either nothing beat the start value, or the result is the FIRST
    minimiser (the Go loops compare with a strict `<`). -/
theorem argminLoop_spec {sc : Scalar S} (ord : sc.Ordered) (ds : List S) (k : Nat) (best : S)
    (bi : Nat) :
    (argminLoop sc.lt ds k best bi = bi ∧ ∀ d ∈ ds, sc.lt d best = false) ∨
    (∃ j, ∃ hj : j < ds.length, argminLoop sc.lt ds k best bi = k + j ∧
        sc.lt ds[j] best = true ∧ (∀ d ∈ ds, sc.lt d ds[j] = false) ∧
        ∀ d ∈ ds.take j, sc.lt ds[j] d = true) := by
  induction ds generalizing k best bi with
  | nil => exact .inl ⟨rfl, nofun⟩
  | cons d ds ih =>
    rw [argminLoop]
    cases hd : sc.lt d best
    · -- `d` does not beat the running minimum: the answer for the tail stands
      rw [if_neg Bool.false_ne_true]
      rcases ih (k + 1) best bi with ⟨h1, h2⟩ | ⟨j, hj, h1, h2, h3, h4⟩
      · exact .inl ⟨h1, List.forall_mem_cons.2 ⟨hd, h2⟩⟩
      · have hjd := ord.lt_of_lt_of_le h2 (ord.lt_false_iff.1 hd)
        exact .inr ⟨j + 1, Nat.succ_lt_succ hj, h1.trans (Nat.succ_add_eq_add_succ k j), h2,
          List.forall_mem_cons.2 ⟨ord.lt_asymm hjd, h3⟩, List.forall_mem_cons.2 ⟨hjd, h4⟩⟩
    · -- `d` becomes the running minimum: it is the answer unless the tail beats it
      rw [if_pos rfl]
      rcases ih (k + 1) d k with ⟨h1, h2⟩ | ⟨j, hj, h1, h2, h3, h4⟩
      · exact .inr ⟨0, Nat.zero_lt_succ _, h1, hd,
          List.forall_mem_cons.2 ⟨ord.lt_irrefl d, h2⟩, nofun⟩
      · exact .inr ⟨j + 1, Nat.succ_lt_succ hj, h1.trans (Nat.succ_add_eq_add_succ k j),
          ord.lt_trans h2 hd,
          List.forall_mem_cons.2 ⟨ord.lt_asymm h2, h3⟩, List.forall_mem_cons.2 ⟨h2, h4⟩⟩

/-- `hfin` excludes the case in which nothing beats the `+Inf` start value; `IVF.argmin_spec`
    covers it by `top` instead. -/
theorem argmin_spec {α : Type} {sc : Scalar S} (ord : sc.Ordered) (inf : S) (f : α → S)
    (l : List α) (hfin : ∃ w ∈ l, sc.lt (f w) inf = true) :
    ∃ hc : argmin sc.lt inf (l.map f) < l.length,
      (∀ i (hi : i < l.length), sc.lt (f l[i]) (f l[argmin sc.lt inf (l.map f)]) = false) ∧
      (∀ i (hi : i < argmin sc.lt inf (l.map f)),
        sc.lt (f l[argmin sc.lt inf (l.map f)]) (f (l[i]'(Nat.lt_trans hi hc))) = true) := by
  rcases argminLoop_spec ord (l.map f) 0 inf 0 with ⟨_, h2⟩ | ⟨j, hj, h1, _, h3, h4⟩
  · obtain ⟨w, hw, hlt⟩ := hfin
    rw [h2 _ (List.mem_map_of_mem hw)] at hlt; cases hlt
  · obtain rfl : argmin sc.lt inf (l.map f) = j := h1.trans (Nat.zero_add j)
    have hj' : argmin sc.lt inf (l.map f) < l.length := List.length_map f ▸ hj
    rw [List.getElem_map] at h3 h4
    rw [← List.map_take] at h4
    exact ⟨hj', fun i hi => h3 _ (List.mem_map_of_mem (List.getElem_mem hi)),
      fun i hi => h4 _ (List.mem_map_of_mem (List.mem_take_iff_getElem.2
        ⟨i, Nat.lt_min.2 ⟨hi, Nat.lt_trans hi hj'⟩, rfl⟩))⟩

theorem argmin_eq_of_strict_min {α : Type} {sc : Scalar S} (ord : sc.Ordered) (inf : S)
    (f : α → S) (l : List α) (j : Nat) (hj : j < l.length) (hfin : sc.lt (f l[j]) inf = true)
    (hmin : ∀ i (hi : i < l.length), i ≠ j → sc.lt (f l[j]) (f l[i]) = true) :
    argmin sc.lt inf (l.map f) = j := by
  obtain ⟨hc, h1, _⟩ := argmin_spec ord inf f l ⟨_, List.getElem_mem hj, hfin⟩
  apply Classical.byContradiction
  intro hne
  have := h1 j hj
  rw [hmin _ hc hne] at this
  cases this

end Comet.PQ
