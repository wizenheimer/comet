/-
  The asymmetric-distance identity for the model's own definitions, for any
  arithmetic whose addition is associative with a two-sided zero (core Lean only;
  instantiated at commutative rings and at ℝ in CometProofs/ADCReal.lean):

      Σ_m table[m][code[m]]  =  ‖q − recon(code)‖²

  The left side is summed subspace by subspace (each table entry is itself a left fold
  over the components), the right side is one left fold over all components: the two
  agree by associativity only.
-/
import CometProofs.PQ
namespace Comet.PQ

variable {S : Type}

structure Ops.Laws (o : Ops S) : Prop where
  add_assoc : ∀ a b c, o.add (o.add a b) c = o.add a (o.add b c)
  zero_add : ∀ a, o.add o.zero a = a
  add_zero : ∀ a, o.add a o.zero = a

variable {o : Ops S} (L : o.Laws)
include L

theorem foldl_add_eq (a : S) (l : List S) :
    l.foldl o.add a = o.add a (l.foldl o.add o.zero) := by
  induction l generalizing a with
  | nil => exact (L.add_zero a).symm
  | cons x xs ih =>
    rw [List.foldl_cons, List.foldl_cons, ih (o.add a x), ih (o.add o.zero x), L.zero_add,
      L.add_assoc]

theorem sqDist_append (a1 a2 c1 c2 : List S) (h : a1.length = c1.length) :
    sqDist o (a1 ++ a2) (c1 ++ c2) = o.add (sqDist o a1 c1) (sqDist o a2 c2) := by
  unfold sqDist
  rw [List.zipWith_append h, List.foldl_append, foldl_add_eq L]

omit L in
theorem sqDist_nil (o : Ops S) : sqDist o ([] : List S) [] = o.zero := rfl

/-- the segment of `q` covered by subspaces `i, …, i+n−1` -/
def seg (dsub : Nat) (q : List S) (i n : Nat) : List S := (q.drop (i * dsub)).take (n * dsub)

omit L in
theorem seg_succ (dsub : Nat) (q : List S) (i n : Nat) :
    seg dsub q i (n + 1) = subvec dsub i q ++ seg dsub q (i + 1) n := by
  unfold seg subvec
  have h1 : (n + 1) * dsub = dsub + n * dsub := by rw [Nat.add_mul, Nat.one_mul, Nat.add_comm]
  rw [h1, List.take_add, List.drop_drop]
  congr 3
  rw [Nat.add_mul, Nat.one_mul]

omit L in
theorem subvec_length (dsub : Nat) (q : List S) (i : Nat) (h : (i + 1) * dsub ≤ q.length) :
    (subvec dsub i q).length = dsub := by
  rw [subvec, List.length_take, List.length_drop]
  exact Nat.min_eq_left (Nat.le_sub_of_add_le' (Nat.succ_mul i dsub ▸ h))

/-- The identity, for the sub-sum starting at subspace `i` with accumulator `acc`. -/
theorem adcSumFrom_eq (dsub : Nat) (q : List S) (cbs : List (List (List S)))
    (hw : ∀ cb ∈ cbs, ∀ w ∈ cb, w.length = dsub) (i : Nat)
    (hq : (i + cbs.length) * dsub ≤ q.length) (code : List Nat) (acc s : S)
    (h : adcSumFrom o acc (tablesFrom o dsub q i cbs) code = some s) :
    ∃ r, recon cbs code = some r ∧
      s = o.add acc (sqDist o (seg dsub q i cbs.length) r) := by
  induction cbs generalizing i code acc with
  | nil =>
    cases h
    refine ⟨[], rfl, ?_⟩
    rw [sqDist, List.zipWith_nil_right]
    exact (L.add_zero _).symm
  | cons cb rest ih =>
    cases code with
    | nil => cases h
    | cons c cs =>
      rw [tablesFrom, adcSumFrom, List.getElem?_map] at h
      cases hc : cb[c]? with
      | none => rw [hc] at h; cases h
      | some w =>
        rw [hc] at h
        -- `i + (rest.length + 1) = (i + 1) + rest.length`: the tail starts at subspace `i + 1`
        rw [List.length_cons, ← Nat.add_assoc, Nat.add_right_comm] at hq
        obtain ⟨r, hr1, hr2⟩ :=
          ih (fun cb' h' => hw cb' (List.mem_cons_of_mem _ h')) (i + 1) hq cs _ h
        refine ⟨w ++ r, by simp only [recon, hc, hr1], ?_⟩
        have hsl : (subvec dsub i q).length = w.length :=
          (subvec_length dsub q i (Nat.le_trans (Nat.mul_le_mul_right _ (Nat.le_add_right ..))
            hq)).trans (hw cb List.mem_cons_self w (List.mem_of_getElem? hc)).symm
        rw [hr2, List.length_cons, seg_succ, sqDist_append L _ _ _ _ hsl, L.add_assoc]

/-- **ADC identity** for the model's definitions: when the dimension is `M·dsub` and the
    codebooks are well-formed, the table sum of a code is the squared distance between the
    query and the reconstruction of the code. -/
theorem adcSum_eq_sqDist_recon (M ksub dsub : Nat) (cbs : List (List (List S)))
    (hwf : cbWF M ksub dsub cbs = true) (q : List S) (hq : q.length = M * dsub)
    (code : List Nat) (s : S) (h : adcSum o (tables o dsub cbs q) code = some s) :
    ∃ r, recon cbs code = some r ∧ s = sqDist o q r := by
  obtain ⟨hlen, hall⟩ := (cbWF_iff M ksub dsub cbs).1 hwf
  obtain ⟨r, hr1, hr2⟩ := adcSumFrom_eq L dsub q cbs (fun cb h => (hall cb h).2) 0
    (by rw [Nat.zero_add, hlen, hq]; exact Nat.le_refl _) code o.zero s h
  refine ⟨r, hr1, ?_⟩
  rw [hr2, L.zero_add]
  congr 1
  simp [seg, hlen, ← hq]

end Comet.PQ
