/-
  Lemmas for C04: the ingredients of the filters read through the invariant
  `InvS` — consequences of the side conditions, the existence bitmap, the bitmap under a
  categorical key, the `in` / `not_in` folds, the numeric comparison (the invariant:
  CometProofs/MetaInv.lean; the filters themselves: CometProofs/MetaQuery.lean).
-/
import CometProofs.MetaInv
namespace Comet.Meta
open Comet

theorem get_some_iff {D : Docs} {d : Nat} {f : String} {v : Value} :
    D.get d f = some v ↔ ∃ doc, D.lookup d = some doc ∧ doc.lookup f = some v := by
  simp only [Docs.get]
  cases D.lookup d <;> simp

theorem get_of_lookup {D : Docs} {d : Nat} {doc : Doc} (h : D.lookup d = some doc) :
    D.get d = fun f => doc.lookup f := by
  funext f; simp [Docs.get, h]

theorem conform_nodup {sp : Spec} (hc : conform sp = true) : (sp.docs.map (·.1)).Nodup := by
  simp only [conform, Bool.and_eq_true, decide_eq_true_eq] at hc
  exact hc.2

theorem conform_get {sp : Spec} (hc : conform sp = true) {d : Nat} {f : String} {v : Value}
    (hg : sp.docs.get d f = some v) : v.isInt = sp.numSeen.contains f ∧ noColon f = true := by
  obtain ⟨doc, hd, hf⟩ := get_some_iff.mp hg
  simp only [conform, Bool.and_eq_true, decide_eq_true_eq, List.all_eq_true, beq_iff_eq] at hc
  exact (hc.1 (d, doc) (mem_of_lookup hd)).1 (f, v) (mem_of_lookup hf)

theorem fieldAbsent_get {D : Docs} {f : String} (ha : fieldAbsent D f = true) (d : Nat) :
    D.get d f = none := by
  cases hg : D.get d f with
  | none => rfl
  | some v =>
    obtain ⟨doc, hd, hf⟩ := get_some_iff.mp hg
    simp only [fieldAbsent, List.all_eq_true] at ha
    have := ha (d, doc) (mem_of_lookup hd)
    simp [hf] at this

theorem noMixed_of {D : Docs} {f : String} {os : List Operand}
    (hm : mixedSignF.mixed D f os = false) {d : Nat} {y : I64} (hg : D.get d f = some (.int y))
    (x : I64) (txt : String) (ho : Operand.int x txt ∈ os) : y.msb = x.msb := by
  obtain ⟨doc, hd, hf⟩ := get_some_iff.mp hg
  simp only [mixedSignF.mixed] at hm
  have h1 := (List.any_eq_false.mp hm) (d, doc) (mem_of_lookup hd)
  simp only [hf] at h1
  have h2 := (List.any_eq_false.mp (by simpa using h1)) (Operand.int x txt) ho
  simp only [bne_iff_ne, ne_eq, Decidable.not_not] at h2
  exact h2.symm

theorem mem_foldl_or (p : String → Bool) (d : Nat) (l : List (String × RB)) : ∀ acc : RB,
    d ∈ l.foldl (fun acc kb => if p kb.1 then RB.or acc kb.2 else acc) acc ↔
      d ∈ acc ∨ ∃ kb, kb ∈ l ∧ p kb.1 = true ∧ d ∈ kb.2 := by
  induction l with
  | nil => simp
  | cons kb r ih =>
    intro acc
    rw [List.foldl_cons, ih]
    simp only [List.mem_cons, exists_eq_or_imp]
    split
    next hp => simp only [RB.mem_or, hp, true_and, or_assoc]
    next hp => simp only [hp, Bool.false_eq_true, false_and, false_or]

theorem numContains {s : State} {sp : Spec} (h : InvS s sp) (f : String) :
    sp.numSeen.contains f = (s.numeric.lookup f).isSome := by
  apply Bool.eq_iff_iff.mpr
  rw [h.numKeys f, List.contains_iff_mem]

theorem get_str_of_cat {s : State} {sp : Spec} (h : InvS s sp) {f : String}
    (hn : s.numeric.lookup f = none) {d : Nat} {w : Value} (hg : sp.docs.get d f = some w) :
    ∃ v, w = .str v := by
  cases w with
  | str v => exact ⟨v, rfl⟩
  | int y =>
    have := (h.numKeys f).mpr (h.intSeen d f y hg)
    rw [hn] at this; simp at this

theorem get_int_of_num {sp : Spec} (hc : conform sp = true) {f : String}
    (hN : sp.numSeen.contains f = true) {d : Nat} {w : Value} (hg : sp.docs.get d f = some w) :
    ∃ y, w = .int y := by
  have := (conform_get hc hg).1
  rw [hN] at this
  cases w with
  | int y => exact ⟨y, rfl⟩
  | str v => simp [Value.isInt] at this

theorem mem_eBM {s : State} {sp : Spec} (h : InvS s sp) {f : String} {b : BSI.T}
    (hb : s.numeric.lookup f = some b) (d : Nat) :
    d ∈ b.eBM ↔ ∃ y, sp.docs.get d f = some (.int y) := by
  rw [(h.rep f b hb).ebm d, Option.isSome_iff_exists]
  exact exists_congr fun y => intOf_eq_some

theorem mem_getExistence {s : State} {sp : Spec} (h : InvS s sp) (hc : conform sp = true)
    (f : String) (hf : noColon f = true) (d : Nat) :
    d ∈ getExistenceBitmap s f ↔ (sp.docs.get d f).isSome = true := by
  unfold getExistenceBitmap
  cases hn : s.numeric.lookup f with
  | some b =>
    simp only
    rw [mem_eBM h hn d, Option.isSome_iff_exists]
    exact ⟨fun ⟨y, hy⟩ => ⟨_, hy⟩,
      fun ⟨w, hw⟩ => (get_int_of_num hc ((numContains h f).trans (congrArg Option.isSome hn)) hw).elim
        fun y e => ⟨y, e ▸ hw⟩⟩
  | none =>
    simp only
    rw [mem_foldl_or (fun key => hasPrefix key (f ++ ":")) d]
    simp only [List.not_mem_nil, false_or]
    constructor
    · rintro ⟨⟨key, bm⟩, hm, hp, hd⟩
      obtain ⟨f', v, rfl, hg⟩ := (h.cat key bm (lookup_of_mem h.catKeys hm) d).mp hd
      obtain rfl := (hasPrefix_keyOf hf (conform_get hc hg).2).mp hp
      simp [hg]
    · intro hi
      obtain ⟨w, hw⟩ := Option.isSome_iff_exists.mp hi
      obtain ⟨v, rfl⟩ := get_str_of_cat h hn hw
      obtain ⟨bm, hbm⟩ := Option.isSome_iff_exists.mp (h.catHas d f v hw)
      exact ⟨(keyOf f v, bm), mem_of_lookup hbm, (hasPrefix_keyOf hf hf).mpr rfl,
        (h.cat _ bm hbm d).mpr ⟨f, v, rfl, hw⟩⟩

def catSet (s : State) (key : String) : RB :=
  match catLookup s key with
  | some bm => bm
  | none => []

theorem mem_catSet_iff {s : State} {sp : Spec} (h : InvS s sp) (key : String) (d : Nat) :
    d ∈ catSet s key ↔ ∃ f v, keyOf f v = key ∧ sp.docs.get d f = some (.str v) := by
  unfold catSet catLookup
  rw [← h.mem_cat]
  cases s.categorical.lookup key <;> rfl

theorem mem_catSet_key {s : State} {sp : Spec} (h : InvS s sp) (hc : conform sp = true)
    (f : String) (hf : noColon f = true) (t : String) (d : Nat) :
    d ∈ catSet s (keyOf f t) ↔ sp.docs.get d f = some (.str t) := by
  refine (mem_catSet_iff h _ d).trans ⟨fun ⟨f', v', hk, hg⟩ => ?_, fun hg => ⟨f, t, rfl, hg⟩⟩
  obtain ⟨rfl, rfl⟩ := keyOf_inj (conform_get hc hg).2 hf hk
  exact hg

theorem mem_catSet {s : State} {sp : Spec} (h : InvS s sp) (hc : conform sp = true)
    (f : String) (hf : noColon f = true) (o : Operand)
    (hty : o.isInt = false ∨ fieldAbsent sp.docs f = true) (d : Nat) :
    d ∈ catSet s (keyOf f o.txt) ↔ sp.docs.get d f = some o.val := by
  rw [mem_catSet_key h hc f hf]
  cases o with
  | str sv => exact Iff.rfl
  | int x txt =>
    -- a number against a categorical field: the field is absent, neither side holds
    have ha := hty.resolve_left (by simp [Operand.isInt])
    simp [fieldAbsent_get ha d]

theorem mem_foldl_in (s : State) (f : String) (d : Nat) (vs : List Operand) : ∀ acc : RB,
    d ∈ vs.foldl (inStep s f) acc ↔
      d ∈ acc ∨ ∃ v, v ∈ vs ∧ d ∈ catSet s (keyOf f v.txt) := by
  induction vs with
  | nil => simp
  | cons v r ih =>
    intro acc
    rw [List.foldl_cons, ih]
    simp only [inStep, catSet, List.mem_cons, exists_eq_or_imp]
    split <;> simp only [RB.mem_or, or_assoc, List.not_mem_nil, false_or, *]

theorem mem_foldl_notIn (s : State) (f : String) (d : Nat) (vs : List Operand) : ∀ acc : RB,
    d ∈ vs.foldl (notInStep s f) acc ↔
      d ∈ acc ∧ ∀ v, v ∈ vs → d ∉ catSet s (keyOf f v.txt) := by
  induction vs with
  | nil => simp
  | cons v r ih =>
    intro acc
    rw [List.foldl_cons, ih]
    simp only [notInStep, catSet, List.mem_cons, forall_eq_or_imp]
    split <;> simp only [RB.mem_andNot, and_assoc, List.not_mem_nil, not_false_eq_true, true_and, *]

/-- `CompareValue` through the invariant: right when no stored value differs in sign
    from the operand(s) -/
theorem mem_numCmp {s : State} {sp : Spec} (h : InvS s sp) {f : String} {b : BSI.T}
    (hb : s.numeric.lookup f = some b) (op : BSI.Op) (x e : I64)
    (hx : ∀ d y, sp.docs.get d f = some (.int y) → y.msb = x.msb)
    (he : op = .range → ∀ d y, sp.docs.get d f = some (.int y) → y.msb = e.msb) (d : Nat) :
    d ∈ BSI.compareValue b op x e ↔
      ∃ y, sp.docs.get d f = some (.int y) ∧ BSI.signedCmp op y x e = true := by
  rw [BSI.mem_compareValue_same_sign (h.rep f b hb) op x e fun d y hy =>
    ⟨hx d y (intOf_eq_some.mp hy), fun hr => he hr d y (intOf_eq_some.mp hy)⟩]
  simp only [intOf_eq_some]

end Comet.Meta
