/-
  Per-run obligations for C05 over facts regenerated from hybrid_search_index.go.
  They pin the sites the model Comet/HybridSearch.lean transcribes: the repaired
  metadata-only fallback guard, the fusion-selection chain, the truncation, and the set
  of options Execute passes on to the sub-searches (which the harness replicates).
-/
import CometGen.Facts_Hybrid
namespace CometGen.Obligations.C05
open CometGen.Facts.Hybrid

/-- `combineStage`: fallback only for a metadata-only query -/
theorem fallback_guard :
    fallbackConds2 = ["len(s.vectorQuery) == 0 && len(s.textQueries) == 0 && len(candidateIDs) > 0"] ∧
    fallbackConds = [] := by and_intros <;> rfl

/-- `combineStage`: both non-empty → fusion; else the non-empty side -/
theorem combine_chain :
    combineConds = ["len(vectorResults) > 0 && len(textResults) > 0", "len(vectorResults) > 0"] := by rfl

/-- `rank`: truncate when more than k -/
theorem truncate_site : truncateConds = ["len(results) > s.k"] := by rfl

/-- the options the harness replicates when it issues the sub-searches itself -/
theorem options_passed : subSearchOptions =
    ["WithCutoff(s.cutoff)", "WithCutoff(s.cutoff)", "WithDocumentIDs(candidateIDs)",
     "WithDocumentIDs(candidateIDs)", "WithEfSearch(s.efSearch)", "WithFilterGroups(s.metadataGroups)",
     "WithFilters(s.metadataFilters)", "WithK(s.k)", "WithK(s.k)", "WithNProbes(s.nProbes)",
     "WithQuery(s.textQueries)", "WithQuery(s.vectorQuery)", "WithScoreAggregation(s.scoreAggregation)",
     "WithScoreAggregation(s.scoreAggregation)", "WithThreshold(s.threshold)"] := by rfl

end CometGen.Obligations.C05
