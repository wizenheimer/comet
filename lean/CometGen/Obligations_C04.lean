/-
  Per-run obligations for C04 over facts regenerated from /repo's source
  (lean/CometGen/Facts_Meta.lean, written by harness/cmd/facts on every run).

  Each obligation says "the anchored site still reads the way the model
  (Comet/Meta.lean, Comet/BSI.lean) transcribes it".  A differing anchor is advisory
  (DESIGN.md §13.10): the check then runs the `meta` stream with a tenfold budget, and
  only what that run finds is reported.
-/
import CometGen.Facts_Meta
import Comet.Meta
namespace CometGen.Obligations.C04
open CometGen.Facts.Meta Comet.Meta

/-- `Comet.Meta.notF`: the ten cases of `Not`; no case for `range` (D9), no default. -/
theorem not_table : notTable =
    ["eq->ne", "ne->eq", "gt->lte", "gte->lt", "lt->gte", "lte->gt",
     "in->not_in", "not_in->in", "exists->not_exists", "not_exists->exists"] := by rfl

/-- the regenerated table agrees with the model's `notF` on every operator it lists, and
    `range` is not listed -/
theorem not_table_matches_model :
    (notTable.all fun e =>
      let o : Comet.Meta.Operand := .str ""
      [Filter.cmp .eq "f" o, .cmp .ne "f" o, .cmp .gt "f" o, .cmp .gte "f" o, .cmp .lt "f" o,
       .cmp .lte "f" o, .isIn false "f" none, .isIn true "f" none, .ex false "f", .ex true "f"].any
        fun flt => e == flt.opName ++ "->" ++ (notF flt).opName) = true ∧
    (notTable.any fun e => "range".toList.isPrefixOf e.toList) = false := by and_intros <;> rfl

/-- `Comet.Meta.hasPrefix`: `>=` (the repair of D7; `>` dropped the empty-string value) -/
theorem existence_prefix_site :
    prefixConds = ["len(key) >= len(prefix) && key[:len(prefix)] == prefix"] := by rfl

/-- stored floats go through `int64(v*100)`; `int` through `int64(v)` — the harness
    replicates exactly these conversions (`fix100` in harness/cmd/corr/stream_meta.go) -/
theorem add_conversions : addConversions = ["int64(v)", "int64(v * 100)"] := by rfl

/-- operands go through the same conversions (`toInt64`) -/
theorem operand_conversions : operandConversions = ["int64(v)", "int64(v * 100)"] := by rfl

/-- `Comet.BSI.new`: the constructor call (64 slices follow from these arguments:
    `Comet.BSI.new_bA`) -/
theorem new_bsi_site : newBSICalls = ["bsi.NewBSI(bsi.Min64BitSigned, bsi.Max64BitSigned)"] := by rfl

/-- `Comet.Meta.addKVs` / `validateMetadata`: the supported value types, validated before
    any mutation (the repair of D5) -/
theorem add_types : addTypes = ["int", "int64", "float64", "string", "bool", "default"] ∧
    validateTypes = ["int", "int64", "float64", "string", "bool", "default"] ∧
    validateCalls = ["validateMetadata(metadata)"] := by and_intros <;> rfl

end CometGen.Obligations.C04
