/-
  Per-run obligations for C13 over facts regenerated from /repo's source
  (lean/CometGen/Facts_IVF.lean, written by harness/cmd/facts on every run).

  Each obligation says "the anchored site still reads the way the model
  (Comet/Vector/IVF.lean) transcribes it".  A differing anchor is advisory
  (DESIGN.md §13.10): the check then runs the correspondence stream with a tenfold
  budget, and only what that run finds is reported.
-/
import CometGen.Facts_IVF
namespace CometGen.Obligations.C13
open CometGen.Facts.IVF

/-- `IVF.argminLoop`: update on strict `<` only (first minimiser wins). -/
theorem argmin_strict : argminConds = ["dist < minDist"] := by rfl

/-- `IVF.argmin`: starts at `(0, +Inf)`, the update stores the current distance and index. -/
theorem argmin_assigns : argminAssigns =
    ["minDist := float32(math.Inf(1))", "minIdx := 0", "minDist = dist", "minIdx = i"] := by rfl

/-- `IVF.clampProbes`: `nprobes <= 0 || nprobes > nlist → nlist`. -/
theorem clamp_site : clampConds = ["nprobes <= 0 || nprobes > s.index.nlist"] ∧
    clampAssigns = ["nprobes := s.nprobes", "nprobes = s.index.nlist"] := by and_intros <;> rfl

/-- `IVF.searchSingle`: the first `nprobes` ranked lists are scanned; `k` results are copied. -/
theorem loop_bounds : loopConds = ["i < nprobes", "i < k"] := by rfl

/-- `IVF.rank` / `Flat.scan`: centroids and vectors are both scored against the
    *preprocessed* query with the index's metric. -/
theorem dist_sites : distCalls =
    ["s.index.distance.Calculate(preprocessedQuery, centroid)",
     "s.index.distance.Calculate(preprocessedQuery, v.Vector())"] ∧
    preprocessCalls = ["s.index.distance.Preprocess(query)"] := by and_intros <;> rfl

/-- the scan body is the flat index's: deleted → id filter → `thr > 0 && d > thr`. -/
theorem scan_sites :
    skipConds = ["s.index.deletedNodes.Contains(v.ID())", "docFilter.ShouldSkip(v.ID())"] ∧
    thresholdConds = ["s.threshold > 0 && dist > s.threshold"] := by and_intros <;> rfl

/-- `sanitizeK` once, against the number of surviving candidates. -/
theorem sanitize_site : sanitizeCalls = ["sanitizeK(s.k, len(candidates))"] := by rfl

/-- both sorts ascending by distance with strict `<`. -/
theorem sort_sites : sortCalls =
    ["sort.Slice(centroidDistances, func(i, j int) bool { return centroidDistances[i].distance < centroidDistances[j].distance })",
     "sort.Slice(candidates, func(i, j int) bool { return candidates[i].distance < candidates[j].distance })"] := by rfl

/-- gates of `IVF.step` / `IVF.searchSingle`: untrained, re-add purge, too few training vectors;
    `Add` assigns the (preprocessed) vector with FindNearestCentroidIndex over the index's centroids. -/
theorem gate_sites :
    searchGateConds = ["!s.index.trained"] ∧
    addGateConds = ["!idx.trained", "idx.deletedNodes.Contains(vector.ID())"] ∧
    addAssignCalls = ["FindNearestCentroidIndex(vector.Vector(), idx.centroids, idx.distance)"] ∧
    trainGateConds = ["len(vectors) < idx.nlist"] := by and_intros <;> rfl

/-- `IVF.defaultProbes`, default `k`. -/
theorem defaults : defaultNprobes = ["int(math.Sqrt(float64(idx.nlist)))"] ∧ defaultK = ["10"] := by and_intros <;> rfl

end CometGen.Obligations.C13
