/-
  Per-run obligations for C07 / C16 over the serialisation layouts re-extracted from
  /repo's source on every run (lean/CometGen/Facts_Layout.lean, written by
  harness/cmd/facts/facts_layout.go): for each of the 16 functions the sequence of
  primitive I/O calls in source order with the static type of every written / read
  value and the enclosing loop / if structure, the receiver comparisons of ReadFrom
  (`guard:<cond>`), and the cases of the counting type switches.

  Each obligation says "this WriteTo / ReadFrom still reads the way the model transcribes
  it": the extracted layout equals the layout constant that sits next to the model's
  encoder / decoder (Comet.Codec.<Kind>.layout), rendered for the read side (with guards
  and blob decodes) resp. the write side (without).  In particular
    * WriteTo and ReadFrom of a kind have the same layout (both equal the same constant);
    * every call is error-checked and counted: a deviation shows in the extracted token
      as a suffix (`!unchecked`, `!uncounted`, `?type`) that no model token carries —
      this is the facts side of `count_write_<kind>` / `count_read_<kind>`: the static type
      of every `write(x)` / `read(&x)` argument is one the counting switch handles with the
      right size, and every raw `w.Write` / `io.ReadFull` is followed by its manual `+=`;
    * the switch tables are the ones the model's `Switch` functions implement.
  A differing anchor is advisory (DESIGN.md §13.10): the check then runs the
  correspondence streams with a tenfold budget, and only what that run finds is reported.
-/
import CometGen.Facts_Layout
import Comet.Codec.Any
namespace CometGen.Obligations.C07
open CometGen.Facts.Layout Comet.Codec

theorem flat_read : flat_ReadFrom = renderRead Flat.layout := by rfl
theorem flat_write : flat_WriteTo = renderWrite Flat.layout := by rfl
theorem hnsw_read : hnsw_ReadFrom = renderRead HNSW.layout := by rfl
theorem hnsw_write : hnsw_WriteTo = renderWrite HNSW.layout := by rfl
theorem ivf_read : ivf_ReadFrom = renderRead IVF.layout := by rfl
theorem ivf_write : ivf_WriteTo = renderWrite IVF.layout := by rfl
theorem pq_read : pq_ReadFrom = renderRead PQ.layout := by rfl
theorem pq_write : pq_WriteTo = renderWrite PQ.layout := by rfl
theorem ivfpq_read : ivfpq_ReadFrom = renderRead IVFPQ.layout := by rfl
theorem ivfpq_write : ivfpq_WriteTo = renderWrite IVFPQ.layout := by rfl
theorem bm25_read : bm25_ReadFrom = renderRead BM25.layout := by rfl
theorem bm25_write : bm25_WriteTo = renderWrite BM25.layout := by rfl
theorem meta_read : meta_ReadFrom = renderRead Meta.layout := by rfl
theorem meta_write : meta_WriteTo = renderWrite Meta.layout := by rfl
theorem hybrid_read : hybrid_ReadFrom = renderRead Hybrid.layout := by rfl
theorem hybrid_write : hybrid_WriteTo = renderWrite Hybrid.layout := by rfl

/-- the counting type switches are the ones the models' `Switch` functions transcribe -/
theorem switches :
    flat_WriteTo_switch = Flat.swWFacts ∧ flat_ReadFrom_switch = Flat.swRFacts ∧
    hnsw_WriteTo_switch = HNSW.swWFacts ∧ hnsw_ReadFrom_switch = HNSW.swRFacts ∧
    ivf_WriteTo_switch = IVF.swWFacts ∧ ivf_ReadFrom_switch = IVF.swRFacts ∧
    pq_WriteTo_switch = PQ.swWFacts ∧ pq_ReadFrom_switch = PQ.swRFacts ∧
    ivfpq_WriteTo_switch = IVFPQ.swWFacts ∧ ivfpq_ReadFrom_switch = IVFPQ.swRFacts ∧
    bm25_WriteTo_switch = BM25.swWFacts ∧ bm25_ReadFrom_switch = BM25.swRFacts ∧
    meta_WriteTo_switch = Meta.swWFacts ∧ meta_ReadFrom_switch = Meta.swRFacts ∧
    hybrid_WriteTo_switch = Hybrid.swWFacts ∧ hybrid_ReadFrom_switch = Hybrid.swRFacts := by
  and_intros <;> rfl

def goTy : Ty → String
  | .u8 => "uint8" | .u32 => "uint32" | .i32 => "int32" | .f32 => "float32"
  | .u64 => "uint64" | .i64 => "int64" | .f64 => "float64"

def tableSwitch (ptr : Bool) (facts : SwitchFacts) (t : Ty) : Nat :=
  match facts.find? (·.1 == (if ptr then "*" else "") ++ goTy t) with
  | some (_, "1") => 1 | some (_, "4") => 4 | some (_, "8") => 8
  | _ => 0

def allTy : List Ty := [.u8, .u32, .i32, .f32, .u64, .i64, .f64]

/-- the `Switch` functions agree with the fact tables they are written after: a scalar
    type listed with increment n is counted n, a type not listed is counted 0 -/
theorem switch_functions_match_tables :
    allTy.all (fun t =>
      Flat.swW t == tableSwitch false Flat.swWFacts t && Flat.swR t == tableSwitch true Flat.swRFacts t &&
      HNSW.swW t == tableSwitch false HNSW.swWFacts t && HNSW.swR t == tableSwitch true HNSW.swRFacts t &&
      IVF.swW t == tableSwitch false IVF.swWFacts t && IVF.swR t == tableSwitch true IVF.swRFacts t &&
      PQ.swW t == tableSwitch false PQ.swWFacts t && PQ.swR t == tableSwitch true PQ.swRFacts t &&
      IVFPQ.swW t == tableSwitch false IVFPQ.swWFacts t && IVFPQ.swR t == tableSwitch true IVFPQ.swRFacts t &&
      BM25.swW t == tableSwitch false BM25.swWFacts t && BM25.swR t == tableSwitch true BM25.swRFacts t &&
      Meta.swW t == tableSwitch false Meta.swWFacts t && Meta.swR t == tableSwitch true Meta.swRFacts t &&
      Hybrid.swR t == tableSwitch true Hybrid.swRFacts t) = true := by rfl

end CometGen.Obligations.C07
