/-
  Per-run obligations for C06 over facts regenerated from hybrid_search_index.go: the
  order in which addInternal validates, adds to the sub-indexes and records docInfo, and
  the order in which Remove removes — what Comet/Hybrid.lean's `addInternal` / `remove`
  transcribe (metadata validated before any sub-add; docInfo written last / deleted last).
-/
import CometGen.Facts_Hybrid
namespace CometGen.Obligations.C06
open CometGen.Facts.Hybrid

theorem add_order : addOrder =
    ["validateMetadata", "idx.vectorIndex.Add", "idx.textIndex.Add", "idx.metadataIndex.Add",
     "docInfo[id]="] := by rfl

theorem remove_order : removeOrder =
    ["idx.vectorIndex.Remove", "idx.textIndex.Remove", "idx.metadataIndex.Remove", "delete"] := by rfl

end CometGen.Obligations.C06
