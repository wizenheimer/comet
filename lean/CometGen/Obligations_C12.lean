/-
  Per-run obligations for C12 over facts regenerated from /repo's source
  (lean/CometGen/Facts_HNSW.lean, written by harness/cmd/facts on every run).

  Each obligation says "the anchored site still reads the way the model
  (Comet/Vector/HNSW.lean) transcribes it".  A differing anchor is advisory
  (DESIGN.md §13.10): the check then runs the correspondence stream with a tenfold
  budget, and only what that run finds is reported.
-/
import CometGen.Facts_HNSW
import Comet.Vector.HNSW
namespace CometGen.Obligations.C12
open CometGen.Facts.HNSW

/-- `HNSW.addWith` with `registerFirst = true`: the first vertex is stored directly;
    every later one is registered in `idx.nodes` BEFORE `insertNode` links it
    (fix fb5d06f; the opposite order is defect D1: pruning drops every in-link of the
    new vertex). -/
theorem add_statement_order :
    addOrder = ["idx.nodes[id] = node", "idx.nodes[id] = node", "idx.insertNode(node)"] ∧
    Comet.HNSW.registerFirst = true := by and_intros <;> rfl

/-- `HNSW.insertLayers`: the cap is `M`, doubled on layer 0 (`M * 2`), and a neighbour is
    pruned exactly when its list exceeds the cap. -/
theorem layer0_cap :
    capStmts = ["M := idx.M", "if lc == 0", "M *= 2", "if len(neighbor.Edges[lc]) > M"] := by rfl

/-- `HNSW.searchLayer` / `scanNbrs` / `stops` / `admits` (since fixes f6a780e): `ef` is
    clamped to ≥ 1; the start vertex always goes on the candidate heap, on the result heap
    only when not soft-deleted; early exit on `>`; visited neighbours are skipped (soft-deleted
    ones are NOT); admission on `<`; a soft-deleted neighbour is not pushed to the result heap;
    eviction when the result heap exceeds `ef`. -/
theorem searchLayer_sites :
    searchLayerConds =
      ["ef < 1",
       "!idx.deletedNodes.Contains(entryPoint)",
       "result.Len() >= ef && current.distance > (*result)[0].distance",
       "layer < len(node.Edges)",
       "!visited.Contains(neighborID)",
       "result.Len() < ef || d < (*result)[0].distance",
       "!idx.deletedNodes.Contains(neighborID)",
       "result.Len() > ef"] := by rfl

/-- `HNSW.addWith` / `addFlushes`: `flushLocked` runs first when the (non-zero) id is still tombstoned
    (fix e29df80) and when the entry point is soft-deleted (fix f98dc7f). -/
theorem add_flush_sites :
    addFlushConds = ["id != 0 && idx.deletedNodes.Contains(id)",
                     "idx.deletedNodes.Contains(idx.entryPoint)"] := by rfl

/-- `HNSW.prune`: ids missing from `idx.nodes` are skipped; at most `M` are kept. -/
theorem prune_sites : pruneConds = ["idx.nodes[nid] == nil", "len(candList) < M"] := by rfl

/-- the candidate heap is a min-heap, the result heap a max-heap (strict comparisons) -/
theorem heap_orders :
    minHeapLess = ["return h[i].distance < h[j].distance"] ∧
    maxHeapLess = ["return h[i].distance > h[j].distance"] := by and_intros <;> rfl

end CometGen.Obligations.C12
