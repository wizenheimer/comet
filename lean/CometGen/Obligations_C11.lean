/-
  Per-run obligations for C11 over the lock facts regenerated from /repo's source
  (lean/CometGen/Facts_Locks.lean, written by harness/cmd/facts/facts_locks.go on every run).

  * `discipline_facts`      — (A) the lock discipline holds of the regenerated event table.
                              With `Comet.Conc.checkRaw_sound` and `lockset_sound`
                              (CometProofs/Properties/C11.lean; the composition is not
                              carried out in Lean) this gives: no reachable state
                              of the abstract machine over *today's* table has a data race.
                              A field read outside its lock, a write under RLock, a Flush
                              without the lock, a helper called before locking … make this
                              obligation fail (broken tie, DESIGN §3 case 2).
  * `whitelist_*`           — the explicit list of exempted accesses and the facts that
                              justify each entry.
  * `lockorder_facts`       — (B) every nested acquisition goes strictly upwards in `rank`.

  Whitelist (benign by construction, or outside the property's operation set):
    - `compactSegments` reads `segmentMetadata.numDocs` without the segment's lock.  The field
      is written only by `updateStats` (`whitelist_writers_pinned`) and `updateStats` is only
      ever called on a segment constructed in the calling function, before it is published
      with `segmentManager.add` (`updateStats_only_before_publication`): written before
      publication, never after — the publication (a W-locked append read under the R lock)
      orders the write before every read.
    - `IVFIndex/PQIndex/IVFPQIndex.Trained()` read `trained` without the lock.  The only
      writers are `Train` and `ReadFrom` (`whitelist_writers_pinned`), which are not among the
      operations C11 runs concurrently (Add / Remove / search / Flush / WriteTo / store ops).
      Calling `Trained()` concurrently with `Train` or `ReadFrom` IS a data race of comet
      (reported, outside this property's quantifier).
  Immutable-after-construction fields read without any lock (class 1 in the facts; the check
  verifies that NO function of the table writes them): dim, distance, distanceKind, M, Ksub,
  dsub, nlist, efConstruction, … of the vector indexes; `hybridSearchIndex.vectorIndex /
  textIndex / metadataIndex` (hybrid search takes no lock of its own — it only reads these
  three pointers and then calls the sub-indexes, which lock themselves); `memtable.index`,
  `memtable.sizeLimit`, `memtable.createdAt`; the template / limit fields of `memtableQueue`;
  `PersistentHybridIndex.config / provider / memtableQueue / segmentManager`;
  `segmentMetadata.id` and paths.
-/
import Comet.Conc.Lockset
import CometGen.Facts_Locks
namespace CometGen.Obligations.C11
open Comet.Conc CometGen.Facts.Locks

/-- the exempted accesses are exactly these four -/
theorem whitelist_pinned : whitelistNames =
    [("IVFIndex.Trained", "IVFIndex.trained"), ("IVFPQIndex.Trained", "IVFPQIndex.trained"),
     ("PQIndex.Trained", "PQIndex.trained"),
     ("PersistentHybridIndex.compactSegments", "segmentMetadata.numDocs")] := by rfl

/-- who writes the whitelisted fields -/
theorem whitelist_writers_pinned : whitelistedFieldWriters =
    [("IVFIndex.trained", ["IVFIndex.ReadFrom", "IVFIndex.Train"]),
     ("IVFPQIndex.trained", ["IVFPQIndex.ReadFrom", "IVFPQIndex.Train"]),
     ("PQIndex.trained", ["PQIndex.ReadFrom", "PQIndex.Train"]),
     ("segmentMetadata.numDocs", ["segmentMetadata.updateStats"])] := by rfl

/-- `updateStats` is never called on a segment that other goroutines can already reach -/
theorem updateStats_only_before_publication : updateStatsCallsOnPublished = [] := by rfl

/-- **(A) per-run obligation**: `Discipline` of the regenerated table (decoded from the raw
    facts), evaluated by the kernel. -/
theorem discipline_facts : checkRaw table fieldClasses whitelist = true := by decide +kernel

/-- The six soft-delete `Remove` methods are ONE write-locked region (`atomicRemove` of the
    protocol model, Comet/Conc/RemoveProto.lean; the hypothesis of `never_panics`).  The former
    shape `[R: check] ; [W: tombstone]` — modes `[[0, 1]]` — had a window in which a concurrent
    Remove + Flush left a stale tombstone and the next Flush panicked (defect D16, found by
    this check, repaired in /repo by fb7bd70; `remove_flush_window_panics`).  Re-introducing the
    window makes this obligation fail. -/
theorem remove_is_one_write_region :
    (["BM25SearchIndex.Remove", "FlatIndex.Remove", "HNSWIndex.Remove", "IVFIndex.Remove",
      "IVFPQIndex.Remove", "PQIndex.Remove"].all fun f =>
        removeShapes.any fun p => p.1 == f && p.2 == [[1]]) = true := by rfl

/-! ### (B) lock order -/

/-- the strict order on lock classes every nested acquisition must respect -/
def rank : String → Option Nat
  | "PersistentHybridIndex" => some 0
  | "memtableQueue" => some 1
  | "segmentManager" => some 1
  | "memtable" => some 2
  | "segmentMetadata" => some 2
  | "hybridSearchIndex" => some 3
  | "FlatIndex" | "HNSWIndex" | "IVFIndex" | "PQIndex" | "IVFPQIndex" => some 4
  | "BM25SearchIndex" | "RoaringMetadataIndex" => some 4
  | _ => none

/-- Values of interface type `HybridSearchIndex` inside the store (memtable.index,
    segmentMetadata.cachedIndex, compaction's merged index) all come from
    `NewHybridSearchIndex` (directly or handed on by `memtable.flush` / `getIndex`), i.e. they
    are `*hybridSearchIndex`, never a `*PersistentHybridIndex`.  The extractor resolves a call
    through the interface to both implementations; the edges below exist only through the
    impossible one. -/
theorem hybrid_iface_values :
    hybridIfaceProducers = ["NewHybridSearchIndex", "memtable.flush", "segmentMetadata.getIndex"] := by
  rfl

/-- The only nesting edges that the extractor sees through dynamic dispatch of a
    `HybridSearchIndex` call to a `*PersistentHybridIndex` method (impossible, see
    `hybrid_iface_values`) are these five; they are not judged.  Every other edge — in
    particular a *direct* memtable → memtableQueue nesting — is in `nesting` and is judged.
    (Since 22d1a03 `memtableQueue.add` writes under the queue lock: the direct chain
    memtableQueue → memtable → hybridSearchIndex → vector / text / metadata index is in `nesting`
    and goes strictly upwards in `rank`.) -/
theorem via_store_iface_pinned : nestingViaStoreIface =
    [("memtable", "PersistentHybridIndex"), ("memtable", "memtable"), ("memtable", "memtableQueue"),
     ("memtableQueue", "PersistentHybridIndex"), ("memtableQueue", "memtableQueue")] := by
  rfl

/-- (D) tie: the locked shape of the rotation model (`rstep true`, hypothesis of
    `add_never_fails_or_lost`) is what the code does — `memtableQueue.add` / `addWithID` call
    `memtable.add` / `addWithID` while holding the queue's write lock.  Releasing the queue
    lock before the write (the former shape, D15) makes this obligation fail. -/
theorem queue_add_writes_under_lock : queueAddWritesUnderLock =
    [("memtableQueue.add", true), ("memtableQueue.addWithID", true)] := by rfl

/-- **(B) per-run obligation**: the hypothesis of `lockorder_acyclic`
    (CometProofs/Properties/C11.lean) for the regenerated nesting edges. -/
theorem lockorder_facts : lockOrderOK rank [] nesting = true := by rfl

/-! ### (E) the id counter -/

/-- The model of (E) — every draw is ONE atomic region on one global counter — is what the
    code does: the only statements touching `nodeIDCounter` are the two `atomic.AddUint32`. -/
theorem id_counter_atomic : idCounterSites =
    ["NewMetadataNode: atomic.AddUint32(&nodeIDCounter, 1)",
     "NewVectorNode: atomic.AddUint32(&nodeIDCounter, 1)"] := by rfl

end CometGen.Obligations.C11
