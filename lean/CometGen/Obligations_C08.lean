/-
  Per-run obligations for C08 over facts regenerated from /repo's source
  (lean/CometGen/Facts_Store.lean): the anchored sites of the store still read the way
  Comet/Storage/Store.lean transcribes them. A failing obligation is a broken tie
  (DESIGN §3 case 2): the check then runs the `store` stream with a boosted budget.
-/
import CometGen.Facts_Store
namespace CometGen.Obligations.C08
open CometGen.Facts.Store

/-- `flushAll` / `Bg.fwrite`, `Bg.fremove`: listFrozen once, then per memtable flushMemtable BEFORE queue.remove -/
theorem flush_loop : flushLoopCalls =
    ["s.memtableQueue.listFrozen()", "s.flushMemtable(mt)", "s.memtableQueue.remove(mt)"] := by rfl

/-- `butLast`: listFrozen returns all but the last queue element -/
theorem list_frozen : listFrozenSlice = ["mq.queue[:len(mq.queue)-1]"] := by rfl

/-- `removeMt`: the last element is never removed -/
theorem queue_remove_guard : queueRemoveConds = ["i == len(mq.queue)-1"] := by rfl

/-- `rotateQ`: freeze the mutable memtable, create a new one over the SAME templates (D13), append -/
theorem rotate : rotateCalls =
    ["mq.mutable.freeze()",
     "newMemtable( mq.vecIdxTemplate, mq.txtIdxTemplate, mq.metaIdxTemplate, mq.memtableSizeLimit, )",
     "append(mq.queue, mq.mutable)"] := by rfl

/-- `hasRoom`: not frozen and size + estimate ≤ limit -/
theorem has_room : hasRoomReturns = ["false", "currentSize+estimatedSize <= m.sizeLimit"] := by rfl

/-- `execRemove`: only the mutable (last) memtable is consulted -/
theorem remove_site : removeIndex = ["memtables[len(memtables)-1]"] := by rfl

/-- `Bg.clist`: fewer than threshold → nothing; else the FIRST threshold segments of the list -/
theorem compact_choice : compactConds = ["len(segments) < s.config.CompactionThreshold"] ∧
    compactSlice = ["segments[:s.config.CompactionThreshold]"] := by and_intros <;> rfl

/-- `Bg.cload` … `Bg.cswap` (D14): load each source, new id, write, register, then per source
    unregister + delete; nothing is ever added to the merged index -/
theorem compact_steps : compactCalls =
    ["seg.getIndex( s.config.VectorIndexTemplate, s.config.TextIndexTemplate, s.config.MetadataIndexTemplate, )",
     "s.provider.nextSegmentID()",
     "s.writeIndexToSegment(mergedIndex, hybridPath, vectorPath, textPath, metadataPath)",
     "s.segmentManager.add(newSegment)", "s.segmentManager.remove(seg.id)",
     "s.provider.deleteSegment(seg.id)"] := by rfl

/-- `removeSwap`: overwrite with the last element, truncate -/
theorem segment_remove : segRemoveAssigns =
    ["sm.segments[i] = sm.segments[len(sm.segments)-1]", "sm.segments = sm.segments[:len(sm.segments)-1]"] := by rfl

/-- `segEvent .load`: a fresh hybrid wrapper over the templates handed in (D13), deserialise, cache -/
theorem get_index : getIndexOps =
    ["NewHybridSearchIndex(vecIdx, txtIdx, metaIdx)", "os.Open(s.hybridPath)", "os.Open(s.vectorPath)",
     "os.Open(s.textPath)", "os.Open(s.metadataPath)", "readerFrom.ReadFrom(combinedReader)",
     "io.Copy(io.Discard, combinedReader)", "s.cachedIndex = idx"] := by rfl

end CometGen.Obligations.C08
