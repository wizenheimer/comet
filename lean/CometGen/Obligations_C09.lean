/-
  Per-run obligations for C09 over facts regenerated from /repo's source (Facts_Store.lean).
-/
import CometGen.Facts_Store
namespace CometGen.Obligations.C09
open CometGen.Facts.Store

/-- `execFlush` (D12, model constant flushRotatesMutable = false): Flush only calls flushMemtables —
    no rotation of the mutable memtable -/
theorem flush_site : flushCalls = ["s.flushMemtables()"] := by rfl

/-- `Bg.fwake` / `Bg.ffinal`: one flushMemtables per signal and one final round on closeChan -/
theorem flush_worker : flushWorkerCalls = ["s.flushMemtables()", "s.flushMemtables()"] := by rfl

/-- `Step.close` / `Step.closeDone`: close(closeChan), wait for the workers, then release LOCK;
    no rotation, no flush on the caller's goroutine -/
theorem close_site : closeCalls = ["close(s.closeChan)", "s.wg.Wait()", "s.provider.close()"] := by rfl

/-- `butLast`: what Flush / Close persist is the queue without its last element -/
theorem list_frozen : listFrozenSlice = ["mq.queue[:len(mq.queue)-1]"] := by rfl

/-- `initCounter`: every file name whose part after the first `_` (suffixes .bin.gz / .bin trimmed)
    is a decimal number counts — whatever its kind —, and the maximum is stored. Stated over the
    function together with the helpers it calls, by call shape, so that moving the parsing into a
    shared helper does not matter. -/
theorem counter_init :
    counterParse = ["strings.Split(_, \"_\")", "strings.TrimSuffix(_, \".bin.gz\")",
      "strings.TrimSuffix(_, \".bin\")", "strconv.ParseUint(_, 10, 64)", "_[1]"] ∧
    counterKindFilter = [] ∧ counterMax = ["id > maxSegmentID"] ∧
    counterStore = ["p.segmentCounter.Store(maxSegmentID)"] := by and_intros <;> rfl

/-- `writeSegment`: id := counter + 1 (atomic add) -/
theorem next_id : nextID = ["p.segmentCounter.Add(1)"] := by rfl

/-- `listSegments`: a segment is what has a hybrid_ file -/
theorem list_segments : listPrefix = ["strings.HasPrefix(name, \"hybrid_\")"] := by rfl

end CometGen.Obligations.C09
