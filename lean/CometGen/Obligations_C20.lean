/-
  Per-run obligations for C20 over facts regenerated from /repo's clustering.go,
  quantizer.go and the Train methods of ivf_index.go / pq_index.go / ivfpq_index.go
  (lean/CometGen/Facts_Train.lean, written by harness/cmd/facts on every run).

  Determinism and input immutability are definitional in the pure model
  (Comet/KMeans.lean); these obligations are what ties that to the code: k-means, its
  callers and the three Train methods call nothing random / time- / scheduler-dependent,
  start no goroutine, use no map (so no unordered iteration), and never assign to their
  argument.  The remaining obligations pin the sites the model transcribes.
-/
import CometGen.Facts_Train
namespace CometGen.Obligations.C20
open CometGen.Facts.Train

/-- nothing nondeterministic is called, no goroutine, no map — in k-means and its callers -/
theorem kmeans_deterministic_source :
    kmeansInternalNondet = [] ∧ kMeansNondet = [] ∧ kMeansSubspaceNondet = [] ∧ findNearestNondet = [] ∧
    kmeansInternalGoStmts = 0 ∧ kMeansGoStmts = 0 ∧ kMeansSubspaceGoStmts = 0 ∧ findNearestGoStmts = 0 ∧
    kmeansInternalMapTypes = [] ∧ kMeansMapTypes = [] ∧ kMeansSubspaceMapTypes = [] ∧ findNearestMapTypes = [] := by and_intros <;> rfl

/-- the complete callee sets: the distance, allocation, and `math.Inf` only -/
theorem kmeans_callees :
    kmeansInternalCallees = ["copy", "distance.Calculate", "float32", "len", "make", "math.Inf"] ∧
    kMeansCallees = ["kmeansInternal"] ∧ kMeansSubspaceCallees = ["NewDistance", "kmeansInternal"] ∧
    findNearestCallees = ["distance.Calculate", "float32", "math.Inf"] := by and_intros <;> rfl

/-- k-means and its callers never assign to (an element of) their input -/
theorem kmeans_input_never_written :
    kmeansInternalArgWrites = [] ∧ kMeansArgWrites = [] ∧ kMeansSubspaceArgWrites = [] ∧ findNearestArgWrites = [] := by and_intros <;> rfl

/-- the same for the Train methods of the three trained indexes -/
theorem train_deterministic_source :
    ivfTrainNondet = [] ∧ pqTrainNondet = [] ∧ ivfpqTrainNondet = [] ∧
    ivfTrainGoStmts = 0 ∧ pqTrainGoStmts = 0 ∧ ivfpqTrainGoStmts = 0 ∧
    ivfTrainMapTypes = [] ∧ pqTrainMapTypes = [] ∧ ivfpqTrainMapTypes = [] ∧
    ivfTrainArgWrites = [] ∧ pqTrainArgWrites = [] ∧ ivfpqTrainArgWrites = [] := by and_intros <;> rfl

/-- what they keep of k-means: `KMeans(raw, nlist, distance, 20)` / `KMeansSubspace(sub, Ksub, 20)` -/
theorem train_kmeans_calls : trainKMeansCalls =
    ["KMeans(rawVectors, idx.nlist, idx.distance, 20)", "KMeansSubspace(subVectors, idx.Ksub, 20)",
     "KMeans(rawVectors, idx.nlist, idx.distance, 20)", "KMeansSubspace(subVectors, idx.Ksub, 20)"] := by rfl

/-- `KMeans.kmeans`: the guards, the strict `<` of the arg-min, the change test, the
    non-empty-cluster guard — in source order -/
theorem kmeans_conditions : kmeansConds =
    ["len(vectors) == 0", "k <= 0", "k > len(vectors)", "maxIter <= 0", "samplingStep == 0",
     "vectorIdx >= len(vectors)", "dist < nearestDistance",
     "vectorToClusterMapping[vectorIdx] != nearestCluster", "!assignmentsChanged",
     "assignedCluster != UnassignedCluster", "clusterSizes[clusterIdx] > 0"] := by rfl

theorem find_nearest_condition : findNearestConds = ["dist < minDist"] := by rfl

/-- `KMeans.initCentroids` (stride n/k, clamped) and `effIter` (default 20) -/
theorem kmeans_init_sites : kmeansStepWrites =
    ["samplingStep := len(vectors) / k", "samplingStep = 1", "vectorIdx := clusterIdx * samplingStep",
     "vectorIdx = len(vectors) - 1", "vectorToClusterMapping[vectorIdx] = nearestCluster"] ∧
    defaultMaxIter = "20" := by and_intros <;> rfl

/-- `KMeans.clusterSum` / `updateCentroid`: float32 sums in vector order, divided by float32(size) -/
theorem kmeans_update_sites :
    kmeansSumWrites = ["clusterSums[i] = make([]float32, dimensions)",
      "clusterSums[assignedCluster][dimIdx] += vectors[vectorIdx][dimIdx]"] ∧
    kmeansCentroidWrites = ["centroids = make([][]float32, k)", "centroids[clusterIdx] = make([]float32, dimensions)",
      "centroids[clusterIdx][dimIdx] = clusterSums[clusterIdx][dimIdx] / float32(clusterSizes[clusterIdx])"] := by and_intros <;> rfl

/-- only slices are ranged over (no map can occur: `kmeansInternalMapTypes = []`) -/
theorem kmeans_ranges : kmeansRanges =
    ["vectorToClusterMapping", "vectors", "centroids", "clusterSums", "vectorToClusterMapping",
     "vectors[vectorIdx]", "centroids", "centroids[clusterIdx]"] := by rfl

/-- `Quant.quantInt8` / `deqInt8` / `isTrained` / `trainAbsMax` -/
theorem int8_sites :
    int8ScaledAssign = ["scaled := (val / q.absMax) * 127.0"] ∧
    int8QuantAssigns = ["quantized[i] = int8(math.Round(float64(scaled)))"] ∧
    int8DeqAssigns = ["dequantized[i] = (float32(val) / 127.0) * q.absMax"] ∧
    int8QuantConds = ["!q.IsTrained()"] ∧ int8DeqConds = ["!ok", "!q.IsTrained()"] ∧
    int8IsTrainedReturns = ["return q.absMax > 0"] ∧ int8TrainConds = ["absVal > max"] ∧
    int8TrainAssigns = ["absVal := float32(math.Abs(float64(val)))", "max = absVal"] := by and_intros <;> rfl

/-- the half-precision quantiser goes through x448/float16 both ways -/
theorem half_sites :
    halfQuantAssigns = ["f16Vec[i] = float16.Fromfloat32(v).Bits()"] ∧
    halfDeqAssigns = ["f32Vec[i] = float16.Frombits(bits).Float32()"] ∧ halfQuantConds = [] := by and_intros <;> rfl

/-- no quantiser writes to its argument -/
theorem quantisers_input_never_written :
    fullQuantArgWrites = [] ∧ halfQuantArgWrites = [] ∧ int8QuantArgWrites = [] ∧ int8TrainArgWrites = [] := by and_intros <;> rfl

end CometGen.Obligations.C20
