/-
  Per-run obligations for C10 over facts regenerated from /repo's source (Facts_Store.lean):
  the ORDER of file operations that Comet/Storage/FS.lean (`comps`, `closeOrder`, `deleteSteps`)
  and Comet/Storage/Store.lean (`writeSteps`, `loadSeg`) transcribe.
-/
import CometGen.Facts_Store
namespace CometGen.Obligations.C10
open CometGen.Facts.Store

/-- `writeSteps` for flushMemtable: id first; create hybrid, vector, text, metadata (the first four
    Close calls are the deferred ones); WriteTo; close vector, text, metadata, hybrid; register last -/
theorem flush_file_ops : flushFileOps =
    ["s.provider.nextSegmentID()", "os.Create(hybridPath)", "hybridGz.Close()", "os.Create(vectorPath)",
     "vectorGz.Close()", "os.Create(textPath)", "textGz.Close()", "os.Create(metadataPath)",
     "metadataGz.Close()", "idx.WriteTo(hybridGz, vectorGz, textGz, metadataGz)", "vectorGz.Close()",
     "textGz.Close()", "metadataGz.Close()", "hybridGz.Close()", "s.segmentManager.add(segment)"] := by rfl

/-- the same shape for the compaction's writeIndexToSegment -/
theorem segwrite_file_ops : segwriteFileOps =
    ["os.Create(hybridPath)", "hybridGz.Close()", "os.Create(vectorPath)", "vectorGz.Close()",
     "os.Create(textPath)", "textGz.Close()", "os.Create(metadataPath)", "metadataGz.Close()",
     "idx.WriteTo(hybridGz, vectorGz, textGz, metadataGz)", "vectorGz.Close()", "textGz.Close()",
     "metadataGz.Close()", "hybridGz.Close()"] := by rfl

/-- `deleteSteps`: hybrid, vector, text, metadata -/
theorem delete_order : deleteOrder = ["[]string{hybrid, vector, text, metadata}"] := by rfl

/-- `listSegments`: keyed on the hybrid_ file (the first created, the first deleted) -/
theorem list_segments : listPrefix = ["strings.HasPrefix(name, \"hybrid_\")"] := by rfl

/-- `initCounter`: every file name whose part after the first `_` is a number counts, orphans of any
    kind included (call shapes over the function and its helpers) -/
theorem counter_init :
    counterParse = ["strings.Split(_, \"_\")", "strings.TrimSuffix(_, \".bin.gz\")",
      "strings.TrimSuffix(_, \".bin\")", "strconv.ParseUint(_, 10, 64)", "_[1]"] ∧
    counterKindFilter = [] ∧ counterMax = ["id > maxSegmentID"] := by and_intros <;> rfl

/-- `openAll` then `readAll`: all four files are opened (in this order) before the one ReadFrom;
    the MultiReader is drained afterwards (`readAll … [] = (!prevCut, T)`), before the index is cached -/
theorem get_index : getIndexOps =
    ["NewHybridSearchIndex(vecIdx, txtIdx, metaIdx)", "os.Open(s.hybridPath)", "os.Open(s.vectorPath)",
     "os.Open(s.textPath)", "os.Open(s.metadataPath)", "readerFrom.ReadFrom(combinedReader)",
     "io.Copy(io.Discard, combinedReader)", "s.cachedIndex = idx"] := by rfl

/-- the compaction registers the merged segment only after it is completely written, and deletes
    sources only after that -/
theorem compact_steps : compactCalls =
    ["seg.getIndex( s.config.VectorIndexTemplate, s.config.TextIndexTemplate, s.config.MetadataIndexTemplate, )",
     "s.provider.nextSegmentID()",
     "s.writeIndexToSegment(mergedIndex, hybridPath, vectorPath, textPath, metadataPath)",
     "s.segmentManager.add(newSegment)", "s.segmentManager.remove(seg.id)",
     "s.provider.deleteSegment(seg.id)"] := by rfl

end CometGen.Obligations.C10
