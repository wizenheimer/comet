/-
  Per-run obligations for C01 over facts regenerated from /repo's source
  (lean/CometGen/Facts_Flat.lean, written by harness/cmd/facts on every run).

  Each obligation says "the anchored site still reads the way the model
  (Comet/Vector/Flat.lean) transcribes it".  A differing anchor is advisory
  (DESIGN.md §13.10): the check then runs the correspondence stream with a tenfold
  budget, and only what that run finds is reported.
-/
import CometGen.Facts_Flat
namespace CometGen.Obligations.C01
open CometGen.Facts.Flat

/-- `Flat.thrSkip`: skip iff `thr > 0 && dist > thr` (strict on both sides). -/
theorem threshold_site : thresholdConds = ["s.threshold > 0 && dist > s.threshold"] := by rfl

/-- `Flat.searchSingle`: k sanitised against the stored count, then against the result count. -/
theorem sanitize_sites :
    sanitizeCalls = ["sanitizeK(s.k, len(s.index.vectors))", "sanitizeK(k, len(results))"] := by rfl

/-- `Flat.scan`: soft-deleted and filtered-out ids are skipped. -/
theorem skip_sites :
    skipConds = ["s.index.deletedNodes.Contains(v.ID())", "docFilter.ShouldSkip(v.ID())"] := by rfl

/-- `Comet.sanitizeK`. -/
theorem sanitizeK_site : sanitizeKConds = ["k <= 0 || k > maxResults"] := by rfl

/-- ascending by distance with strict `<` -/
theorem sort_site : sortCalls =
    ["sort.Slice(results, func(i, j int) bool { return results[i].distance < results[j].distance })"] := by rfl

end CometGen.Obligations.C01
