/-
  Per-run obligations for C03 over facts regenerated from /repo's source
  (lean/CometGen/Facts_BM25.lean, written by harness/cmd/facts on every run).

  Each obligation says "the anchored site still reads the way the model
  (Comet/BM25.lean, Comet/BM25F.lean) transcribes it".  A differing anchor is advisory
  (DESIGN.md §13.10): the check then runs the correspondence stream with a tenfold
  budget, and only what that run finds is reported.
-/
import CometGen.Facts_BM25
namespace CometGen.Obligations.C03
open CometGen.Facts.BM25

/-- `BM25F.K1 = 1.2` -/
theorem k1_is_1_2 : k1 = "1.2" := by rfl
/-- `BM25F.B = 0.75` -/
theorem b_is_0_75 : b = "0.75" := by rfl

/-- `N` is `numDocs` (soft-deleted documents included) -/
theorem n_site : nExpr = ["float64(s.index.numDocs.Load())"] := by rfl
/-- `df` is the posting cardinality -/
theorem df_site : dfExpr = ["float64(bitmap.GetCardinality())"] := by rfl

/-- `BM25F.idfF`: `ln((N-df+0.5)/(df+0.5)+1)` -/
theorem idf_site : idfExpr = ["math.Log((N-df+0.5)/(df+0.5) + 1.0)"] := by rfl

/-- `BM25F.scoreF`, operation order included -/
theorem score_site :
    scoreExpr = ["idf * (tfVal * (K1 + 1)) / (tfVal + K1*(1-B+B*(docLen/s.index.avgDocLen)))"] := by rfl

/-- `BM25.scoreTok`: soft-deleted and filtered-out postings are skipped -/
theorem skip_sites :
    skipConds = ["s.index.deletedDocs.Contains(docID)", "docFilter.ShouldSkip(docID)"] := by rfl

/-- `BM25.rankWith`: full sort iff `k ≤ 0 ∨ k ≥ len(scores)` -/
theorem branch_site : branchConds = ["k <= 0 || k >= len(scores)"] := by rfl

/-- `BM25.heapStep`: push while the heap is short, then replace the minimum on strict `>` -/
theorem replace_site : replaceConds = ["score > (*h)[0].Score"] := by rfl

/-- min-heap on the score -/
theorem less_site : heapLess = ["h[i].Score < h[j].Score"] := by rfl

/-- `BM25.add`: the tombstone of the added id is cleared -/
theorem add_clears_tombstone : addTombCalls = ["ix.deletedDocs.Remove(id)"] := by rfl

end CometGen.Obligations.C03
