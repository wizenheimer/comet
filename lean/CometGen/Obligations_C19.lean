/-
  Per-run obligations for C19 over facts regenerated from /repo's source
  (lean/CometGen/Facts_Post.lean, written by harness/cmd/facts on every run).

  Each obligation says "the anchored site still reads the way the model
  (Comet/Limiter.lean, Merge.lean, Agg.lean) transcribes it".  The facts are
  independent of the names of local variables and parameters (`$1, $2, …` in order of
  first occurrence within each expression; field names, constants, operators and the
  order of the operands are kept), so renaming changes no anchor.  A differing anchor is
  advisory (DESIGN.md §13.10): the check then runs the correspondence stream with a
  tenfold budget, and only what that run finds is reported.

  `scoreMapToRanks` has no source-text obligation: how it sorts is an implementation
  choice (exchange sort, sort.Slice, …); that its answer is a 0-based best-first
  ranking is judged on the answers themselves (`checkRanksW`, `verifyRRFW`).
-/
import CometGen.Facts_Post
namespace CometGen.Obligations.C19
open CometGen.Facts.Post

/-- `Comet.autocut` / `autocutScan`: the guards, with the short-circuit `&&` in front
    of the second neighbour read and `i-2` for the last element. -/
theorem autocut_guards : autocutConds =
    ["len($1) <= 1", "$1 == 0", "$1 == len($2)-1 && len($2) > 1",
     "$1[$2] > $1[$2-1] && $1[$2] > $1[$2-2]", "$1 >= $2",
     "$1[$2] > $1[$2-1] && $1[$2] > $1[$2+1]", "$1 >= $2"] := by rfl

/-- the slice reads of `Autocut` are exactly the checked reads of the model
    (`autocutDiff`: [i], [0], [len-1], [0], then the write `diff[i] = …`;
    `autocutScan`: [i], [i-1], [i], [i-2] / [i+1]) -/
theorem autocut_indexes : autocutIndexes =
    ["$1[$2]", "$1[0]", "$1[len($1)-1]", "$1[0]", "$1[$2]",
     "$1[$2]", "$1[$2-1]", "$1[$2]", "$1[$2-2]",
     "$1[$2]", "$1[$2-1]", "$1[$2]", "$1[$2+1]"] := by rfl

/-- `Comet.autocutResults`: disabled by exactly −1, or an empty input -/
theorem autocut_results_guard : autocutResultsConds = ["$1 == -1 || len($2) == 0"] := by
  rfl

/-- `limitResults` / `sliceTo`: prefixes -/
theorem limiter_slices : limiterSlices = ["$1[:$2]", "$1[:$2]"] := by rfl

/-- `Comet.mergeResults`: empty input ↦ nil; `mergeStep`: strictly greater replaces -/
theorem merge_guard : mergeConds = ["len($1) == 0", "!$1 || $2.Score > $3"] := by rfl

/-- `Comet.sortResultsByScore`: descending -/
theorem merge_sort : mergeSortCalls =
    ["sort.Slice($1, func($2, $3 int) bool { return $1[$2].Score > $1[$3].Score })"] := by
  rfl

/-- vector aggregations sort ascending, text aggregations descending -/
theorem agg_sorts : aggSortCalls =
    ["sort.Slice($1, func($2, $3 int) bool { return $1[$2].Score < $1[$3].Score })",
     "sort.Slice($1, func($2, $3 int) bool { return $1[$2].Score < $1[$3].Score })",
     "sort.Slice($1, func($2, $3 int) bool { return $1[$2].Score < $1[$3].Score })",
     "sort.Slice($1, func($2, $3 int) bool { return $1[$2].Score > $1[$3].Score })",
     "sort.Slice($1, func($2, $3 int) bool { return $1[$2].Score > $1[$3].Score })",
     "sort.Slice($1, func($2, $3 int) bool { return $1[$2].Score > $1[$3].Score })"] := by
  rfl

end CometGen.Obligations.C19
