/-
  Per-run obligations for C18 over facts regenerated from /repo's distance.go
  (lean/CometGen/Facts_Dist.lean, written by harness/cmd/facts on every run).

  Each obligation says "the anchored site still reads the way the model
  (Comet/Distance.lean) transcribes it".  They cover what random inputs detect
  poorly: the clamp bounds (a float32 dot product of unit vectors leaves [-1,1] only
  by a few ulp), the exact zero test, and the absence of writes to arguments.
-/
import CometGen.Facts_Dist
namespace CometGen.Obligations.C18
open CometGen.Facts.Dist

/-- `Dist.clamp`: clamp to [-1, 1], in `Calculate` and in `CalculateBatch`. -/
theorem clamp_conds : cosineCalcConds = ["dot > 1", "dot < -1"] ∧ cosineBatchConds = ["dot > 1", "dot < -1"] := by and_intros <;> rfl
theorem clamp_writes : cosineDotWrites = ["dot += a[i] * b[i]", "dot = 1", "dot = -1"] := by rfl
theorem cosine_result : cosineCalcReturns = ["return 1 - dot"] := by rfl

/-- `Dist.euclid` / `Dist.l2sq`: no branches; root through float64 / no root. -/
theorem euclid_result : euclideanCalcReturns = ["return float32(math.Sqrt(float64(sum)))"] ∧
    euclideanCalcConds = [] ∧ euclideanBatchConds = [] := by and_intros <;> rfl
theorem l2sq_result : l2SquaredCalcReturns = ["return sum"] ∧
    l2SquaredCalcConds = [] ∧ l2SquaredBatchConds = [] := by and_intros <;> rfl

/-- no `Calculate` / `CalculateBatch` writes to an argument -/
theorem calculate_pure : euclideanCalcArgWrites = [] ∧ l2SquaredCalcArgWrites = [] ∧ cosineCalcArgWrites = [] := by and_intros <;> rfl

/-- `Dist.cosPre`: rejects exactly `norm == 0`; `Preprocess` never writes to its argument,
    `PreprocessInPlace` writes only the scaled components. -/
theorem cos_pre_zero_test : cosinePreConds = ["norm == 0"] ∧ cosineInPlaceConds = ["norm == 0"] := by and_intros <;> rfl
theorem cos_pre_pure : cosinePreWrites = [] ∧ cosinePreReturns = ["return nil, ErrZeroVector", "return result, nil"] := by and_intros <;> rfl
theorem cos_inplace_writes : cosineInPlaceWrites = ["target[i] *= scale"] := by rfl

/-- `Dist.preprocess` for the L2 kinds: the argument itself, untouched. -/
theorem l2_pre_identity : euclideanPreReturns = ["return target, nil"] ∧ l2SquaredPreReturns = ["return target, nil"] ∧
    euclideanPreWrites = [] ∧ l2SquaredPreWrites = [] ∧ euclideanInPlaceWrites = [] ∧ l2SquaredInPlaceWrites = [] ∧
    euclideanPreConds = [] ∧ l2SquaredPreConds = [] ∧ euclideanInPlaceConds = [] ∧ l2SquaredInPlaceConds = [] := by and_intros <;> rfl

/-- helpers: `Norm`, `Scale`, `Normalize` never write to their argument; zero test of `Normalize*`. -/
theorem helpers_pure : normWrites = [] ∧ scaleWrites = [] ∧ normalizeWrites = [] := by and_intros <;> rfl
theorem helpers_shape : normReturns = ["return float32(math.Sqrt(float64(sum)))"] ∧ normConds = [] ∧ scaleConds = [] ∧
    normalizeConds = ["norm == 0"] ∧ normalizeInPlaceConds = ["norm == 0"] ∧
    normalizeInPlaceWrites = ["v[i] *= scale"] := by and_intros <;> rfl

end CometGen.Obligations.C18
