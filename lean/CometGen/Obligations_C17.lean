/-
  Per-run obligations for C17 over facts regenerated from /repo's source
  (lean/CometGen/Facts_Lock.lean, written by harness/cmd/facts on every run).

  Each obligation says "the anchored site still reads the way the model
  (Comet/Storage/Lock.lean) transcribes it".  A failing obligation is a broken tie
  (DESIGN.md §3 case 2): the check then runs the `lock` stream with a boosted budget
  to look for a concrete failing history.
-/
import CometGen.Facts_Lock
namespace CometGen.Obligations.C17
open CometGen.Facts.Lock

/-- `oCreate` is an exclusive create: the flag set of the OpenFile call in acquireLock
    contains O_CREATE and O_EXCL (the assumption "atomic test-and-set" is about exactly
    this call). -/
theorem create_is_exclusive :
    "os.O_CREATE" ∈ acquireLockFlags ∧ "os.O_EXCL" ∈ acquireLockFlags := by decide +kernel

/-- the exclusive create is on the entry LOCK of the base directory; EEXIST is the
    "locked" answer. -/
theorem lock_path_site : lockPathExpr = "filepath.Join(p.baseDir, \"LOCK\")" ∧
    acquireLockIfs = ["if err != nil", "if os.IsExist(err)", "if err != nil"] := by and_intros <;> rfl

/-- (The extractor prints every string literal of an error return as "…": what a message says is
    not a fact the model depends on — rewording it preserves behaviour —, the order, shape and
    clean-up of the returns is.)
    `oWritePid` failure → `oCleanup`: after the create succeeded, acquireLock's only
    error return is preceded by lockFile.Close() and os.Remove(lockPath); the two returns
    of the create's own failure have nothing to clean up. -/
theorem acquireLock_error_paths : acquireLockErrorReturns =
    [("return fmt.Errorf(\"…\")", false),
     ("return fmt.Errorf(\"…\", err)", false),
     ("return fmt.Errorf(\"…\", err)", true)] := by rfl

/-- `oReadDir1` failure → `oCleanup`: every error return of newStorageProvider after a
    successful acquireLock is preceded by provider.releaseLock(), and there is exactly
    the one the model has. -/
theorem newStorageProvider_error_paths : newProviderErrorReturns =
    [("return nil, fmt.Errorf(\"…\", err)", true)] := by rfl

/-- `oReadDir2` failure → `oCleanup`: every error return of OpenPersistentHybridIndex after
    a successful newStorageProvider is preceded by provider.close(); the first entry is
    newStorageProvider's own failure (no provider exists). -/
theorem open_error_paths : openErrorReturns =
    [("return nil, fmt.Errorf(\"…\", err)", false),
     ("return nil, fmt.Errorf(\"…\", err)", true)] := by rfl

/-- every error return after the lock was taken is preceded by its clean-up (the dropped
    leading entries are the returns that have nothing to clean) -/
theorem every_error_return_after_lock_releases :
    (acquireLockErrorReturns.drop 2).all (·.2) = true ∧ newProviderErrorReturns.all (·.2) = true ∧
    (openErrorReturns.drop 1).all (·.2) = true := by and_intros <;> rfl

/-- the step list of `open`: mkdir; create+pid; [yield]; readDir₁ (release on failure);
    [yield]; readDir₂ (close on failure); spawn two workers. -/
theorem open_step_order :
    newProviderSteps = ["err := os.MkdirAll(baseDir, 0755)", "err := provider.acquireLock()",
      "verifPoint(\"newStorageProvider:locked\")", "err := provider.initSegmentCounter()",
      "provider.releaseLock()", "verifPoint(\"newStorageProvider:ready\")", "return provider, nil"] ∧
    openSteps = ["provider, err := newStorageProvider(config.BaseDir)",
      "segmentIDs, err := provider.listSegments()", "provider.close()", "storage.wg.Add(2)",
      "go storage.flushWorker()", "go storage.compactionWorker()", "return storage, nil"] := by and_intros <;> rfl

/-- `cRelease; cRemove; cClear`: nil check, close the descriptor, remove LOCK, forget it. -/
theorem releaseLock_step_order :
    releaseLockSteps = ["if p.lockFile == nil", "return nil",
      "lockPath := filepath.Join(p.baseDir, \"LOCK\")", "err := p.lockFile.Close()", "if err != nil",
      "err := os.Remove(lockPath)", "if err != nil && !os.IsNotExist(err)", "p.lockFile = nil", "return nil"] ∧
    providerCloseSteps = ["return p.releaseLock()"] := by and_intros <;> rfl

/-- `cTest; cSignal; cWait; cRelease…`: Close sets `closed` under the store lock first,
    stops and awaits the workers next, and releases the LOCK last (the yield point the
    harness parks at sits right after the test-and-set). -/
theorem close_step_order :
    closeSteps = ["s.mu.Lock()", "if s.closed", "s.mu.Unlock()", "s.closed = true", "s.mu.Unlock()",
      "verifPoint(\"close:closed\")", "close(s.closeChan)", "s.wg.Wait()",
      "err := s.provider.close()", "if err != nil"] := by rfl

/-- the flush worker does its final flush and only then lets wg.Wait() return -/
theorem flushWorker_shutdown :
    flushWorkerShutdown = ["verifPoint(\"flushWorker:final\")", "s.flushMemtables()",
      "verifPoint(\"flushWorker:exit\")", "return"] ∧
    flushWorkerDefers = ["defer s.wg.Done()"] := by and_intros <;> rfl

/-- The exported methods of *PersistentHybridIndex, and whether each begins with the
    `closed` test under the read lock:
      guarded (model `OpKind`): Add, AddWithID, Remove, Train, Flush, and Execute of the
        search builder;  Close: test-and-set under the write lock;
      not guarded: NewSearch (only builds the value whose Execute is guarded),
        VectorIndex / TextIndex / MetadataIndex (return a field of the configuration),
        WriteTo / ReadFrom (always "not supported"), TriggerCompaction (non-blocking send
        on a buffered channel nobody reads after Close) — none of them touches the
        provider, the memtables or the segments. -/
theorem closed_guard_of_every_exported_method : exportedMethods =
    [("Add", "rlock-closed-test", "closed,maybeScheduleFlush,memtableQueue,mu"),
     ("AddWithID", "rlock-closed-test", "closed,maybeScheduleFlush,memtableQueue,mu"),
     ("Close", "lock-test-and-set", "closeChan,closed,mu,provider,wg"),
     ("Flush", "rlock-closed-test", "closed,flushMemtables,mu"),
     ("MetadataIndex", "none", "config"),
     ("NewSearch", "none", ""),
     ("ReadFrom", "none", ""),
     ("Remove", "rlock-closed-test", "closed,memtableQueue,mu"),
     ("TextIndex", "none", "config"),
     ("Train", "rlock-closed-test", "closed,config,mu"),
     ("TriggerCompaction", "none", "compactionChan"),
     ("VectorIndex", "none", "config"),
     ("WriteTo", "none", "")] ∧ executeGuard = "rlock-closed-test" := by and_intros <;> rfl

/-- in particular: every exported method that touches the provider, the memtable queue,
    the segment manager or the flush path begins with the `closed` test -/
theorem unguarded_methods_touch_no_store_state :
    (exportedMethods.filter (fun m => m.2.1 == "none")).all (fun m =>
      m.2.2 == "" || m.2.2 == "config" || m.2.2 == "compactionChan") = true := by rfl

end CometGen.Obligations.C17
