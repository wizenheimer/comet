/-
  Per-run obligations for C14 over facts regenerated from /repo's source
  (lean/CometGen/Facts_PQ.lean, written by harness/cmd/facts on every run).

  Each obligation says "the anchored site still reads the way the models
  (Comet/Vector/PQ.lean, Comet/Vector/IVFPQ.lean) transcribe it".  A differing anchor is
  advisory (DESIGN.md §13.10): the check then runs the correspondence stream with a
  tenfold budget, and only what that run finds is reported.
-/
import CometGen.Facts_PQ
namespace CometGen.Obligations.C14
open CometGen.Facts.PQ

/-- `PQ.newOk` / `IVFPQ.newOk`: code sizes above 8 bits are rejected (one-byte codes). -/
theorem nbits_sites : nbitsConds = ["Nbits <= 0 || Nbits > 8", "nbits <= 0 || nbits > 8"] := by rfl

/-- `PQ.train`: `n < Ksub`; `IVFPQ.train`: `n < 10·nlist`, then `n < Ksub`. -/
theorem train_gate_sites : trainGates =
    ["len(vectors) < idx.Ksub", "len(vectors) < idx.nlist*10", "len(vectors) < idx.Ksub"] := by rfl

/-- `PQ.argminLoop`: strict `<` against the running minimum in all three loops. -/
theorem argmin_sites : argminConds = ["dist < minDist", "dist < minDist", "dist < minDist"] := by rfl

/-- `PQ.trunc8`: the code entry is `uint8(minIdx)`. -/
theorem code_cast_sites : codeCasts = ["uint8(minIdx)", "uint8(minIdx)"] := by rfl

/-- `Flat.thrSkip` in `PQ.scan`: skip iff `thr > 0 && dist > thr`. -/
theorem threshold_sites : thresholdConds =
    ["s.threshold > 0 && finalDist > s.threshold", "s.threshold > 0 && dist > s.threshold"] := by rfl

/-- one `sanitizeK` against the number of surviving candidates in each search -/
theorem sanitize_sites :
    sanitizeCalls = ["sanitizeK(s.k, len(results))", "sanitizeK(s.k, len(results))"] := by rfl

/-- `IVFPQ.clampProbes` -/
theorem probe_site : probeConds = ["nprobes <= 0 || nprobes > s.index.nlist"] := by rfl

/-- `Arith.sqrt` applied to the float32 table sum, through float64 -/
theorem sqrt_sites : sqrtCalls = ["math.Sqrt(float64(dist))", "math.Sqrt(float64(dist))"] := by rfl

/-- `PQ.step` / `IVFPQ.step`, `.add`: purge tombstones when the id is still soft-deleted -/
theorem readd_sites : readdConds =
    ["idx.deletedNodes.Contains(vector.ID())", "idx.deletedNodes.Contains(vector.ID())"] := by rfl

end CometGen.Obligations.C14
