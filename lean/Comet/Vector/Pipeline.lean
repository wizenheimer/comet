/-
  Comet.Vector.Pipeline — what EVERY vector index kind promises about a single-query
  answer (C02), the tail that the five `searchSingleQuery` bodies share, and the
  executable checker the driver runs on implementation answers.

  `live` is the specification's live set (id, stored vector); `scoreOK v s` says that `s`
  is the score the kind defines for the stored vector `v` (for flat / IVF / HNSW:
  `s = dist q' v`, the true metric distance; for PQ / IVFPQ the asymmetric distance of the
  lifted metric of C14 — the driver passes `True` there).
-/
import Comet.TopK
import Comet.Scalar
import Comet.Vector.Flat
namespace Comet.Pipeline

variable {V S : Type}

/-- C02's single-query contract -/
structure Sound (sc : Scalar S) (scoreOK : V → S → Bool) (live : List (Id × V))
    (filter : List Id) (thr : S) (k : Int) (res : List (Hit S)) : Prop where
  /-- refers to a live vector and carries the kind's score for it -/
  live_scored : ∀ h ∈ res, ∃ v, (h.id, v) ∈ live ∧ scoreOK v h.score = true
  /-- satisfies the document-ID restriction -/
  eligible : ∀ h ∈ res, Flat.eligible filter h.id = true
  /-- satisfies the threshold when one is given -/
  within : ∀ h ∈ res, Flat.thrSkip sc thr h.score = false
  /-- appears at most once -/
  distinct : (res.map (·.id)).Nodup
  /-- ascending score order -/
  sorted : res.Pairwise fun a b => sc.le a.score b.score = true
  /-- at most k -/
  atMostK : 0 < k → (res.length : Int) ≤ k

def nodupB [DecidableEq α] : List α → Bool
  | [] => true
  | a :: t => !t.contains a && nodupB t

theorem nodupB_iff [DecidableEq α] (l : List α) : nodupB l = true ↔ l.Nodup := by
  induction l with
  | nil => simp [nodupB]
  | cons a t ih => simp [nodupB, ih, List.nodup_cons]

/-- the executable form of `Sound` -/
def checkSound (sc : Scalar S) (scoreOK : V → S → Bool) (live : List (Id × V))
    (filter : List Id) (thr : S) (k : Int) (res : List (Hit S)) : Bool :=
  res.all (fun h => live.any fun p => p.1 == h.id && scoreOK p.2 h.score) &&
  res.all (fun h => Flat.eligible filter h.id) &&
  res.all (fun h => !Flat.thrSkip sc thr h.score) &&
  nodupB (res.map (·.id)) &&
  sortedB sc.le res &&
  (decide (k ≤ 0) || decide ((res.length : Int) ≤ k))

theorem checkSound_iff (sc : Scalar S) (scoreOK : V → S → Bool) (live : List (Id × V))
    (filter : List Id) (thr : S) (k : Int) (res : List (Hit S)) :
    checkSound sc scoreOK live filter thr k res = true ↔
      Sound sc scoreOK live filter thr k res := by
  simp only [checkSound, Bool.and_eq_true, List.all_eq_true, List.any_eq_true, beq_iff_eq,
    Bool.not_eq_true', Bool.or_eq_true, decide_eq_true_eq, nodupB_iff, sortedB_iff]
  constructor
  · rintro ⟨⟨⟨⟨⟨h1, h2⟩, h3⟩, h4⟩, h5⟩, h6⟩
    refine ⟨fun x hx => ?_, h2, h3, h4, h5, fun hk => h6.resolve_left (by omega)⟩
    obtain ⟨p, hp, he, hs⟩ := h1 x hx
    exact ⟨p.2, he ▸ hp, hs⟩
  · intro h
    refine ⟨⟨⟨⟨⟨fun x hx => ?_, h.eligible⟩, h.within⟩, h.distinct⟩, h.sorted⟩, ?_⟩
    · obtain ⟨v, hv, hs⟩ := h.live_scored x hx
      exact ⟨(x.id, v), hv, rfl, hs⟩
    · by_cases hk : k ≤ 0
      · exact .inl hk
      · exact .inr (h.atMostK (by omega))

/-- one candidate through the three skips of the scan loops -/
def keep (sc : Scalar S) (deleted filter : List Id) (thr : S) (c : Id × V × S) : Option (Hit S) :=
  if deleted.contains c.1 then none
  else if !Flat.eligible filter c.1 then none
  else if Flat.thrSkip sc thr c.2.2 then none
  else some ⟨c.1, c.2.2⟩

/-- The tail shared by the five `searchSingleQuery` bodies: candidates (id, stored vector,
    score) → drop soft-deleted → drop ineligible → drop beyond threshold → sort ascending
    → first `kk`.  The candidate source and `kk` differ per kind.  Only the flat model is
    tied to it (C02 `flat_search_is_tail`). -/
def tail (sc : Scalar S) (deleted filter : List Id) (thr : S) (kk : Nat)
    (cands : List (Id × V × S)) : List (Hit S) :=
  ((cands.filterMap (keep sc deleted filter thr)).mergeSort (hitLe sc.le)).take kk

end Comet.Pipeline
