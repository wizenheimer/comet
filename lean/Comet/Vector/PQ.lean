/-
  Comet.Vector.PQ — model of pq_index.go / pq_index_search.go (and the arithmetic
  shared with ivfpq_index*.go), written after the Go line by line.

  Scalars.  Everything is generic in the score type `S`:
    * `Ops S`   — the ring-like signature `0 + − ×` the distance arithmetic uses
                  (instantiated at commutative rings / ℝ in the proof files and at
                  IEEE binary32 in the driver);
    * `Arith S` — what PQ needs beyond the score scalar of a `Metric`:
                  `−`, `×`, `+Inf` (start value of the arg-min loops) and
                  `float32(math.Sqrt(float64(·)))`.
  Vectors are `List S`; a codebook `cbs : List (List (List S))` is indexed
  `[subspace m][codeword k][component i]` (Go keeps `codebooks[m]` flat:
  `codebooks[m][k*dsub:(k+1)*dsub]` is codeword `k`).

  The trained codebooks are an INPUT of `train` (an oracle standing for the
  k-means run; replicating k-means is C20's business): the driver reads them from the
  implementation through `verif` accessors.

  Quirks kept on purpose:
    * `code[m] = uint8(minIdx)`: `trunc8` (the constructor accepts `Nbits ≤ 8` only, for
      which the conversion is the identity — `code_fits` in Properties/C14.lean; the
      state type does not forbid larger `nbits`, see the remark `trunc8_loses_index_above_8_bits`);
    * strict `<` against a running minimum that starts at `+Inf`, index starts at 0;
    * `searchSingleQuery` returns `[]` for an index without codes BEFORE the query
      is preprocessed (a zero query under cosine is then not an error);
    * only one `sanitizeK` (flat has two);
    * `Add` of a still soft-deleted id flushes first (the repair of the re-add defect);
    * index-out-of-range is an explicit `panic` outcome, never totalised away.

  Core Lean only (linked into the driver).
-/
import Comet.TopK
import Comet.Scalar
import Comet.Agg
import Comet.Vector.Flat
namespace Comet
namespace PQ

/-! ## arithmetic signature and the generic ADC definitions -/

structure Ops (S : Type) where
  zero : S
  add : S → S → S
  sub : S → S → S
  mul : S → S → S

structure Arith (S : Type) where
  sub : S → S → S
  mul : S → S → S
  /-- `float32(math.Inf(1))` -/
  inf : S
  /-- `float32(math.Sqrt(float64(x)))` -/
  sqrt : S → S

def Arith.ops (A : Arith S) (sc : Scalar S) : Ops S := ⟨sc.zero, sc.add, A.sub, A.mul⟩

/-- `var dist float32; for i := range a { diff := a[i] - c[i]; dist += diff * diff }` -/
def sqDist (o : Ops S) (a c : List S) : S :=
  (List.zipWith (fun x y => o.mul (o.sub x y) (o.sub x y)) a c).foldl o.add o.zero

/-- `v[m*dsub : m*dsub+dsub]` -/
def subvec (dsub m : Nat) (v : List S) : List S := (v.drop (m * dsub)).take dsub

/-- `residual[d] = v[d] - centroid[d]` -/
def vsub (o : Ops S) (a c : List S) : List S := List.zipWith o.sub a c

/-- The arg-min loop of `encode`, `encodeResidual`, `FindNearestCentroidIndex`:
    `if d < minDist { minDist = d; minIdx = k }` for `k = 0, 1, …`. -/
def argminLoop (lt : S → S → Bool) : List S → Nat → S → Nat → Nat
  | [], _, _, bi => bi
  | d :: ds, k, best, bi =>
      if lt d best then argminLoop lt ds (k + 1) d k else argminLoop lt ds (k + 1) best bi

/-- `minDist := +Inf; minIdx := 0; loop` -/
def argmin (lt : S → S → Bool) (inf : S) (ds : List S) : Nat := argminLoop lt ds 0 inf 0

/-- Distance tables, subspaces `m, m+1, …`: `table[m][k] = ‖q_m − codeword_{m,k}‖²`.
    (`encode` computes the same distances inside its arg-min loop.) -/
def tablesFrom (o : Ops S) (dsub : Nat) (q : List S) : Nat → List (List (List S)) → List (List S)
  | _, [] => []
  | m, cb :: rest => cb.map (sqDist o (subvec dsub m q)) :: tablesFrom o dsub q (m + 1) rest

def tables (o : Ops S) (dsub : Nat) (cbs : List (List (List S))) (q : List S) : List (List S) :=
  tablesFrom o dsub q 0 cbs

/-- the arg-min index of every subspace, BEFORE the `uint8` conversion -/
def encodeRaw (o : Ops S) (lt : S → S → Bool) (inf : S) (dsub : Nat)
    (cbs : List (List (List S))) (v : List S) : List Nat :=
  (tables o dsub cbs v).map (argmin lt inf)

/-- `uint8(minIdx)` -/
def trunc8 (i : Nat) : Nat := i % 256

/-- `PQIndex.encode` / `IVFPQIndex.encodeResidual` -/
def encode (o : Ops S) (lt : S → S → Bool) (inf : S) (dsub : Nat)
    (cbs : List (List (List S))) (v : List S) : List Nat :=
  (encodeRaw o lt inf dsub cbs v).map trunc8

/-- `dist := acc; for m := 0; m < M; m++ { dist += distTables[m][code[m]] }`;
    `none` = index out of range (Go panics). -/
def adcSumFrom (o : Ops S) : S → List (List S) → List Nat → Option S
  | acc, [], _ => some acc
  | _, _ :: _, [] => none
  | acc, t :: ts, c :: cs =>
      match t[c]? with
      | none => none
      | some d => adcSumFrom o (o.add acc d) ts cs

def adcSum (o : Ops S) (ts : List (List S)) (code : List Nat) : Option S :=
  adcSumFrom o o.zero ts code

/-- The reconstruction of a code: the chosen codewords, concatenated. -/
def recon : List (List (List S)) → List Nat → Option (List S)
  | [], _ => some []
  | _ :: _, [] => none
  | cb :: rest, c :: cs =>
      match cb[c]?, recon rest cs with
      | some w, some r => some (w ++ r)
      | _, _ => none

/-- Shape of trained codebooks: `M` subspaces × `Ksub` codewords × `dsub` components
    (what `Train` allocates: `make([]float32, Ksub*dsub)` per subspace). -/
def cbWF (M ksub dsub : Nat) (cbs : List (List (List S))) : Bool :=
  cbs.length == M && cbs.all fun cb => cb.length == ksub && cb.all fun w => w.length == dsub

/-! ## the index -/

/-- What the index keeps per vector: the preprocessed vector (inside the
    `VectorNode`), for IVFPQ the inverted list it was put in, and the code. -/
structure Stored (S : Type) where
  vec : List S
  list : Nat
  code : List Nat
deriving Repr, DecidableEq

inductive Out | ok | err (e : Err) | panic
deriving Repr, DecidableEq

inductive Fail | err (e : Err) | panic
deriving Repr, DecidableEq

structure State (S : Type) where
  dim : Nat
  M : Nat
  nbits : Nat
  trained : Bool
  cbs : List (List (List S))
  /-- the parallel slices `vectorNodes` / `codes` -/
  entries : List (Id × Stored S)
  deleted : List Id

def State.ksub (s : State S) : Nat := 2 ^ s.nbits
def State.dsub (s : State S) : Nat := s.dim / s.M

/-- `NewPQIndex` parameter validation (Go `int`s): `Nbits <= 0 || Nbits > 8` is rejected. -/
def newOk (dim M nbits : Int) : Bool :=
  decide (0 < dim) && decide (0 < M) && decide (dim % M = 0) && decide (0 < nbits) && decide (nbits ≤ 8)

def init (dim M nbits : Nat) : State S := ⟨dim, M, nbits, false, [], [], []⟩

/-- `PQIndex.Train` on `n` vectors (`dimsOK`: all of dimension `dim`); `cbs` is what
    k-means produced.  `n ≥ Ksub` makes `KMeansSubspace` return exactly `Ksub`
    centroids, so the copy loop `centroids[k]`, `k < Ksub`, is in range. -/
def train (s : State S) (n : Nat) (dimsOK : Bool) (cbs : List (List (List S))) : State S × Out :=
  if n < s.ksub then (s, .err .other) else
  if !dimsOK then (s, .err .dim) else
  ({ s with cbs := cbs, trained := true }, .ok)

/-- `PQIndex.flushLocked`: drop the soft-deleted entries from both parallel slices -/
def flushLocked (s : State S) : State S :=
  if s.deleted.isEmpty then s else
  { s with entries := s.entries.filter (fun p => p.1 ∉ s.deleted), deleted := [] }

/-- `PQIndex.Add` / `Remove` / `Flush`.  `Add` of an id that is still soft-deleted
    first purges all tombstoned entries (`flushLocked`). -/
def step (m : Metric (List S) S) (A : Arith S) (s : State S) : Flat.Op (List S) → State S × Out
  | .add id v =>
      if !s.trained then (s, .err .untrained) else
      if v.length ≠ s.dim then (s, .err .dim) else
      match m.pre v with
      | none => (s, .err .zero)
      | some v' =>
        let s1 := if id ∈ s.deleted then flushLocked s else s
        let code := encode (A.ops m.sc) m.sc.lt A.inf s1.dsub s1.cbs v'
        ({ s1 with entries := s1.entries ++ [(id, ⟨v', 0, code⟩)] }, .ok)
  | .remove id =>
      if ¬ s.entries.any (·.1 == id) then (s, .err .notFound) else
      if id ∈ s.deleted then (s, .err .deleted) else
      ({ s with deleted := id :: s.deleted }, .ok)
  | .flush => (flushLocked s, .ok)

def run (m : Metric (List S) S) (A : Arith S) (s : State S) (ops : List (Flat.Op (List S))) :
    State S :=
  ops.foldl (fun s op => (step m A s op).1) s

/-- The scan loop shared by PQ and IVFPQ (`tabs` are the distance tables of the
    (residual) query): skip deleted, skip filtered-out, ADC sum, `sqrt`, threshold.
    `none` = a table lookup was out of range (Go panics). -/
def scan (sc : Scalar S) (A : Arith S) (tabs : List (List S)) (deleted : List Id)
    (thr : S) (filter : List Id) : List (Id × Stored S) → Option (List (Hit S))
  | [] => some []
  | p :: ps =>
      if p.1 ∈ deleted then scan sc A tabs deleted thr filter ps
      else if !Flat.eligible filter p.1 then scan sc A tabs deleted thr filter ps
      else
        match adcSum (A.ops sc) tabs p.2.code with
        | none => none
        | some d =>
          let fd := A.sqrt d
          if Flat.thrSkip sc thr fd then scan sc A tabs deleted thr filter ps
          else (scan sc A tabs deleted thr filter ps).map (⟨p.1, fd⟩ :: ·)

/-- `pqIndexSearch.searchSingleQuery` -/
def searchSingle (m : Metric (List S) S) (A : Arith S) (s : State S) (q : List S) (k : Int)
    (thr : S) (filter : List Id) : Except Fail (List (Hit S)) :=
  if !s.trained then .error (.err .untrained) else
  if q.length ≠ s.dim then .error (.err .dim) else
  if s.entries.isEmpty then .ok [] else
  match m.pre q with
  | none => .error (.err .zero)
  | some q' =>
    let tabs := tables (A.ops m.sc) s.dsub s.cbs q'
    match scan m.sc A tabs s.deleted thr filter s.entries with
    | none => .error .panic
    | some results =>
      let sorted := results.mergeSort (hitLe m.sc.le)
      .ok (sorted.take (sanitizeK k sorted.length))

/-- `lookupNodeVectors` (one id) -/
def lookupNode (entries : List (Id × Stored S)) (deleted : List Id) (id : Id) :
    Except Fail (List S) :=
  match entries.find? (·.1 == id) with
  | none => .error (.err .notFound)
  | some p => if id ∈ deleted then .error (.err .deleted) else .ok p.2.vec

/-- The body shared by `pqIndexSearch.Execute` and `ivfpqIndexSearch.Execute`
    (default cutoff −1: autocut disabled; no reranker). -/
def executeWith (sc : Scalar S) (lookup : Id → Except Fail (List S))
    (search1 : List S → Except Fail (List (Hit S)))
    (queries : List (List S)) (nodes : List Id) (k : Int) (agg : AggKind) :
    Except Fail (List (Hit S)) := do
  if queries.isEmpty && nodes.isEmpty then throw (.err .noQuery)
  let nodeQs ← nodes.mapM lookup
  let per ← (queries ++ nodeQs).mapM search1
  let all := per.flatten
  let aggregated := if all.isEmpty then all else vecAggregate sc agg all
  return limitResults k aggregated

def execute (m : Metric (List S) S) (A : Arith S) (s : State S) (queries : List (List S))
    (nodes : List Id) (k : Int) (thr : S) (filter : List Id) (agg : AggKind) :
    Except Fail (List (Hit S)) :=
  executeWith m.sc (lookupNode s.entries s.deleted)
    (fun q => searchSingle m A s q k thr filter) queries nodes k agg

/-! ## Specification (what C14 means for PQ), used by the theorems and by the driver

  PQ is a flat index over the *stored form* of a vector: `lift` packages
  "preprocess, then encode" as the `pre` of a `Metric (Stored S) S` and the ADC
  score as its `dist`, so that `Flat.live` / `Flat.cands` of C01 are the
  specification here too.  `tr` is the conversion applied to every arg-min index:
  `trunc8` for what the code does, `id` for what the property text asks. -/

/-- query / input vectors enter the lifted metric through this embedding -/
def inject (v : List S) : Stored S := ⟨v, 0, []⟩

def liftOp : Flat.Op (List S) → Flat.Op (Stored S)
  | .add id v => .add id (inject v)
  | .remove id => .remove id
  | .flush => .flush

/-- `√(Σ_m table[m][code[m]])`; the `getD` is never exercised on entries produced by
    `encode` against well-formed codebooks (`adcSum_encoded_isSome`). -/
def adcScore (sc : Scalar S) (A : Arith S) (tabs : List (List S)) (code : List Nat) : S :=
  A.sqrt ((adcSum (A.ops sc) tabs code).getD sc.zero)

def lift (m : Metric (List S) S) (A : Arith S) (tr : Nat → Nat) (dsub : Nat)
    (cbs : List (List (List S))) : Metric (Stored S) S where
  dimOf e := e.vec.length
  pre e := match m.pre e.vec with
    | none => none
    | some v' => some ⟨v', 0, (encodeRaw (A.ops m.sc) m.sc.lt A.inf dsub cbs v').map tr⟩
  dist q e := adcScore m.sc A (tables (A.ops m.sc) dsub cbs q.vec) e.code
  sc := m.sc

end PQ
end Comet
