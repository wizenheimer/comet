/-
  Comet.Fusion — fusion.go: weighted-sum, reciprocal-rank, max and min fusion and
  `scoreMapToRanks`.

  A Go `map[uint32]T` is an association list with duplicate-free keys
  (`NodupKeys`); `m[k] = v` is `aset`, `v, ok := m[k]` is `List.lookup`.  A `range`
  over a map visits the entries in an unspecified order: the input lists ARE that
  order, and every theorem is stated through `lookup`, for all lists with
  duplicate-free keys (hence for every iteration order).  Intermediate maps that
  the Go code ranges over again (`vectorRanks`, `textRanks`) are re-ordered by an
  arbitrary permutation in the theorems (`rrfFrom`).

  Core Lean only (linked into the driver).
-/
import Comet.TopK
namespace Comet

/-- `m[k] = v` : overwrite in place, else append -/
def aset (k : Id) (v : α) : List (Id × α) → List (Id × α)
  | [] => [(k, v)]
  | (k', v') :: t => if k' == k then (k', v) :: t else (k', v') :: aset k v t

/-- keys of a Go map are distinct -/
def NodupKeys (m : List (Id × α)) : Prop := (m.map (·.1)).Nodup

instance (m : List (Id × α)) : Decidable (NodupKeys m) :=
  inferInstanceAs (Decidable (m.map (·.1)).Nodup)

/-- the float64 operations used by fusion.go -/
structure DOps (S : Type) where
  one : S
  ofNat : Nat → S           -- `float64(rank)`
  add : S → S → S
  mul : S → S → S
  div : S → S → S
  /-- Go `a < b`; `a > b` is `lt b a` -/
  lt : S → S → Bool

/-! ### weighted sum -/

/-- `weightedSumFusion.Combine` -/
def wsumFusion (o : DOps S) (wv wt : S) (v t : List (Id × S)) : List (Id × S) :=
  let c := v.foldl (fun c p => aset p.1 (o.mul p.2 wv) c) []
  t.foldl (fun c p =>
    match c.lookup p.1 with
    | some e => aset p.1 (o.add e (o.mul p.2 wt)) c
    | none => aset p.1 (o.mul p.2 wt) c) c

/-! ### max / min -/

/-- `maxFusion.Combine` -/
def maxFusion (o : DOps S) (v t : List (Id × S)) : List (Id × S) :=
  let c := v.foldl (fun c p => aset p.1 p.2 c) []
  t.foldl (fun c p =>
    match c.lookup p.1 with
    | some e => if o.lt e p.2 then aset p.1 p.2 c else c
    | none => aset p.1 p.2 c) c

/-- `minFusion.Combine` -/
def minFusion (o : DOps S) (v t : List (Id × S)) : List (Id × S) :=
  v.foldl (fun c p =>
    match t.lookup p.1 with
    | some ts => if o.lt p.2 ts then aset p.1 p.2 c else aset p.1 ts c
    | none => c) []

/-! ### scoreMapToRanks: exchange sort over the map's iteration order -/

/-- inner loop `for j := i+1 …` for fixed `i`: `cur = sorted[i]`, the list is
    `sorted[i+1:]`; returns the final `sorted[i]` and the rewritten tail -/
def exPass (swap : α → α → Bool) (cur : α) : List α → α × List α
  | [] => (cur, [])
  | y :: ys =>
    if swap cur y then
      let r := exPass swap y ys
      (r.1, cur :: r.2)
    else
      let r := exPass swap cur ys
      (r.1, y :: r.2)

/-- outer loop with explicit fuel (structural, so that `decide` can run it) -/
def exSortAux (swap : α → α → Bool) : Nat → List α → List α
  | 0, l => l
  | _, [] => []
  | f + 1, x :: xs =>
    let r := exPass swap x xs
    r.1 :: exSortAux swap f r.2

def exSort (swap : α → α → Bool) (l : List α) : List α := exSortAux swap l.length l

/-- `shouldSwap`: ascending `sorted[i].score > sorted[j].score`, descending `<` -/
def shouldSwap (o : DOps S) (ascending : Bool) (a b : Id × S) : Bool :=
  if ascending then o.lt b.2 a.2 else o.lt a.2 b.2

/-- the sorted slice of `scoreMapToRanks` -/
def rankOrder (o : DOps S) (scores : List (Id × S)) (ascending : Bool) : List (Id × S) :=
  exSort (shouldSwap o ascending) scores

/-- `for i, ds := range sorted` as `(docID, i)` pairs -/
def rankPairs (σ : List (Id × S)) : List (Id × Nat) := σ.zipIdx.map fun p => (p.1.1, p.2)

/-- `scoreMapToRanks`: `ranks[ds.docID] = i` over the sorted slice -/
def scoreMapToRanks (o : DOps S) (scores : List (Id × S)) (ascending : Bool) : List (Id × Nat) :=
  if scores.length == 0 then [] else
  (rankPairs (rankOrder o scores ascending)).foldl (fun m p => aset p.1 p.2 m) []

/-- `1.0 / (k + float64(rank))` -/
def rrfTerm (o : DOps S) (K : S) (rank : Nat) : S := o.div o.one (o.add K (o.ofNat rank))

/-- the two accumulation loops of `reciprocalRankFusion.Combine` over the rank maps
    (in whatever order Go iterates them) -/
def rrfFrom (o : DOps S) (K : S) (rv rt : List (Id × Nat)) : List (Id × S) :=
  let c := rv.foldl (fun c p => aset p.1 (rrfTerm o K p.2) c) []
  rt.foldl (fun c p =>
    match c.lookup p.1 with
    | some e => aset p.1 (o.add e (rrfTerm o K p.2)) c
    | none => aset p.1 (rrfTerm o K p.2) c) c

/-- `reciprocalRankFusion.Combine` -/
def rrfFusion (o : DOps S) (K : S) (v t : List (Id × S)) : List (Id × S) :=
  rrfFrom o K (scoreMapToRanks o v true) (scoreMapToRanks o t false)

/-! ### specification-level definitions (the driver's checkers call the `…W` versions) -/

/-- position of `id` in a ranking -/
def rankIn (id : Id) : List (Id × α) → Option Nat
  | [] => none
  | p :: t => if p.1 == id then some 0 else (rankIn id t).map (· + 1)

/-- best-first, in the form that stays meaningful for incomparable scores (NaN):
    no later entry is strictly better than an earlier one.
    ascending (distances): never `b < a` for `a` before `b`; descending: never `a < b`. -/
def BestFirst (o : DOps S) (ascending : Bool) (σ : List (Id × S)) : Prop :=
  σ.Pairwise fun a b => shouldSwap o ascending a b = false

def bestFirstB (o : DOps S) (ascending : Bool) : List (Id × S) → Bool
  | [] => true
  | a :: as => as.all (fun b => !shouldSwap o ascending a b) && bestFirstB o ascending as

theorem bestFirstB_iff (o : DOps S) (asc : Bool) (σ : List (Id × S)) :
    bestFirstB o asc σ = true ↔ BestFirst o asc σ := by
  induction σ with
  | nil => simp [bestFirstB, BestFirst]
  | cons a as ih =>
    simp only [bestFirstB, BestFirst, List.pairwise_cons, Bool.and_eq_true, List.all_eq_true,
      Bool.not_eq_true']
    rw [ih]; rfl

/-- `σ` is a best-first ordering of the entries of the score map `m` -/
def IsRanking (o : DOps S) (ascending : Bool) (m σ : List (Id × S)) : Prop :=
  σ.Perm m ∧ BestFirst o ascending σ

/-- what reciprocal-rank fusion must return for the rankings `σv`, `σt` -/
def rrfValue (o : DOps S) (K : S) (σv σt : List (Id × S)) (id : Id) : Option S :=
  match rankIn id σv, rankIn id σt with
  | some a, some b => some (o.add (rrfTerm o K a) (rrfTerm o K b))
  | some a, none => some (rrfTerm o K a)
  | none, some b => some (rrfTerm o K b)
  | none, none => none

/-- Reciprocal-rank fusion specification: ranks (0-based) are positions in SOME
    best-first ordering of each modality consistent with its scores. -/
def RRFSpec (o : DOps S) (K : S) (v t out : List (Id × S)) : Prop :=
  ∃ σv σt, IsRanking o true v σv ∧ IsRanking o false t σt ∧
    ∀ id, out.lookup id = rrfValue o K σv σt id

/-- executable check of `RRFSpec` for given witnesses (found by an untrusted search) -/
def verifyRRF [BEq S] (o : DOps S) (K : S) (v t out σv σt : List (Id × S)) : Bool :=
  σv.isPerm v && bestFirstB o true σv && σt.isPerm t && bestFirstB o false σt &&
  (out.map (·.1) ++ v.map (·.1) ++ t.map (·.1)).all fun id =>
    out.lookup id == rrfValue o K σv σt id

/-- the ranks returned by `scoreMapToRanks` describe a best-first ordering:
    `σ` = the entries listed by rank -/
def ranksToOrder (m : List (Id × S)) (ranks : List (Id × Nat)) : List (Id × S) :=
  (List.range ranks.length).filterMap fun r =>
    match ranks.find? (·.2 == r) with
    | some p => (m.find? (·.1 == p.1))
    | none => none

/-- verified checker for an answer of `scoreMapToRanks` -/
def checkRanks [BEq S] (o : DOps S) (ascending : Bool) (m : List (Id × S))
    (ranks : List (Id × Nat)) : Bool :=
  let σ := ranksToOrder m ranks
  σ.isPerm m && bestFirstB o ascending σ && ranks.length == m.length &&
  ranks.all fun p => rankIn p.1 σ == some p.2

/-- what `checkRanks` establishes -/
def RanksSpec (o : DOps S) (ascending : Bool) (m : List (Id × S)) (ranks : List (Id × Nat)) : Prop :=
  ∃ σ, IsRanking o ascending m σ ∧ ranks.length = m.length ∧ ∀ p ∈ ranks, rankIn p.1 σ = some p.2


/-! ### rankings when "best-first" is not defined

  With an unordered score (NaN) among the scores of a modality the comparison is not a
  strict weak order on them: "best-first" has no meaning, and a comparison sort may
  place every entry — also the ordered ones — anywhere.  The property then only
  promises a rank map without panic.  `strict = true` (no unordered score in the map)
  is the full specification above; `strict = false` demands a bijection onto
  `0 … n−1` only. -/

/-- `σ` lists the entries of `m` exactly once; best-first where that is defined -/
def IsRankingW (o : DOps S) (ascending strict : Bool) (m σ : List (Id × S)) : Prop :=
  σ.Perm m ∧ (strict = true → BestFirst o ascending σ)

theorem isRankingW_true (o : DOps S) (asc : Bool) (m σ : List (Id × S)) :
    IsRankingW o asc true m σ ↔ IsRanking o asc m σ := by
  simp only [IsRankingW, IsRanking, true_implies]

/-- reciprocal-rank fusion specification, per modality strict or not -/
def RRFSpecW (o : DOps S) (K : S) (v t out : List (Id × S)) (strictV strictT : Bool) : Prop :=
  ∃ σv σt, IsRankingW o true strictV v σv ∧ IsRankingW o false strictT t σt ∧
    ∀ id, out.lookup id = rrfValue o K σv σt id

theorem rrfSpecW_true (o : DOps S) (K : S) (v t out : List (Id × S)) :
    RRFSpecW o K v t out true true ↔ RRFSpec o K v t out := by
  simp only [RRFSpecW, RRFSpec, isRankingW_true]

theorem lookup_none_of_not_key {β : Type} (id : Id) (m : List (Id × β)) (hn : id ∉ m.map (·.1)) :
    m.lookup id = none :=
  List.lookup_eq_none_iff.2 fun p hp => bne_iff_ne.2 fun h => hn (List.mem_map.2 ⟨p, hp, h.symm⟩)

theorem rankIn_none_of_not_key (id : Id) (σ : List (Id × S)) (hn : id ∉ σ.map (·.1)) :
    rankIn id σ = none := by
  induction σ with
  | nil => rfl
  | cons p σ ih =>
    rw [List.map_cons, List.mem_cons, not_or] at hn
    rw [rankIn, if_neg (mt beq_iff_eq.1 (Ne.symm hn.1)), ih hn.2]
    rfl

/-- executable check of `RRFSpecW` for given witnesses (found by an untrusted search) -/
def verifyRRFW [BEq S] (o : DOps S) (K : S) (v t out σv σt : List (Id × S))
    (strictV strictT : Bool) : Bool :=
  σv.isPerm v && (!strictV || bestFirstB o true σv) &&
  σt.isPerm t && (!strictT || bestFirstB o false σt) &&
  (out.map (·.1) ++ v.map (·.1) ++ t.map (·.1)).all fun id =>
    out.lookup id == rrfValue o K σv σt id

theorem verifyRRFW_sound [BEq S] [LawfulBEq S] (o : DOps S) (K : S)
    (v t out σv σt : List (Id × S)) (strictV strictT : Bool)
    (h : verifyRRFW o K v t out σv σt strictV strictT = true) :
    RRFSpecW o K v t out strictV strictT := by
  simp only [verifyRRFW, Bool.and_eq_true, Bool.or_eq_true, Bool.not_eq_true', List.all_eq_true,
    List.isPerm_iff, bestFirstB_iff, beq_iff_eq] at h
  -- the five conjuncts of the checker; `bestV`, `bestT` : `strict = false ∨ best-first`
  obtain ⟨⟨⟨⟨permV, bestV⟩, permT⟩, bestT⟩, agree⟩ := h
  refine ⟨σv, σt, ⟨permV, fun hs => bestV.resolve_left (hs ▸ nofun)⟩,
    ⟨permT, fun hs => bestT.resolve_left (hs ▸ nofun)⟩, ?_⟩
  intro id
  by_cases hm : id ∈ out.map (·.1) ++ v.map (·.1) ++ t.map (·.1)
  · exact agree id hm
  · -- an id that occurs nowhere: both sides are `none`
    simp only [List.mem_append, not_or] at hm
    obtain ⟨⟨ho, hv⟩, ht⟩ := hm
    have hv' : id ∉ σv.map (·.1) := fun hx => hv ((permV.map (·.1)).subset hx)
    have ht' : id ∉ σt.map (·.1) := fun hx => ht ((permT.map (·.1)).subset hx)
    rw [lookup_none_of_not_key id out ho, rrfValue, rankIn_none_of_not_key id σv hv',
      rankIn_none_of_not_key id σt ht']

/-- checker for an answer of `scoreMapToRanks`: always a bijection onto `0 … n−1`
    (every id once, every rank once), best-first when `strict` -/
def checkRanksW [BEq S] (o : DOps S) (ascending strict : Bool) (m : List (Id × S))
    (ranks : List (Id × Nat)) : Bool :=
  let σ := ranksToOrder m ranks
  σ.isPerm m && (!strict || bestFirstB o ascending σ) && ranks.length == m.length &&
  ranks.all fun p => rankIn p.1 σ == some p.2

def RanksSpecW (o : DOps S) (ascending strict : Bool) (m : List (Id × S))
    (ranks : List (Id × Nat)) : Prop :=
  ∃ σ, IsRankingW o ascending strict m σ ∧ ranks.length = m.length ∧
    ∀ p ∈ ranks, rankIn p.1 σ = some p.2

theorem checkRanksW_sound [BEq S] [LawfulBEq S] (o : DOps S) (asc strict : Bool)
    (m : List (Id × S)) (ranks : List (Id × Nat)) (h : checkRanksW o asc strict m ranks = true) :
    RanksSpecW o asc strict m ranks := by
  simp only [checkRanksW, Bool.and_eq_true, Bool.or_eq_true, Bool.not_eq_true', List.all_eq_true,
    List.isPerm_iff, bestFirstB_iff, beq_iff_eq] at h
  obtain ⟨⟨⟨h1, h2⟩, h3⟩, h4⟩ := h
  exact ⟨_, ⟨h1, fun hs => h2.resolve_left (hs ▸ nofun)⟩, h3, h4⟩

/-! the strict checkers are the `strict = true` instances (`!true || b` is `b`) -/

theorem verifyRRF_sound [BEq S] [LawfulBEq S] (o : DOps S) (K : S)
    (v t out σv σt : List (Id × S)) (h : verifyRRF o K v t out σv σt = true) :
    RRFSpec o K v t out :=
  (rrfSpecW_true o K v t out).1 (verifyRRFW_sound o K v t out σv σt true true h)

theorem checkRanks_sound [BEq S] [LawfulBEq S] (o : DOps S) (asc : Bool) (m : List (Id × S))
    (ranks : List (Id × Nat)) (h : checkRanks o asc m ranks = true) : RanksSpec o asc m ranks := by
  obtain ⟨σ, hσ, h3, h4⟩ := checkRanksW_sound o asc true m ranks h
  exact ⟨σ, (isRankingW_true o asc m σ).1 hσ, h3, h4⟩

end Comet
