/-
  Comet.TopK — order-generic core shared by every ranking property.

  `S` is the score type, `le : S → S → Bool` the "at least as good" order
  (ascending distance for vector search; the callers pass `fun a b => le b a`
  for descending relevance).  Nothing here mentions arithmetic.

  Core Lean only (this file is linked into the driver executable).
-/
namespace Comet

abbrev Id := Nat

structure Hit (S : Type) where
  id : Id
  score : S
deriving Repr, DecidableEq

/-- `limiter.go: sanitizeK`. `k ≤ 0` or `k > n` mean "everything". -/
def sanitizeK (k : Int) (n : Nat) : Nat :=
  if k ≤ 0 ∨ (n : Int) < k then n else k.toNat

theorem sanitizeK_le (k : Int) (n : Nat) : sanitizeK k n ≤ n := by
  unfold sanitizeK; split
  · exact Nat.le_refl n
  · next h => exact Int.toNat_le.2 (Int.not_lt.1 (not_or.1 h).2)

theorem sanitizeK_nonpos {k : Int} (h : k ≤ 0) (n : Nat) : sanitizeK k n = n :=
  if_pos (.inl h)

theorem sanitizeK_of_pos_le {k : Int} {n : Nat} (h0 : 0 < k) (h : k ≤ n) :
    sanitizeK k n = k.toNat :=
  if_neg (not_or.2 ⟨Int.not_le.2 h0, Int.not_lt.2 h⟩)

theorem sanitizeK_le_of_pos {k : Int} (h : 0 < k) (n : Nat) : (sanitizeK k n : Int) ≤ k := by
  unfold sanitizeK; split
  · next hc => exact Int.le_of_lt (hc.resolve_left (Int.not_le.2 h))
  · exact Int.le_of_eq (Int.toNat_of_nonneg (Int.le_of_lt h))

theorem sanitizeK_natCast_of_le {m n : Nat} (h : n ≤ m) : sanitizeK (m : Int) n = n := by
  unfold sanitizeK; split
  · rfl
  · next hc =>
    cases Nat.le_antisymm h (Int.ofNat_le.1 (Int.not_lt.1 (not_or.1 hc).2))
    exact Int.toNat_natCast _

theorem sanitizeK_idem (k : Int) (n : Nat) : sanitizeK k (sanitizeK k n) = sanitizeK k n := by
  by_cases h : k ≤ 0 ∨ (n : Int) < k
  · rw [show sanitizeK k n = n from if_pos h]; exact if_pos h
  · have hk : 0 < k := Int.not_le.1 (not_or.1 h).1
    rw [sanitizeK_of_pos_le hk (Int.not_lt.1 (not_or.1 h).2)]
    exact sanitizeK_of_pos_le hk (Int.le_of_eq (Int.toNat_of_nonneg (Int.le_of_lt hk)).symm)

theorem sanitizeK_mono (k : Int) {n n' : Nat} (h : n ≤ n') : sanitizeK k n ≤ sanitizeK k n' := by
  by_cases h1 : k ≤ 0 ∨ (n' : Int) < k
  · rw [show sanitizeK k n' = n' from if_pos h1]
    exact Nat.le_trans (sanitizeK_le k n) h
  · have hk : 0 < k := Int.not_le.1 (not_or.1 h1).1
    rw [sanitizeK_of_pos_le hk (Int.not_lt.1 (not_or.1 h1).2)]
    exact (Int.le_toNat (Int.le_of_lt hk)).2 (sanitizeK_le_of_pos hk n)

/-- flat search calls `sanitizeK` twice (first against the number of stored
    vectors `m`, then against the number of surviving candidates `n ≤ m`);
    the composition equals a single call against `n`. -/
theorem sanitizeK_twice (k : Int) (m n : Nat) (h : n ≤ m) :
    sanitizeK (sanitizeK k m : Nat) n = sanitizeK k n := by
  by_cases h1 : k ≤ 0 ∨ (m : Int) < k
  · rw [show sanitizeK k m = m from if_pos h1, sanitizeK_natCast_of_le h]
    exact (if_pos (h1.imp_right (Int.lt_of_le_of_lt (Int.ofNat_le.2 h)))).symm
  · rw [show sanitizeK k m = k.toNat from if_neg h1,
      Int.toNat_of_nonneg (Int.le_of_lt (Int.not_le.1 (not_or.1 h1).1))]

/-- Lifts a score order to hits. -/
@[inline] def hitLe (le : S → S → Bool) (a b : Hit S) : Bool := le a.score b.score

/-- The model's ranking: stable merge sort, then the first `sanitizeK k n`. -/
def selectK (le : S → S → Bool) (k : Int) (xs : List (Hit S)) : List (Hit S) :=
  (xs.mergeSort (hitLe le)).take (sanitizeK k xs.length)

/-- What "the exact top-k of `cands`" means, independent of how ties are broken. -/
structure IsTopK (le : S → S → Bool) (k : Int) (cands res : List (Hit S)) : Prop where
  sorted : res.Pairwise fun a b => le a.score b.score = true
  split  : ∃ rest, (res ++ rest).Perm cands ∧
             ∀ a ∈ res, ∀ b ∈ rest, le a.score b.score = true
  len    : res.length = sanitizeK k cands.length

/-! ### multiset subtraction used by the executable checker -/

/-- Remove every element of `rs` (with multiplicity) from `cs`; `none` when some
    element of `rs` is not available any more. -/
def subtractAll [DecidableEq α] : (cs rs : List α) → Option (List α)
  | cs, [] => some cs
  | cs, r :: rs => if r ∈ cs then subtractAll (cs.erase r) rs else none

theorem subtractAll_sound [DecidableEq α] :
    ∀ (cs rs rest : List α), subtractAll cs rs = some rest → (rs ++ rest).Perm cs := by
  intro cs rs rest h
  induction rs generalizing cs with
  | nil => cases h; exact .refl _
  | cons r rs ih =>
    rw [subtractAll] at h
    split at h
    · next hm => exact ((ih _ h).cons r).trans (List.perm_cons_erase hm).symm
    · cases h

theorem subtractAll_complete [DecidableEq α] :
    ∀ (cs rs rest : List α), (rs ++ rest).Perm cs →
      ∃ rest', subtractAll cs rs = some rest' ∧ rest'.Perm rest := by
  intro cs rs rest h
  induction rs generalizing cs with
  | nil => exact ⟨cs, rfl, h.symm⟩
  | cons r rs ih =>
    have hm : r ∈ cs := h.subset List.mem_cons_self
    obtain ⟨rest', h1, h2⟩ := ih (cs.erase r) (by simpa using h.erase r)
    exact ⟨rest', by rw [subtractAll, if_pos hm, h1], h2⟩

/-! ### executable checker for implementation answers -/

def sortedB (le : S → S → Bool) : List (Hit S) → Bool
  | [] => true
  | a :: as => as.all (fun b => le a.score b.score) && sortedB le as

theorem sortedB_iff (le : S → S → Bool) (xs : List (Hit S)) :
    sortedB le xs = true ↔ xs.Pairwise fun a b => le a.score b.score = true := by
  induction xs with
  | nil => simp [sortedB]
  | cons a as ih => simp [sortedB, ih, List.pairwise_cons]

/-- Decides `IsTopK le k cands res` for an answer `res` produced by the
    implementation (any valid tie-break passes). -/
def checkTopK [DecidableEq S] (le : S → S → Bool) (k : Int)
    (cands res : List (Hit S)) : Bool :=
  sortedB le res &&
  res.length == sanitizeK k cands.length &&
  match subtractAll cands res with
  | none => false
  | some rest => res.all fun a => rest.all fun b => le a.score b.score

theorem checkTopK_sound [DecidableEq S] (le : S → S → Bool) (k : Int)
    (cands res : List (Hit S)) (h : checkTopK le k cands res = true) :
    IsTopK le k cands res := by
  unfold checkTopK at h
  simp only [Bool.and_eq_true, beq_iff_eq] at h
  obtain ⟨⟨hs, hl⟩, hr⟩ := h
  split at hr
  · cases hr
  · next rest hsub =>
    refine ⟨(sortedB_iff le res).1 hs, ⟨rest, subtractAll_sound _ _ _ hsub, ?_⟩, hl⟩
    intro a ha b hb
    simp only [List.all_eq_true] at hr
    exact hr a ha b hb

theorem checkTopK_complete [DecidableEq S] (le : S → S → Bool) (k : Int)
    (cands res : List (Hit S)) (h : IsTopK le k cands res) :
    checkTopK le k cands res = true := by
  obtain ⟨hs, ⟨rest, hp, hle⟩, hl⟩ := h
  obtain ⟨rest', h1, h2⟩ := subtractAll_complete cands res rest hp
  unfold checkTopK
  simp only [Bool.and_eq_true, beq_iff_eq]
  refine ⟨⟨(sortedB_iff le res).2 hs, hl⟩, ?_⟩
  rw [h1]
  simp only [List.all_eq_true]
  intro a ha b hb
  exact hle a ha b (h2.subset hb)

theorem checkTopK_iff [DecidableEq S] (le : S → S → Bool) (k : Int)
    (cands res : List (Hit S)) :
    checkTopK le k cands res = true ↔ IsTopK le k cands res :=
  ⟨checkTopK_sound le k cands res, checkTopK_complete le k cands res⟩

/-! ### the model's own ranking meets the spec -/

theorem IsTopK.of_perm {le : S → S → Bool} {k : Int} {c c' r : List (Hit S)}
    (h : IsTopK le k c r) (hp : c.Perm c') : IsTopK le k c' r :=
  ⟨h.sorted, h.split.imp fun _ hr => ⟨hr.1.trans hp, hr.2⟩, hp.length_eq ▸ h.len⟩

theorem isTopK_nil (le : S → S → Bool) (k : Int) : IsTopK le k ([] : List (Hit S)) [] :=
  ⟨.nil, ⟨[], .refl _, nofun⟩, (Nat.le_zero.1 (sanitizeK_le k 0)).symm⟩

theorem _root_.List.Pairwise.take_drop {R : α → α → Prop} {l : List α} (h : l.Pairwise R)
    (n : Nat) : ∀ a ∈ l.take n, ∀ b ∈ l.drop n, R a b :=
  (List.pairwise_append.1 (by rwa [List.take_append_drop])).2.2

/-- the first `sanitizeK k n` entries of a sorted list are an exact top-k of it -/
theorem isTopK_take_of_sorted (le : S → S → Bool) (k : Int) (xs : List (Hit S))
    (hs : xs.Pairwise fun a b => le a.score b.score = true) :
    IsTopK le k xs (xs.take (sanitizeK k xs.length)) :=
  ⟨hs.sublist (List.take_sublist _ _),
    ⟨xs.drop (sanitizeK k xs.length), .of_eq (List.take_append_drop _ _), hs.take_drop _⟩,
    List.length_take.trans (Nat.min_eq_left (sanitizeK_le k _))⟩

theorem selectK_isTopK (le : S → S → Bool)
    (tot : ∀ a b : S, le a b || le b a)
    (tr : ∀ a b c : S, le a b → le b c → le a c)
    (k : Int) (xs : List (Hit S)) : IsTopK le k xs (selectK le k xs) := by
  have hsorted : (xs.mergeSort (hitLe le)).Pairwise (fun a b => hitLe le a b = true) :=
    List.pairwise_mergeSort (le := hitLe le)
      (fun a b c => tr a.score b.score c.score)
      (fun a b => tot a.score b.score) xs
  have := isTopK_take_of_sorted le k _ hsorted
  rw [List.length_mergeSort] at this
  exact this.of_perm (List.mergeSort_perm xs _)

/-! ### uniqueness of the score list (property text: "equality is on the
    multiset of scores") -/

theorem isTopK_scores_eq (le : S → S → Bool)
    (tot : ∀ a b : S, le a b || le b a)
    (tr : ∀ a b c : S, le a b → le b c → le a c)
    (antisymm : ∀ a b : S, le a b → le b a → a = b)
    (k : Int) (cands r₁ r₂ : List (Hit S))
    (h₁ : IsTopK le k cands r₁) (h₂ : IsTopK le k cands r₂) :
    r₁.map (·.score) = r₂.map (·.score) := by
  -- complete each answer to a fully sorted score list of `cands`
  have full : ∀ r, IsTopK le k cands r → ∃ t,
      (r.map (·.score) ++ t).Pairwise (fun a b => le a b = true) ∧
      (r.map (·.score) ++ t).Perm (cands.map (·.score)) := by
    rintro r ⟨hs, ⟨rest, hp, hle⟩, _⟩
    refine ⟨(rest.map (·.score)).mergeSort le, List.pairwise_append.2
      ⟨List.pairwise_map.2 hs, List.pairwise_mergeSort tr tot _, fun a ha b hb => ?_⟩, ?_⟩
    · obtain ⟨a', ha', rfl⟩ := List.mem_map.1 ha
      obtain ⟨b', hb', rfl⟩ := List.mem_map.1 (List.mem_mergeSort.1 hb)
      exact hle a' ha' b' hb'
    · exact ((List.mergeSort_perm _ _).append_left _).trans (List.map_append ▸ hp.map _)
  obtain ⟨t₁, s₁, p₁⟩ := full r₁ h₁
  obtain ⟨t₂, s₂, p₂⟩ := full r₂ h₂
  exact List.append_inj_left
    (List.Perm.eq_of_pairwise (fun a b _ _ => antisymm a b) s₁ s₂ (p₁.trans p₂.symm))
    (by rw [List.length_map, List.length_map, h₁.len, h₂.len])

end Comet
