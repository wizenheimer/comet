/-
  Streams `restart` (C09), `store` (C08), `crash` (C10): replay of a trace of the real
  PersistentHybridIndex on the faithful model `Comet.Storage.Store`.

    begin <stream> <vec> <txt> <md> <limit> <flushThr> <compThr>     (0/1 flags, naturals)
    op open                         => ok | locked
    op add <id> <vdim> <tlen> <mcnt> => ok | closed
    op remove <id>                  => ok | notfound | vecnotfound | vecdeleted | closed
    op flush | rotate | evict | trigger => ok | closed
    op badadd <vdim> <tlen> <mcnt>  => err | closed      an add the store must reject
    op osearch <vec|vt> k=<k> turns=… loads=<n> exactix=<0|1> commute=<0|1> [thr=1 agg=… cut=… np=… ef=… fusion[kind]=…]
                                    => ok <store ids> ref <reference ids>   (predicate refeq, see the op)
    op search <vec|txt|md|mdg|mdgf> k=<k> turns=<t,…|-> loads=<n> => ok <id,…|-> | err <closed|noindex|other>
         turns: what each segment goroutine did, in the (serialised) order they ran:
         h = cache hit, l<id> = loaded segment <id>, f<id> = ReadFrom of segment <id> failed,
         f = getIndex failed before ReadFrom
    op bg <fwake|ffinal|flist|fwrite|fremove|cwake|cexit|clist|cload|cwrite|cswap> => <where the worker is now>
         where: idle | woken | next | flushed | exited | load | write | swap ; fwrite/cwrite add seg=<id>
    op close => ok | already        op closedone => ok
    op state => mts=<size:count:frozen:id+id…;…> segs=<id:cached,…|-> ctr=<n> fsig=<0|1> csig=<0|1>
    op ls => <name:cut,…|->         names h<id> v<id> t<id> m<id> L ; cut ∈ H D T F
    op bg fcreate => inner seg=<id>  the flush worker is parked after the os.Create calls of flushMemtable
    op imagenow <name:cut,…|-> => ok | err   the process dies now (no client call in flight); recover
    op victim                       the next op is the one the crash images are taken from
    op image <name:cut,…|-> => ok | locked | err     recover from a crash image of the victim op

  Replies: ok … | DIFF … | SPECFAIL … | KNOWN <finding> … | BADOP …
  Property-level predicates evaluated on the IMPLEMENTATION's answers:
    phantom   – every returned id was acknowledged by an earlier add           (C08/C10)
    visible   – every document acknowledged in this session, not removed, carrying the
                queried modality, is returned                                   (C08)
    durable   – every document acknowledged before the last completed Close (earlier
                sessions), or — after a crash — made durable by a completed Flush, is returned (C09/C10)
    allornone – after a crash, nothing is returned that is neither in an intact segment
                nor added since recovery                                        (C10)
    exact     – a vector-only probe returns no document whose Remove returned nil (C08)
    fresh     – a segment id handed out is larger than every id naming a file    (C09/C10)
  A failed predicate is reported as KNOWN only when the faithful model predicts exactly
  the implementation's answer and the finding's trigger holds of the trace:
    D12-flush-skips-mutable : the missing document sat in the mutable memtable when the
                              Close (or the last completed Flush before the crash) ran
    D14-compaction-no-merge : a compaction write/swap step ran earlier in the trace
    D13-shared-templates    : a segment load replaced shared content that held a live document
                              the loaded segment lacks (Ghost.loadLost), or (exact) a segment
                              load made a removed document live again (Ghost.revived), or
                              (allornone) a damaged segment is partially loadable
-/
import Comet.Driver.Proto
import Comet.Storage.Crash
namespace Comet.Driver.StoreStream
open Comet Comet.Driver Comet.Storage

structure St where
  cfg : Cfg
  s : Store
  /-- ids that sat in the mutable memtable at the Close of their session (or, in image mode,
      were not covered by a completed Flush) -/
  d12 : List Id := []
  victimNext : Bool := false
  pre : Option Store := none        -- model state before the victim op
  preSteps : List FsStep := []      -- FS steps of the victim op
  preD12 : List Id := []
  preEntries : Nat := 0             -- see vecEntries
  preDup : Bool := false            -- the templates held a duplicate vector entry before the search
  image : Bool := false             -- currently recovered from a crash image
  imgIntact : List Nat := []        -- segments intact in the current image
  imgDamaged : Bool := false        -- the current image has a partially loadable damaged segment

def parseBool01 : String → Option Bool
  | "0" => some false | "1" => some true | _ => none

def init (ps : List String) : Option St :=
  match ps with
  | [v, t, m, lim, fl, ct] => do
    let cfg : Cfg := ⟨⟨← parseBool01 v, ← parseBool01 t, ← parseBool01 m⟩, ← lim.toNat?, ← fl.toNat?, ← ct.toNat?⟩
    -- no store yet: a closed, unopened store on the empty directory
    let s : Store := ⟨cfg, Shared.empty, [], 0, [], [], 0, false, true, false, false, .exited, .exited, {}⟩
    pure { cfg := cfg, s := s }
  | _ => none

def showIds (l : List Nat) : String := if l.isEmpty then "-" else ",".intercalate (l.map toString)

def outName : Out → String
  | .ok => "ok" | .ids _ => "ok" | .errClosed => "closed" | .errAlreadyClosed => "already"
  | .errLocked => "locked" | .errNotFound => "notfound" | .errVecNotFound => "vecnotfound"
  | .errVecDeleted => "vecdeleted" | .errNoIndex => "noindex" | .notEnabled => "none"
  | .seg _ => "ok"

/-- `mdg` = metadata filter GROUPS alone, `mdgf` = groups + plain filters: the same match set as `md` -/
def parseQ : String → Option Q
  | "vec" => some .vec | "txt" => some .txt | "md" => some .md
  | "mdg" => some .md | "mdgf" => some .md | _ => none

def Doc.has (d : Doc) (tpl : Tpl) : Q → Bool
  | .vec => tpl.vec && decide (0 < d.vdim)
  | .txt => tpl.txt && decide (0 < d.tlen)
  | .md => tpl.md && decide (0 < d.mcnt)

def kvOf (key : String) (toks : List String) : Option String :=
  toks.findSome? fun t => if t.startsWith (key ++ "=") then some ((t.drop (key.length + 1)).toString) else none

def sortIds (l : List Nat) : List Nat := sortNat l.eraseDups

/-! ### turns → schedule -/

/-- resolve the harness's turn list against the model's segment list -/
def resolveTurns (cfg : Cfg) (s : Store) (turns : List String) : Except String (List SegEv) :=
  let rec go (T : Shared) (segs : List Seg) (used : List Nat) (acc : List SegEv) :
      List String → Except String (List SegEv)
    | [] => .ok acc
    | t :: rest =>
      if t == "h" then
        match segs.find? (fun g => g.cached && !used.contains g.id) with
        | some g => go T segs (g.id :: used) (acc ++ [.scan g.id]) rest
        | none => .error "turn h but the model has no unscanned cached segment"
      else if t == "f" then
        -- getIndex failed before ReadFrom was entered (a component is missing / empty / has no
        -- gzip header): nothing is touched, so which of those segments it was does not matter
        match segs.find? (fun g => !g.cached && !used.contains g.id && (openAll s.fs g.id (comps cfg.tpl)).isNone) with
        | some g => go T segs (g.id :: used) (acc ++ [.load g.id]) rest
        | none => .error "turn f but every unloaded segment opens in the model"
      else if t.startsWith "f" then
        -- ReadFrom of segment <id> was entered and failed
        match (t.drop 1).toString.toNat? with
        | none => .error s!"bad turn {t}"
        | some id =>
          match segs.find? (fun g => g.id == id) with
          | none => .error s!"turn {t}: no such segment in the model"
          | some g =>
            if g.cached || used.contains id then .error s!"turn {t}: segment already cached in the model" else
            if (openAll s.fs id (comps cfg.tpl)).isNone then .error s!"turn {t}: the model fails before ReadFrom" else
            let r := loadSeg cfg.tpl s.fs id T
            if r.1 then .error s!"turn {t}: the load succeeds in the model" else
            go r.2 segs (id :: used) (acc ++ [.load id]) rest
      else if t.startsWith "l" then
        match (t.drop 1).toString.toNat? with
        | none => .error s!"bad turn {t}"
        | some id =>
          match segs.find? (fun g => g.id == id) with
          | none => .error s!"turn {t}: no such segment in the model"
          | some g =>
            if g.cached || used.contains id then .error s!"turn {t}: segment already cached in the model" else
            let r := loadSeg cfg.tpl s.fs id T
            if !r.1 then .error s!"turn {t}: the load fails in the model" else
            go r.2 (setCached segs id true) (id :: used) (acc ++ [.load id, .scan id]) rest
      else .error s!"bad turn {t}"
  go s.T s.segs [] [] turns

/-! ### state / listing rendering -/

def showMt (m : Memtable) : String :=
  let ids := sortNat (m.info.map (·.id))
  s!"{m.size}:{m.count}:{if m.frozen then 1 else 0}:{if ids.isEmpty then "-" else "+".intercalate (ids.map toString)}"

def showState (s : Store) : String :=
  let mts := if s.mts.isEmpty then "-" else ";".intercalate (s.mts.map showMt)
  let segs := if s.segs.isEmpty then "-" else ",".intercalate (s.segs.map fun g => s!"{g.id}:{if g.cached then 1 else 0}")
  s!"mts={mts} segs={segs} ctr={s.counter} fsig={if s.flushSig then 1 else 0} csig={if s.compSig then 1 else 0}"

def kindChar : Kind → String
  | .hybrid => "h" | .vector => "v" | .text => "t" | .metadata => "m"

def cutChar : Cut → String
  | .header => "H" | .data => "D" | .trailer => "T" | .full => "F"

def showName : Name → String
  | .lock => "L"
  | .seg k id => s!"{kindChar k}{id}"

def insertStr (x : String) : List String → List String
  | [] => [x]
  | y :: ys => if x ≤ y then x :: y :: ys else y :: insertStr x ys

def sortStr (l : List String) : List String := l.foldr insertStr []

def showFS (fs : FS) : String :=
  if fs.isEmpty then "-" else
  ",".intercalate (sortStr (fs.map fun e => s!"{showName e.1}:{cutChar e.2.cut}"))

def parseName (t : String) : Option Name :=
  if t == "L" then some .lock else
  let k : Option Kind := match t.take 1 |>.toString with
    | "h" => some .hybrid | "v" => some .vector | "t" => some .text | "m" => some .metadata | _ => none
  match k, (t.drop 1).toString.toNat? with
  | some k, some id => some (.seg k id)
  | _, _ => none

def parseCut : String → Option Cut
  | "H" => some .header | "D" => some .data | "T" => some .trailer | "F" => some .full | _ => none

def parseListing (t : String) : Option (List (Name × Cut)) :=
  if t == "-" then some [] else
  (t.splitOn ",").mapM fun e => match e.splitOn ":" with
    | [n, c] => do pure (← parseName n, ← parseCut c)
    | _ => none

/-! ### property-level classification of a search answer -/

structure Verdict where
  reply : String

/-- documents that the property says must be returned by a `q` probe now -/
def mustFind (st : St) (q : Q) : List Doc :=
  let tpl := st.cfg.tpl
  let vis := st.s.gh.sess.filter (Doc.has · tpl q)
  let dur := st.s.gh.promised.filter fun d => Doc.has d tpl q && !st.s.gh.gone.contains d.id &&
    !(vis.any fun v => v.id == d.id)
  vis ++ dur

/-- How many ENTRIES a vector source can put in front of a document: an AddWithID of a live id (an
    update) appends a second entry for that id to the vector index (flat / ivf; the in-memory
    hybrid index does the same), a flushed segment carries them along. The per-source top-k is taken
    over entries, so "k large enough" for a vector probe means k ≥ this bound, not k ≥ the number of
    distinct documents. -/
def vecEntries (st : St) : Nat :=
  -- `preEntries`: live entries of the templates BEFORE the search under judgement ran (the memtable
  -- scans see that content; a load during the search may replace it)
  let fromT := if st.s.T.v.live.length > st.preEntries then st.s.T.v.live.length else st.preEntries
  let fromSegs := st.s.fs.foldl (fun m e => match e.2.payload with
    | .vector stored => if stored.length > m then stored.length else m
    | _ => m) 0
  if fromT > fromSegs then fromT else fromSegs

/-- does any vector source (templates before / after the search, any segment file) hold two entries
    for one id? Then a per-source top-k can return fewer distinct ids than it has room for. -/
def vecHasDup (st : St) : Bool :=
  let dup (l : List Nat) : Bool := decide (l.eraseDups.length < l.length)
  st.preDup || dup st.s.T.v.live || st.s.fs.any fun e => match e.2.payload with
    | .vector stored => dup stored
    | _ => false

def classifySearch (st : St) (q : Q) (k : Nat) (model impl : List Nat) (extra : String) : String :=
  let acked := st.s.gh.acked.map (·.id)
  let agree := model == impl
  match impl.find? (fun i => !acked.contains i) with
  | some i => s!"SPECFAIL phantom id={i} impl={showIds impl}"
  | none =>
    -- "k large enough" = k ≥ the number of documents the probe matches (what the model's stores
    -- hold, and what the property says must be found). Below that only size and membership are judged.
    let need := ((mustFind st q).map (·.id) ++ model).eraseDups.length
    -- duplicate entries of updated ids can crowd a live document out of a vector answer with
    -- need ≤ k < entries: which one is not determined by ids alone — judged by size and membership
    let crowded := q == .vec && decide (need ≤ k) && decide (k < vecEntries st)
    if crowded then
      if decide (k < impl.length) then s!"SPECFAIL size k={k} but {impl.length} ids returned"
      else match impl.find? (fun i => !model.contains i) with
        | some i => s!"DIFF search k={k} returned id={i} outside the model's matches {showIds model}"
        | none => s!"ok n={impl.length} dupcrowd=1 {extra}"
    else
    if k < need then
      -- with duplicate entries in a vector source fewer than k DISTINCT ids may come back
      let dups := q == .vec && vecHasDup st
      if dups && decide (impl.length ≤ k) && impl.all (fun i => model.contains i) then
        s!"ok n={impl.length} ksmall=1 dupcrowd=1 {extra}"
      else
      if impl.length != (if model.length < k then model.length else k) then
        s!"DIFF search k={k} size model-matches={model.length} impl={showIds impl}"
      else match impl.find? (fun i => !model.contains i) with
        | some i => s!"DIFF search k={k} returned id={i} outside the model's matches {showIds model}"
        | none => s!"ok n={impl.length} ksmall=1 {extra}"
    else
    let missing := ((mustFind st q).map (·.id)).eraseDups.filter fun i => !impl.contains i
    -- all-or-nothing after a crash: only intact segments and post-recovery adds may contribute
    let allowed : List Nat :=
      if st.image then (st.imgIntact.flatMap fun g => segIdsOf st.s.fs g q) ++ st.s.gh.sess.map (·.id) else []
    let leaked := if st.image then impl.filter (fun i => !allowed.contains i) else []
    -- vector-only query: the answer must be the id set of an in-memory index holding the live
    -- documents — in particular nothing whose Remove returned nil
    let revived := if q == .vec then impl.filter (fun i => st.s.gh.gone.contains i) else []
    if missing.isEmpty && leaked.isEmpty && !revived.isEmpty then
      if !agree then s!"SPECFAIL exact removed-but-returned={showIds revived} model={showIds model} impl={showIds impl}"
      else if st.s.gh.revived then s!"KNOWN D13-shared-templates removed-but-returned={showIds revived} {extra}"
      else s!"SPECFAIL exact-unexplained removed-but-returned={showIds revived} impl={showIds impl}"
    else
    if missing.isEmpty && leaked.isEmpty then
      if agree then s!"ok n={impl.length} {extra}"
      else s!"DIFF search model={showIds model} impl={showIds impl}"
    else if !agree then
      if !missing.isEmpty then s!"SPECFAIL missing ids={showIds missing} model={showIds model} impl={showIds impl}"
      else s!"SPECFAIL allornone leaked={showIds leaked} model={showIds model} impl={showIds impl}"
    else
      -- the faithful model predicts exactly this answer: which listed trigger explains it?
      match missing with
      | d :: _ =>
        -- D12 explains only a document that must come back from DISK (acknowledged in an earlier
        -- session / before the crash); inside the session that added it, it does not
        let thisSession := st.s.gh.sess.any fun x => x.id == d
        if !thisSession && st.d12.contains d then s!"KNOWN D12-flush-skips-mutable missing={showIds missing} {extra}"
        else if st.s.gh.compacted then s!"KNOWN D14-compaction-no-merge missing={showIds missing} {extra}"
        else if st.s.gh.loadLost then s!"KNOWN D13-shared-templates missing={showIds missing} {extra}"
        else s!"SPECFAIL missing-unexplained ids={showIds missing} impl={showIds impl}"
      | [] =>
        if st.imgDamaged then s!"KNOWN D13-shared-templates leaked={showIds leaked} {extra}"
        else if st.s.gh.compacted then s!"KNOWN D14-compaction-no-merge leaked={showIds leaked} {extra}"
        else s!"SPECFAIL allornone-unexplained leaked={showIds leaked} impl={showIds impl}"

/-- when the trace cannot be replayed (the schedule the implementation reports does not fit the
    model), the property-level predicates that need no model answer are still evaluated on the
    implementation's answer: a concrete failing input beats "correspondence broken" -/
def specOnly (st : St) (q : Q) (k : Nat) (impl : List Nat) : Option String :=
  let acked := st.s.gh.acked.map (·.id)
  match impl.find? (fun i => !acked.contains i) with
  | some i => some s!"SPECFAIL phantom id={i} impl={showIds impl}"
  | none =>
    let must := ((mustFind st q).map (·.id)).eraseDups
    let missing := must.filter fun i => !impl.contains i
    -- a listed finding explains a failed predicate only when the faithful model reproduces the
    -- answer; here it cannot even replay the trace, so a failed predicate is a plain failure
    if !missing.isEmpty && decide (must.length ≤ k) then
      some s!"SPECFAIL missing ids={showIds missing} impl={showIds impl} (trace not replayable on the model)"
    else none

/-! ### the op interpreter -/

def bgOfName : String → Option Bg
  | "fwake" => some .fwake | "ffinal" => some .ffinal | "flist" => some .flist
  | "fwrite" => some .fwrite | "fremove" => some .fremove | "cwake" => some .cwake
  | "cexit" => some .cexit | "clist" => some .clist | "cload" => some .cload
  | "cwrite" => some .cwrite | "cswap" => some .cswap | _ => none

def fwWhere : FW → String
  | .idle => "idle" | .woken _ => "woken" | .todo _ _ => "next" | .written _ _ _ => "flushed" | .exited => "exited"

def cwWhere : CW → String
  | .idle => "idle" | .woken => "woken"
  | .loading _ [] => "write" | .loading _ _ => "load" | .wrote _ _ => "swap" | .exited => "exited"

def isFlushBg : Bg → Bool
  | .fwake | .ffinal | .flist | .fwrite | .fremove => true
  | _ => false

/-- a freshly handed-out segment id must exceed every id that names a file -/
def freshCheck (before : Store) (id : Nat) : Option String :=
  match (FS.segIds before.fs).find? (fun j => decide (id ≤ j)) with
  | some j => some s!"SPECFAIL fresh new-segment-id={id} but a file is named with id {j}"
  | none => none

/-- apply a step, remembering the pre-state when it is the victim -/
def stepV (st : St) (step : Step) : St × Store × Out :=
  let (s', o) := exec st.s step
  let st' := if st.victimNext then
      { st with pre := some st.s, preSteps := fsStepsOf st.s step, victimNext := false,
                preD12 := st.d12 } else st
  ({ st' with s := s' }, st.s, o)

/-- The implementation's outcome token agrees with the model's outcome on success / failure.
    Which error a refused call reports (closed / not found / …, and in which words) is not part
    of C08–C10 (Proto.sameOutcome); the class is kept as a flag.  A model step whose guard is
    false (`notEnabled`) corresponds to no outcome of the implementation at all. -/
def outAgrees (post : List String) (o : Out) : Bool :=
  o != .notEnabled && match post.head? with
    | some t => sameOutcome t (outName o)
    | none => false

/-- flag part of the reply for an agreed outcome -/
def outFlags (post : List String) : String :=
  match post.head? with
  | some t => if t == "ok" then "" else s!" failed=1 {classFlag t}"
  | none => ""

def simple (st : St) (step : Step) (post : List String) (what : String) : St × String :=
  let (st', _, o) := stepV st step
  if outAgrees post o then (st', s!"ok {what}=1{outFlags post}")
  else (st', s!"DIFF {what} model={outName o} impl={post}")

def op (st : St) (toks : List String) : St × String :=
  let (pre, post) := splitOutcome toks
  match pre with
  | ["open"] =>
    let (st', _, o) := stepV st .reopen
    if outAgrees post o then ({ st' with image := false, imgIntact := [], imgDamaged := false }, s!"ok open=1{outFlags post}")
    else (st', s!"DIFF open model={outName o} impl={post}")
  | ["add", id, vd, tl, mc] =>
    match id.toNat?, vd.toNat?, tl.toNat?, mc.toNat? with
    | some id, some vd, some tl, some mc =>
      -- an id may be added again (after a Remove, or while still live: an update) as long as the
      -- new document carries the same modalities as every earlier one under that id — a re-add
      -- that drops a modality leaves the old entry of that sub-index behind (C06's subject)
      let sameMods := st.s.gh.acked.all fun d => d.id != id ||
        (decide (0 < d.vdim) == decide (0 < vd) && decide (0 < d.tlen) == decide (0 < tl) &&
         decide (0 < d.mcnt) == decide (0 < mc))
      if !sameMods then (st, "UNSUPPORTED readd-with-other-modalities") else
      let re := st.s.gh.acked.any fun d => d.id == id
      let wasGone := st.s.gh.gone.contains id
      let (st', r) := simple st (.add ⟨id, vd, tl, mc⟩) post "add"
      (st', if re && r.startsWith "ok" then r ++ s!" readd=1 aftergone={if wasGone then 1 else 0}" else r)
    | _, _, _, _ => (st, "BADOP add")
  | ["badadd", vd, tl, mc] =>
    -- an Add / AddWithID the store must reject: memtableQueue makes room first (a rotation can
    -- happen), then hybridSearchIndex.addInternal refuses before touching any sub-index
    match vd.toNat?, tl.toNat?, mc.toNat? with
    | some vd, some tl, some mc =>
      -- (any error is a refusal: `err <class>`, the class being informational)
      let flag := classFlag (post.getD 1 "unclassified")
      if !running st.s then
        if post.head? == some "err" then (st, s!"ok badadd=1 {flag}") else (st, s!"DIFF badadd model=closed impl={post}")
      else
        let d : Doc := ⟨0, vd, tl, mc⟩
        let rot := !hasRoom st.s.cfg.limit st.s.mts d
        let st' := if rot then (stepV st .rotate).1 else st
        if post.head? == some "err" then (st', s!"ok badadd=1 rotated={if rot then 1 else 0} {flag}")
        else (st', s!"SPECFAIL rejected-add: the store acknowledged a document it must refuse impl={post}")
    | _, _, _ => (st, "BADOP badadd")
  | ["remove", id] =>
    match id.toNat? with
    | some id => simple st (.remove id) post "remove"
    | none => (st, "BADOP remove")
  | ["flush"] =>
    let before := st.s
    let mutIds := match st.s.mts.getLast? with | some m => m.info.map (·.id) | none => []
    let (st', _, o) := stepV st .flush
    if !outAgrees post o then (st', s!"DIFF flush model={outName o} impl={post}") else
    if o != .ok then (st', s!"ok flusherr=1{outFlags post}") else
    -- segment ids handed out by this flush, as the implementation reports them
    let newIds := (st'.s.gh.allocated.take (st'.s.gh.allocated.length - before.gh.allocated.length)).reverse
    let implIds := match kvOf "segs" post with | some t => (parseIds t).getD [] | none => []
    -- a completed Flush: everything acknowledged so far is promised to later reopens;
    -- what sits in the mutable memtable is not written (D12)
    let st' := { st' with d12 := st'.d12 ++ mutIds }
    match implIds.findSome? (freshCheck before) with
    | some e => (st', e)
    | none =>
      if implIds != newIds then (st', s!"DIFF flush segments model={showIds newIds} impl={showIds implIds}")
      else (st', s!"ok flush=1 wrote={newIds.length} skipped={if mutIds.isEmpty then 0 else 1}")
  | ["rotate"] => simple st .rotate post "rotate"
  | ["evict"] => simple st .evict post "evict"
  | ["trigger"] => simple st .trigger post "trigger"
  | ["close"] =>
    -- D12 bookkeeping: what sits in the mutable memtable now will not be persisted
    let mutIds := match st.s.mts.getLast? with | some m => m.info.map (·.id) | none => []
    let (st', r) := simple st .close post "close"
    if running st.s then ({ st' with d12 := st'.d12 ++ mutIds }, r) else (st', r)
  | ["closedone"] =>
    simple st .closeDone post "closedone"
  | ["bg", "fcreate"] =>
    -- the flush worker ran the first half of flushMemtable (id, os.Create ×n) and is parked there
    match st.s.fw with
    | .todo _ (m :: _) =>
      let (s', id) := beginWrite st.s m.info
      let before := st.s
      let st' := { st with s := s' }
      if post.head? != some "inner" then (st', s!"DIFF bg fcreate model=inner impl={post}") else
      if kvOf "seg" post != some (toString id) then (st', s!"DIFF bg fcreate segment id model={id} impl={post}") else
      match freshCheck before id with
      | some e => (st', e)
      | none => (st', "ok fcreate=1")
    | _ => (st, s!"DIFF bg fcreate not enabled in the model (model worker: {fwWhere st.s.fw}) impl={post}")
  | ["imagenow", listing] =>
    -- the process dies NOW, between two client calls (the last one completed), possibly with a
    -- worker parked inside a write: the directory is exactly the model's; recover from it
    let (s', o) := recover st.cfg st.s.fs st.s.gh
    let intact := (listSegments s'.fs).filter fun g => (loadSeg st.cfg.tpl s'.fs g Shared.empty).1
    let damaged := (listSegments s'.fs).any fun g => partialLoadable st.cfg.tpl s'.fs g
    if showFS st.s.fs != listing then
      -- the directory is not what the model says: the trace cannot be replayed from here; what the
      -- property promises (documents acknowledged before a completed Flush) is still judged on the
      -- implementation's answers (specOnly): no store instance, no session documents any more
      ({ st with s := { st.s with gh := { st.s.gh with sess := [] } }, image := true },
        s!"DIFF imagenow model=[{showFS st.s.fs}] impl=[{listing}]")
    else
      let st' := { st with s := s', image := true, imgIntact := intact, imgDamaged := damaged }
      if outAgrees post o then (st', s!"ok imagenow=1 intact={intact.length} files={st.s.fs.length}")
      else (st', s!"SPECFAIL reopen-after-crash impl={post} model={outName o}")
  | ["bg", name] =>
    match bgOfName name with
    | none => (st, "BADOP bg")
    | some b =>
      let before := st.s
      let (st', _, o) := stepV st (.bg b)
      let wh := if isFlushBg b then fwWhere st'.s.fw else cwWhere st'.s.cw
      let segTok := match o with | .seg id => s!" seg={id}" | _ => ""
      let implWhere := post.head?.getD "?"
      let implSeg := kvOf "seg" post
      if o == .notEnabled then (st', s!"DIFF bg {name} not enabled in the model (model worker: {fwWhere before.fw}/{cwWhere before.cw}) impl={post}")
      else if implWhere != wh then (st', s!"DIFF bg {name} model={wh}{segTok} impl={post}")
      else
        match o, implSeg with
        | .seg id, some t =>
          if t != toString id then (st', s!"DIFF bg {name} segment id model={id} impl={t}") else
          match freshCheck before id with
          | some e => (st', e)
          | none => (st', s!"ok bg={name} {name}=1")
        | .seg id, none => (st', s!"DIFF bg {name} model wrote seg={id} impl={post}")
        | _, _ => (st', s!"ok {name}=1")
  | ["search", q, kTok, turns, loads] =>
    match parseQ q, kvOf "turns" [turns], kvOf "loads" [loads], (kvOf "k" [kTok]).bind String.toNat? with
    | some q, some turns, some loads, some k =>
      let tl := if turns == "-" then [] else turns.splitOn ","
      match post with
      | ["err", e] =>
        -- the search failed: accepted exactly when the model's search fails too (closed store,
        -- modality not configured), whatever the error says
        let (_, o, _) := execSearch st.s q []
        if outName o != "ok" && o != .notEnabled then (st, s!"ok searcherr=1 {classFlag e}")
        else (st, s!"SPECFAIL search-error impl=err:{e} model={outName o}")
      | "ok" :: rest =>
        match (match rest with | [x] => parseIds x | [] => some [] | _ => none) with
        | none => (st, "BADOP search ids")
        | some implIds =>
          let impl := sortIds implIds
          if tl.length != st.s.segs.length then
            -- the implementation ran a different number of segment goroutines than there are registered
            -- segments: the model keeps ITS semantics (one goroutine per segment, in list order), so that
            -- what the deviation costs later shows up against the code's real behaviour
            let (sOwn, _, _) := execSearch st.s q (serialSched (st.s.segs.map (·.id)))
            ({ st with s := sOwn }, (specOnly st q k impl).getD s!"DIFF search turns={tl.length} model-segments={st.s.segs.length}") else
          match resolveTurns st.cfg st.s tl with
          | .error e => (st, (specOnly st q k impl).getD s!"DIFF search schedule: {e}")
          | .ok sched =>
            let (s', o, nl) := execSearch st.s q sched
            match o with
            | .ids m =>
              let model := sortIds m
              let st' := { st with s := s' }
              if toString nl != loads then (st', s!"DIFF search loads model={nl} impl={loads}") else
              let nmust := (mustFind st q).length
              let preLive := st.s.T.v.live
              let stJ : St := { st with s := s', preEntries := preLive.length,
                                        preDup := decide (preLive.eraseDups.length < preLive.length) }
              let r := classifySearch stJ q k model impl
                s!"must={nmust} segs={tl.length} loads={nl} nonempty={if impl.isEmpty then 0 else 1} kexact={if k == model.length && model.length > 0 then 1 else 0}"
              (st', r)
            | e => (st, s!"DIFF search model={outName e} impl=ok")
      | _ => (st, "BADOP search outcome")
    | _, _, _, _ => (st, "BADOP search args")
  | "osearch" :: mode :: args =>
    -- a probe with search options (threshold / aggregation / autocut / nprobes / efSearch / fusion /
    -- k exactly large enough), answered by the store and by the REFERENCE in-memory hybrid index
    -- that was fed the same acknowledged adds and removes. The model has no scores: it replays the
    -- schedule (state, loads), supplies the match sets, and decides when the property promises
    -- equality of the two id sets.
    let isVT := mode == "vt"
    match kvOf "turns" args, (kvOf "loads" args), (kvOf "k" args).bind String.toNat?,
          (kvOf "exactix" args), (kvOf "commute" args) with
    | some turns, some loads, some k, some exactix, some commute =>
      let tl := if turns == "-" then [] else turns.splitOn ","
      let refIds? : Option (List Nat) := match post.dropWhile (· != "ref") with
        | ["ref", x] => if x == "err" then none else parseIds x
        | _ => none
      match post with
      | "err" :: e :: _ => (st, s!"SPECFAIL search-error impl=err:{e} on an option probe")
      | "ok" :: x :: _ =>
        match parseIds x, refIds? with
        | some implIds, some refIds =>
          let impl := sortIds implIds
          let ref := sortIds refIds
          let acked := st.s.gh.acked.map (·.id)
          match impl.find? (fun i => !acked.contains i) with
          | some i => (st, s!"SPECFAIL phantom id={i} impl={showIds impl}")
          | none =>
          if tl.length != st.s.segs.length then
            let (sOwn, _, _) := execSearch st.s .vec (serialSched (st.s.segs.map (·.id)))
            ({ st with s := sOwn }, (specOnly st .vec k impl).getD s!"DIFF osearch turns={tl.length} model-segments={st.s.segs.length}") else
          match resolveTurns st.cfg st.s tl with
          | .error e => (st, s!"DIFF osearch schedule: {e}")
          | .ok sched =>
            let (s', ov, nl) := execSearch st.s .vec sched
            let mv := match ov with | .ids m => sortIds m | _ => []
            let mt := if isVT then (match (execSearch st.s .txt sched).2.1 with | .ids m => sortIds m | _ => []) else []
            let st' := { st with s := s' }
            if toString nl != loads then (st', s!"DIFF osearch loads model={nl} impl={loads}") else
            if decide (k < impl.length) then (st', s!"SPECFAIL size k={k} but {impl.length} ids returned") else
            match impl.find? (fun i => !(mv.contains i || mt.contains i)) with
            | some i => (st', s!"DIFF osearch returned id={i} outside the model's matches vec={showIds mv} txt={showIds mt}")
            | none =>
              -- the documents a single in-memory index holding the live documents has
              let live := st'.s.gh.acked.filter fun d => !st'.s.gh.gone.contains d.id
              let lv := sortIds ((live.filter (Doc.has · st.cfg.tpl .vec)).map (·.id))
              let lt := sortIds ((live.filter (Doc.has · st.cfg.tpl .txt)).map (·.id))
              -- equality is promised when the vector index is exact, the store (per the faithful
              -- model, i.e. no known finding has struck) presents exactly the live documents, and
              -- either every source saw the same content (no load during this search) or the
              -- options act per document (threshold, aggregation, nprobes — not autocut, not fusion)
              let same := mv == lv && (!isVT || mt == lt)
              -- vector+text: hybridSearch.Execute truncates EACH modality's list to k before fusing, and
              -- which of several equally scored hits survive that truncation is not determined (Go map
              -- order, unstable sort): two identical in-memory indexes then return different id SETS
              -- (min fusion, tied BM25 scores; reproduced 162 : 38 over 200 fresh instances). The set is
              -- determined only when k cannot truncate any modality's list; below that the reference is
              -- one of several valid answers and equality with it is more than the property states.
              let ent := vecEntries { st' with preEntries := st.s.T.v.live.length }
              let vtDetermined := (!isVT || decide (((mv ++ mt).eraseDups).length ≤ k)) &&
                decide (ent ≤ k || ent == lv.length)
              -- after an UPDATE (an id added again with new content) a segment load can put the older
              -- content back under the same id (D13 at the level of contents): the id-level model
              -- cannot tell, so equality with the reference is only demanded on histories without re-adds
              let promised := exactix == "1" && same && (commute == "1" || nl == 0) && vtDetermined &&
                !st'.s.gh.readded
              if promised then
                if impl == ref then (st', s!"ok refeq=1 n={impl.length} vt={if isVT then 1 else 0} segs={tl.length} loads={nl}")
                else (st', s!"SPECFAIL refeq store={showIds impl} reference={showIds ref} (same live documents, options {args})")
              else (st', s!"ok sanity=1 n={impl.length} same={if same then 1 else 0} vtsmallk={if vtDetermined then 0 else 1}")
        | _, _ => (st, "BADOP osearch ids")
      | _ => (st, "BADOP osearch outcome")
    | _, _, _, _, _ => (st, "BADOP osearch args")
  | ["state"] =>
    let m := showState st.s
    let i := " ".intercalate post
    if m == i then (st, "ok state=1") else (st, s!"DIFF state model=[{m}] impl=[{i}]")
  | ["ls"] =>
    let m := showFS st.s.fs
    let i := post.head?.getD "-"
    if m == i then (st, "ok ls=1") else (st, s!"DIFF ls model=[{m}] impl=[{i}]")
  | ["victim"] => ({ st with victimNext := true }, "ok")
  | ["image", listing] =>
    match st.pre, parseListing listing with
    | some pre, some files =>
      -- which prefix of the victim's FS steps has exactly these names?
      let names := sortStr (files.map fun e => showName e.1)
      let steps := st.preSteps
      let ks := (List.range (steps.length + 1)).filter fun k =>
        sortStr ((applySteps pre.fs (steps.take k)).map fun e => showName e.1) == names
      match ks.getLast? with
      | none => (st, s!"DIFF image: no prefix of the model's {steps.length} FS steps has the files [{listing}]; model final=[{showFS (applySteps pre.fs steps)}]")
      | some k =>
        let created := createdBy steps
        -- files not created by the victim op must be intact
        match files.find? (fun e => !created.contains e.1 && e.2 != .full && e.1 != .lock) with
        | some e => (st, s!"DIFF image: file {showName e.1} not written by the crashed operation is damaged")
        | none =>
          let cuts : Name → Cut := fun n => match files.find? (·.1 == n) with | some e => e.2 | none => .full
          let img := crashImage pre.fs steps k cuts
          let (s', o) := recover st.cfg img pre.gh
          -- durable := documents covered by a COMPLETED flush/close before the victim op:
          -- everything acknowledged except what sat in the mutable memtable of `pre`
          -- (D12) — the property promises them all.
          -- "all": a segment that loads (since ae56580: exactly the segments all of whose component
          -- files are complete, `loadSeg_ok_complete`); "damaged": a segment whose load fails
          -- AFTER some component was deserialised into the shared templates — now including a
          -- last component that lacks only (part of) its gzip trailer (the drain fails after
          -- everything has been published)
          let intact := (listSegments s'.fs).filter fun g => (loadSeg st.cfg.tpl s'.fs g Shared.empty).1
          let damaged := (listSegments s'.fs).any fun g => partialLoadable st.cfg.tpl s'.fs g
          let lastTrailer := (listSegments s'.fs).any fun g =>
            !(loadSeg st.cfg.tpl s'.fs g Shared.empty).1 && (comps st.cfg.tpl).all fun k =>
              match FS.find s'.fs (.seg k g) with
              | some f => f.cut == .full || (f.cut == .trailer && some k == (comps st.cfg.tpl).getLast?)
              | none => false
          let st' := { st with s := s', image := true, imgIntact := intact, imgDamaged := damaged,
                               d12 := st.preD12 }
          if post.head? != some "ok" then (st', s!"SPECFAIL reopen-after-crash impl={post} model={outName o}")
          else if o == .ok then (st', s!"ok image=1 k={k} partial={if damaged then 1 else 0} intact={intact.length} last_trailer_rejected={if lastTrailer then 1 else 0}")
          else (st', s!"DIFF image open model={outName o} impl={post}")
    | _, _ => (st, "BADOP image")
  | _ => (st, "BADOP unknown")

def handlerRestart : Handler := { name := "restart", σ := St, init := init, op := op }
def handlerStore : Handler := { name := "store", σ := St, init := init, op := op }
def handlerCrash : Handler := { name := "crash", σ := St, init := init, op := op }

end Comet.Driver.StoreStream
