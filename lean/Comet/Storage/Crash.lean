/-
  Comet.Storage.Crash — crash images and recovery (DESIGN §6.10).

  Every step of the store that touches the directory does so through a list of FS
  steps (`fsStepsOf`; `exec_fs_eq` in CometProofs/Storage/Moves.lean proves that the step's
  effect on `Store.fs` IS `applySteps` of that list). A crash during the step leaves

      crashImage fs₀ steps k cuts  =  the first `k` FS steps applied, and every file
                                      CREATED by the unfinished operation cut arbitrarily

  — the code never fsyncs, so a file created in the unfinished operation may hold any
  prefix of its final gzip stream even after its writer was closed. (This is a superset
  of what a POSIX file system presents short of reordering across operations; the
  theorems quantify over all of it.)  `recover` = erase the stale LOCK, reopen with
  fresh templates.

  Core Lean only.
-/
import Comet.Storage.Store
namespace Comet.Storage

/-- FS steps of `flushAll` (client Flush): one segment per frozen memtable, ids
    counter+1, counter+2, …; after the first `hybrid.Flush` the shared content has no
    tombstones left. -/
def flushStepsFrom (tpl : Tpl) (T : Shared) (ctr : Nat) : List Memtable → List FsStep
  | [] => []
  | m :: rest => writeSteps tpl (ctr + 1) m.info T.flush ++ flushStepsFrom tpl T.flush (ctr + 1) rest

/-- the file-system operations step `st` performs when executed from `s`, in program order -/
def fsStepsOf (s : Store) : Step → List FsStep
  | .flush =>
    if running s then
      let s1 := if flushRotatesMutable && (match s.mts.getLast? with | some m => decide (0 < m.count) | none => false)
                then { s with mts := rotateQ s.mts s.nextUid, nextUid := s.nextUid + 1 } else s
      flushStepsFrom s.cfg.tpl s.T s.counter (butLast s1.mts)
    else []
  | .bg .fwrite =>
    match s.fw with
    | .todo _ (m :: _) => writeSteps s.cfg.tpl (s.counter + 1) m.info s.T.flush
    | _ => []
  | .bg .cwrite =>
    match s.cw with
    | .loading _ [] => writeSteps s.cfg.tpl (s.counter + 1) [] s.T.flush
    | _ => []
  | .bg .cswap =>
    match s.cw with
    | .wrote srcs _ => srcs.flatMap deleteSteps
    | _ => []
  | .closeDone =>
    if s.opened && s.closed && s.fw = .exited && s.cw = .exited then [.remove .lock] else []
  | .reopen => if s.opened || FS.has s.fs .lock then [] else [.create .lock .lock, .complete .lock]
  | _ => []

/-- The first half of flushMemtable — nextSegmentID and the os.Create of every component file
    (all still empty), before WriteTo. This is where the flush worker can be parked while a client
    call runs to completion (the harness's `bg fcreate`); the step system of `exec` does not split
    the write (client calls are atomic with respect to worker steps there), so states produced by
    `beginWrite` are used by the correspondence run only, not by the theorems. -/
def beginWrite (s : Store) (info : List Info) : Store × Nat :=
  let id := s.counter + 1
  let steps := (writeSteps s.cfg.tpl id info s.T).take (comps s.cfg.tpl).length
  ({ s with counter := id, fs := applySteps s.fs steps,
            gh := { s.gh with everNamed := id :: s.gh.everNamed,
                              allocated := id :: s.gh.allocated,
                              overwrote := s.gh.overwrote || overwrites s.fs steps,
                              reused := s.gh.reused || s.gh.everNamed.any fun j => decide (id ≤ j) } }, id)

/-- re-cut the files named in `created` -/
def recut (created : List Name) (cuts : Name → Cut) (fs : FS) : FS :=
  fs.map fun e => if created.contains e.1 then (e.1, { e.2 with cut := cuts e.1 }) else e

/-- the directory after a crash `k` FS steps into `steps` -/
def crashImage (fs₀ : FS) (steps : List FsStep) (k : Nat) (cuts : Name → Cut) : FS :=
  recut (createdBy steps) cuts (applySteps fs₀ (steps.take k))

/-- `CrashImage s img`: `img` is a directory a crash can leave when the process dies in
    state `s` (no operation in flight) or inside the next execution of some step -/
def CrashImage (s : Store) (img : FS) : Prop :=
  ∃ (st : Step) (k : Nat) (cuts : Name → Cut), img = crashImage s.fs (fsStepsOf s st) k cuts

/-- recovery: the operator removes the stale LOCK; the directory is opened with fresh templates -/
def recover (cfg : Cfg) (img : FS) (gh : Ghost) : Store × Out :=
  openOn cfg (FS.erase img .lock) Shared.empty gh

/-- the state of the world after the process died leaving directory `img` and the
    operator removed the stale LOCK: no store object, no goroutines, only the directory
    (and the ghost history) -/
def crashTo (s : Store) (img : FS) : Store :=
  { s with fs := FS.erase img .lock, T := Shared.empty, mts := [], segs := [],
           opened := false, closed := true, flushSig := false, compSig := false,
           fw := .exited, cw := .exited,
           gh := { s.gh with sess := [], everNamed := FS.segIds img ++ s.gh.everNamed } }

/-- steps of the extended system: ordinary steps, and "the process dies `k` file
    operations into the next execution of `st`, files created by it cut by `cuts`" -/
inductive XStep
  | step (st : Step)
  | crash (st : Step) (k : Nat) (cuts : Name → Cut)

def xexec (s : Store) : XStep → Store
  | .step st => (exec s st).1
  | .crash st k cuts => if s.opened then crashTo s (crashImage s.fs (fsStepsOf s st) k cuts) else s

def xrun (s : Store) (xs : List XStep) : Store := xs.foldl xexec s

/-- every state the store, its workers, restarts and crashes can produce from an empty directory -/
def Reach (cfg : Cfg) (s : Store) : Prop := ∃ xs : List XStep, s = xrun (Store.init cfg) xs

/-- a segment all of whose component files (for templates `tpl`) are complete -/
def segComplete (tpl : Tpl) (fs : FS) (id : Nat) : Bool :=
  (comps tpl).all fun k => match FS.find fs (.seg k id) with
    | some f => decide (f.cut = .full)
    | none => false

/-- ids of a modality stored in segment `id` of `fs` (what a successful load publishes) -/
def segIdsOf (fs : FS) (id : Nat) : Q → List Id
  | .vec => match FS.find fs (.seg .vector id) with | some ⟨.vector st, _⟩ => st | _ => []
  | .txt => match FS.find fs (.seg .text id) with | some ⟨.text ds, _⟩ => ds | _ => []
  | .md => match FS.find fs (.seg .metadata id) with | some ⟨.mdata a, _⟩ => a | _ => []

/-- can the first `n` components of segment `id` be deserialised while a later one fails?
    (the partial-load situation of D13) -/
def partialLoadable (tpl : Tpl) (fs : FS) (id : Nat) : Bool :=
  let r := loadSeg tpl fs id Shared.empty
  !r.1 && decide (r.2 ≠ Shared.empty)

end Comet.Storage
