/-
  Comet.Storage.Store — FAITHFUL model of the persistent store
  (storage.go, storage_memtable.go, storage_segment.go, storage_compaction.go,
  storage_provider.go, storage_merge.go and the parts of hybrid_search_index.go they use).

  What the code does, and the model keeps (DESIGN §6.8, defects D12–D14 of §7):
  * every memtable's hybrid index, every segment load and the compaction's "merged"
    index wrap the SAME three template index instances of the StorageConfig. The model
    therefore has ONE shared content `T` (vector / text / metadata sub-index); a memtable
    owns only its `docInfo` map, its size counter and its frozen flag; a cached segment
    owns nothing but the flag "cached". Searching any memtable or cached segment searches
    `T`; loading a segment REPLACES the sub-indexes of `T` by the file contents
    (D13; structural in this model, see the remark before `flushRotatesMutable`);
  * `Flush()` / `Close()` persist `listFrozen()` only — the mutable memtable is never
    written (`flushRotatesMutable = false`, the model constant for D12);
  * a flushed segment holds the flushing memtable's docInfo and the WHOLE of `T`;
  * `compactSegments` loads its sources (each load overwrites `T`), adds nothing to
    the fresh "merged" index, writes docInfo = ∅ + whatever `T` holds, deletes the sources;
  * `Remove` consults the mutable memtable's docInfo only;
  * the background flush and compaction workers are explicit internal steps at the
    granularity of the lock-delimited regions (the yield points of the harness are
    exactly the boundaries between them).

  Documents are abstract: an id and which modalities they carry (that is all the
  probes of the harness observe: vector / text / metadata queries that match every
  document carrying that modality; k larger than the store). The sub-indexes are
  abstracted to their id sets with soft-delete tombstones (flat/hnsw/ivf: stored +
  deleted bitmap; bm25: docTokens + deletedDocs; roaring metadata: allDocs).
  Histories never re-add an id (C06 is about re-adds).

  Core Lean only; everything is structural so that `decide` evaluates witnesses.
-/
import Comet.Storage.FS
namespace Comet.Storage

/-! ## model constants for the two small repairs discussed in DESIGN §7 -/

/- D13 (shared template instances) is structural in this model: there is ONE `Store.T`,
   read by every memtable / cached-segment search and overwritten by every `loadSeg`.
   A repaired store (fresh index instances per memtable and per load) would replace
   `Store.T` by a content field per `Memtable` and per `Seg`; the three places that would
   change are marked `-- D13:` below. -/

/-- D12. `false` = the code as it is: Flush/Close do not rotate a non-empty mutable
    memtable before flushing. -/
def flushRotatesMutable : Bool := false

/-! ## documents and the shared index content -/

structure Doc where
  id : Id
  vdim : Nat   -- length of the vector given to Add (0 = nil / empty)
  tlen : Nat   -- length of the text (0 = "")
  mcnt : Nat   -- number of metadata fields (0 = nil / empty)
deriving DecidableEq, Repr

/-- `memtable.estimateDocumentSize` -/
def Doc.size (d : Doc) : Nat := 4 * d.vdim + 2 * d.tlen + 96 * d.mcnt + 64

structure VecIx where
  stored : List Id
  deleted : List Id
deriving DecidableEq, Repr

structure TxtIx where
  docs : List Id
  deleted : List Id
deriving DecidableEq, Repr

structure MetaIx where
  all : List Id
deriving DecidableEq, Repr

/-- the content of the three template instances -/
structure Shared where
  v : VecIx
  x : TxtIx
  m : MetaIx
deriving DecidableEq, Repr

def Shared.empty : Shared := ⟨⟨[], []⟩, ⟨[], []⟩, ⟨[]⟩⟩

def VecIx.live (v : VecIx) : List Id := v.stored.filter fun i => !v.deleted.contains i
def TxtIx.live (x : TxtIx) : List Id := x.docs.filter fun i => !x.deleted.contains i

/-- the three probe queries: every document carrying the modality matches -/
inductive Q | vec | txt | md
deriving DecidableEq, Repr

def Tpl.has (t : Tpl) : Q → Bool
  | .vec => t.vec
  | .txt => t.txt
  | .md => t.md

def Shared.matchIds (T : Shared) : Q → List Id
  | .vec => T.v.live
  | .txt => T.x.live
  | .md => T.m.all

/-- every live entry of `T` is still live in `T'` (per modality) -/
def Shared.coversLive (T' T : Shared) : Bool :=
  T.v.live.all (fun i => T'.v.live.contains i) && T.x.live.all (fun i => T'.x.live.contains i) &&
    T.m.all.all (fun i => T'.m.all.contains i)

/-- some live entry of `T` is in `removed` -/
def Shared.livesAny (T : Shared) (removed : List Id) : Bool :=
  T.v.live.any (fun i => removed.contains i) || T.x.live.any (fun i => removed.contains i) ||
    T.m.all.any (fun i => removed.contains i)

/-- every id mentioned anywhere in the shared content -/
def Shared.ids (T : Shared) : List Id := T.v.stored ++ T.x.docs ++ T.m.all

/-- `hybridSearchIndex.addInternal`: which sub-indexes receive the document -/
def infoOf (tpl : Tpl) (d : Doc) : Info :=
  ⟨d.id, tpl.vec && decide (0 < d.vdim), tpl.txt && decide (0 < d.tlen), tpl.md && decide (0 < d.mcnt)⟩

/-- the sub-index `Add`s as they are after the re-add repair (e29df80): a vector index whose
    tombstone bitmap holds the id purges its tombstoned entries first (`flushLocked`), then
    appends; BM25 drops the old text of the id, clears its tombstone, indexes the new text;
    the metadata index sets the bits. -/
def Shared.add (T : Shared) (i : Info) : Shared :=
  { v := if i.hv then
           (if T.v.deleted.contains i.id then ⟨T.v.live ++ [i.id], []⟩
            else { T.v with stored := T.v.stored ++ [i.id] })
         else T.v
    x := if i.ht then
           ⟨if T.x.docs.contains i.id then T.x.docs else T.x.docs ++ [i.id],
            T.x.deleted.filter fun j => j != i.id⟩
         else T.x
    m := if i.hm then (if T.m.all.contains i.id then T.m else ⟨T.m.all ++ [i.id]⟩) else T.m }

inductive RmErr | notFound | vecNotFound | vecDeleted
deriving DecidableEq, Repr

/-- `hybridSearchIndex.Remove` after the docInfo lookup: the vector index is asked first
    and is the only one that can refuse (FlatIndex/IVF/HNSW.Remove: "not found",
    "already deleted"); BM25.Remove and RoaringMetadataIndex.Remove never fail. -/
def Shared.remove (T : Shared) (i : Info) : Except RmErr Shared :=
  if i.hv && !T.v.stored.contains i.id then .error .vecNotFound
  else if i.hv && T.v.deleted.contains i.id then .error .vecDeleted
  else .ok
    { v := if i.hv then { T.v with deleted := i.id :: T.v.deleted } else T.v
      x := if i.ht && T.x.docs.contains i.id && !T.x.deleted.contains i.id
           then { T.x with deleted := i.id :: T.x.deleted } else T.x
      m := if i.hm then ⟨T.m.all.filter fun j => j != i.id⟩ else T.m }

/-- `hybridSearchIndex.Flush` (called by WriteTo): hard-delete the tombstoned entries -/
def Shared.flush (T : Shared) : Shared :=
  { v := ⟨T.v.live, []⟩, x := ⟨T.x.live, []⟩, m := T.m }

/-! ## segment files -/

/-- FS steps of flushMemtable / writeIndexToSegment for segment `id`, docInfo `info`
    and (already flushed) shared content `T`: create hybrid, vector, text, metadata;
    then the gzip writers are closed vector, text, metadata, hybrid. -/
def writeSteps (tpl : Tpl) (id : Nat) (info : List Info) (T : Shared) : List FsStep :=
  (comps tpl).map (fun k => FsStep.create (.seg k id) (match k with
      | .hybrid => .hybrid tpl info
      | .vector => .vector T.v.stored
      | .text => .text T.x.docs
      | .metadata => .mdata T.m.all)) ++
  (closeOrder tpl).map (fun k => FsStep.complete (.seg k id))

/-- `os.Open` + `gzip.NewReader`: missing, empty or header-truncated files fail here,
    before anything is deserialised -/
def openable (fs : FS) (n : Name) : Option File :=
  match FS.find fs n with
  | some f => if f.cut = .header then none else some f
  | none => none

def openAll (fs : FS) (id : Nat) : List Kind → Option (List (Kind × File))
  | [] => some []
  | k :: ks =>
    match openable fs (.seg k id), openAll fs id ks with
    | some f, some r => some ((k, f) :: r)
    | _, _ => none

/-- one component's `ReadFrom` (all of them build locally and publish at the end, and
    read exact lengths): a strict plaintext prefix is rejected with the component
    untouched; the hybrid part validates the presence flags against the templates. -/
def readComp (tpl : Tpl) (T : Shared) (k : Kind) (f : File) : Option Shared :=
  if f.cut = .data then none else
  match k, f.payload with
  | .hybrid, .hybrid tpl' _ => if tpl' = tpl then some T else none
  | .vector, .vector st => some { T with v := ⟨st, []⟩ }
  | .text, .text ds => some { T with x := ⟨ds, []⟩ }
  | .metadata, .mdata a => some { T with m := ⟨a⟩ }
  | _, _ => none

/-- `hybridSearchIndex.ReadFrom` over the MultiReader, followed by getIndex's drain of the
    MultiReader (`io.Copy(io.Discard, combinedReader)`, repair ae56580). `prevCut` = the previous
    component's gzip stream lacked its trailer: the error surfaces on this component's
    first read — or, for the LAST component, in the drain, i.e. after every component has
    been deserialised into the templates. Returns (succeeded?, shared content afterwards —
    partially or, in the drain case, completely replaced on failure, because the sub-indexes
    are the shared templates). -/
def readAll (tpl : Tpl) (T : Shared) (prevCut : Bool) : List (Kind × File) → Bool × Shared
  | [] => (!prevCut, T)
  | (k, f) :: rest =>
    if prevCut then (false, T) else
    match readComp tpl T k f with
    | none => (false, T)
    | some T' => readAll tpl T' (f.cut = .trailer) rest

/-- `segmentMetadata.getIndex` on an uncached segment -/
def loadSeg (tpl : Tpl) (fs : FS) (id : Nat) (T : Shared) : Bool × Shared :=
  match openAll fs id (comps tpl) with
  | none => (false, T)
  | some files => readAll tpl T false files

/-! ## the store -/

structure Memtable where
  uid : Nat
  info : List Info     -- docInfo of the memtable's own hybrid wrapper
  size : Nat
  count : Nat
  frozen : Bool
deriving DecidableEq, Repr

structure Seg where
  id : Nat
  cached : Bool
deriving DecidableEq, Repr

structure Cfg where
  tpl : Tpl
  limit : Nat      -- MemtableSizeLimit
  flushThr : Nat   -- FlushThreshold
  compThr : Nat    -- CompactionThreshold
deriving DecidableEq, Repr

/-- the flush worker goroutine. `final` = the round started from `closeChan`. -/
inductive FW
  | idle
  | woken (final : Bool)                                      -- channel received, before listFrozen
  | todo (final : Bool) (rest : List Memtable)                -- before flushMemtable of the head
  | written (final : Bool) (cur : Memtable) (rest : List Memtable)  -- between flushMemtable and queue.remove
  | exited
deriving DecidableEq, Repr

/-- the compaction worker goroutine -/
inductive CW
  | idle
  | woken                                           -- channel received, before segmentManager.list
  | loading (srcs : List Nat) (rest : List Nat)     -- before getIndex of the head of `rest`
  | wrote (srcs : List Nat) (newId : Nat)           -- merged segment on disk, before the swap
  | exited
deriving DecidableEq, Repr

/-- ghost state: never read by the operations, only by specifications and the driver -/
structure Ghost where
  acked : List Doc := []        -- every document whose Add/AddWithID returned nil (all sessions)
  sess : List Doc := []         -- … in the current session
  removed : List Id := []       -- every id whose Remove EVER returned nil
  gone : List Id := []          -- ids whose latest acknowledged operation is a Remove (an
                                -- acknowledged re-add takes the id out again)
  promised : List Doc := []     -- documents acknowledged (and not removed) by a store instance
                                -- before one of its Flush()/Close() calls returned nil: what the
                                -- property promises to every later reopen
  loadLost : Bool := false      -- a segment load replaced shared content holding a live
                                -- document that the loaded segment lacks (trigger of D13)
  revived : Bool := false       -- a segment load published (made live again) a document whose
                                -- latest acknowledged operation is a Remove (another face of D13)
  readded : Bool := false       -- an id was added twice (histories of the harness never do)
  compacted : Bool := false     -- a compaction wrote or swapped (trigger of D14)
  everNamed : List Nat := []    -- every segment id that ever named a file
  overwrote : Bool := false     -- some os.Create hit an existing file
  allocated : List Nat := []    -- every result of nextSegmentID
  reused : Bool := false        -- some nextSegmentID result was ≤ an id that had named a file
deriving DecidableEq, Repr

structure Store where
  cfg : Cfg
  T : Shared
  mts : List Memtable     -- the queue, oldest first; the last one is the mutable memtable
  nextUid : Nat
  segs : List Seg         -- segmentManager.segments in slice order
  fs : FS
  counter : Nat           -- provider.segmentCounter
  opened : Bool           -- this process holds the directory (LOCK present)
  closed : Bool           -- PersistentHybridIndex.closed
  flushSig : Bool         -- len(flushChan) = 1
  compSig : Bool          -- len(compactionChan) = 1
  fw : FW
  cw : CW
  gh : Ghost
deriving DecidableEq, Repr

/-- a completed Flush()/Close(): the live documents of this store instance join the promised set -/
def promise (promised sess : List Doc) : List Doc :=
  promised ++ sess.filter fun d => !(promised.any fun x => x.id == d.id)

inductive Out
  | ok
  | ids (l : List Id)
  | errClosed | errAlreadyClosed | errLocked
  | errNotFound | errVecNotFound | errVecDeleted
  | errNoIndex            -- query for a modality without template ("memtable search failed")
  | notEnabled            -- an internal step whose guard is false: nothing happens
  | seg (id : Nat)        -- an internal step that wrote segment `id`
deriving DecidableEq, Repr

/-! ### memtable queue (storage_memtable.go) -/

def newMemtable (uid : Nat) : Memtable := ⟨uid, [], 0, 0, false⟩

def modifyLast {α} (f : α → α) : List α → List α
  | [] => []
  | [a] => [f a]
  | a :: b :: r => a :: modifyLast f (b :: r)

def lastD {α} (d : α) : List α → α
  | [] => d
  | [a] => a
  | _ :: b :: r => lastD d (b :: r)

/-- all elements but the last (`listFrozen`) -/
def butLast {α} : List α → List α
  | [] => []
  | [_] => []
  | a :: b :: r => a :: butLast (b :: r)

/-- `hasRoomFor` of the mutable memtable -/
def hasRoom (limit : Nat) (mts : List Memtable) (d : Doc) : Bool :=
  match mts.getLast? with
  | some m => !m.frozen && decide (m.size + d.size ≤ limit)
  | none => false

/-- `rotateNoLock` -/
def rotateQ (mts : List Memtable) (uid : Nat) : List Memtable :=
  modifyLast (fun m => { m with frozen := true }) mts ++ [newMemtable uid]

def totalSize (mts : List Memtable) : Nat := (mts.map (·.size)).foldl (· + ·) 0

def putInfo (l : List Info) (i : Info) : List Info := l.filter (fun j => j.id != i.id) ++ [i]

/-- `memtableQueue.remove`: by identity, never the last element -/
def removeMt (uid : Nat) : List Memtable → List Memtable
  | [] => []
  | [a] => [a]
  | a :: b :: r => if a.uid = uid then b :: r else a :: removeMt uid (b :: r)

/-! ### segment manager (storage_segment.go) -/

/-- `segmentManager.remove`: overwrite with the last element, truncate -/
def replaceFirst (id : Nat) (l : Seg) : List Seg → List Seg
  | [] => []
  | s :: r => if s.id = id then l :: r else s :: replaceFirst id l r

def removeSwap (segs : List Seg) (id : Nat) : List Seg :=
  match segs.getLast? with
  | none => []
  | some l => if segs.any (fun g => decide (g.id = id)) then (replaceFirst id l segs).dropLast else segs

def setCached (segs : List Seg) (id : Nat) (c : Bool) : List Seg :=
  segs.map fun s => if s.id = id then { s with cached := c } else s

def isCached (segs : List Seg) (id : Nat) : Option Bool :=
  (segs.find? (·.id = id)).map (·.cached)

/-! ### writing a segment -/

/-- flushMemtable / compaction write: nextSegmentID, hybrid.Flush on the shared
    templates, files, ghost bookkeeping. Does NOT register the segment. -/
def writeSegment (s : Store) (info : List Info) : Store × Nat :=
  let id := s.counter + 1
  let T := s.T.flush
  let steps := writeSteps s.cfg.tpl id info T
  ({ s with counter := id, T := T, fs := applySteps s.fs steps,
            gh := { s.gh with everNamed := id :: s.gh.everNamed,
                              allocated := id :: s.gh.allocated,
                              overwrote := s.gh.overwrote || overwrites s.fs steps,
                              reused := s.gh.reused || s.gh.everNamed.any fun j => decide (id ≤ j) } }, id)

/-- flushMemtable(mt): write + segmentManager.add -/
def flushOne (s : Store) (m : Memtable) : Store × Nat :=
  let (s', id) := writeSegment s m.info
  ({ s' with segs := s'.segs ++ [⟨id, false⟩] }, id)

/-- `flushMemtables()` run to completion on the caller's goroutine (client Flush) -/
def flushAll (s : Store) : List Memtable → Store
  | [] => s
  | m :: rest =>
    let (s', _) := flushOne s m
    flushAll { s' with mts := removeMt m.uid s'.mts } rest

/-! ### search -/

/-- what one segment goroutine of `persistentHybridSearch.Execute` does, as events:
    `load id` = getIndex misses the cache and deserialises; `scan id` = the search on
    the (cached) index. The real goroutines run concurrently; a schedule is the order
    in which these events hit the shared templates. -/
inductive SegEv
  | load (id : Nat)
  | scan (id : Nat)
deriving DecidableEq, Repr

structure SearchSt where
  T : Shared
  segs : List Seg
  acc : List Id
  loads : Nat
  gh : Ghost

def segEvent (cfg : Cfg) (fs : FS) (q : Q) (st : SearchSt) : SegEv → SearchSt
  | .load id =>
    match isCached st.segs id with
    | some false =>
      let (ok, T') := loadSeg cfg.tpl fs id st.T                -- D13: ReadFrom into the templates
      { st with T := T', segs := if ok then setCached st.segs id true else st.segs,
                -- counted when the open phase passed and ReadFrom was entered
                loads := st.loads + (if (openAll fs id (comps cfg.tpl)).isSome then 1 else 0),
                gh := { st.gh with loadLost := st.gh.loadLost || !T'.coversLive st.T,
                                   revived := st.gh.revived || T'.livesAny st.gh.gone } }
    | _ => st
  | .scan id =>
    match isCached st.segs id with
    | some true => { st with acc := st.acc ++ st.T.matchIds q }   -- D13: the cached index IS the templates
    | _ => st

/-- the serialised schedule the harness enforces: one goroutine at a time, in `order` -/
def serialSched (order : List Nat) : List SegEv := order.flatMap fun id => [.load id, .scan id]

/-! ## steps -/

inductive Bg
  | fwake | ffinal | flist | fwrite | fremove
  | cwake | cexit | clist | cload | cwrite | cswap
deriving DecidableEq, Repr

inductive Step
  | add (d : Doc)              -- Add / AddWithID (the id is the one the call acknowledged)
  | remove (id : Id)
  | flush
  | rotate                     -- memtableQueue.Rotate (forced)
  | trigger                    -- TriggerCompaction
  | evict                      -- segmentManager.EvictAllCaches
  | search (q : Q) (sched : List SegEv)
  | close                      -- Close up to and including close(closeChan)
  | closeDone                  -- wg.Wait returned; provider.close
  | reopen                     -- OpenPersistentHybridIndex with FRESH templates
  | bg (b : Bg)
deriving DecidableEq, Repr

def running (s : Store) : Bool := s.opened && !s.closed

def execAdd (s : Store) (d : Doc) : Store × Out :=
  if !running s then (s, .errClosed) else
  let s1 := if hasRoom s.cfg.limit s.mts d then s
            else { s with mts := rotateQ s.mts s.nextUid, nextUid := s.nextUid + 1 }
  let i := infoOf s.cfg.tpl d
  let mts := modifyLast (fun m => { m with info := putInfo m.info i, size := m.size + d.size, count := m.count + 1 }) s1.mts
  ({ s1 with T := s1.T.add i, mts := mts,
             flushSig := s1.flushSig || decide (s1.cfg.flushThr ≤ totalSize mts),
             gh := { s1.gh with acked := d :: s1.gh.acked, sess := d :: s1.gh.sess,
                                gone := s1.gh.gone.filter fun j => j != d.id,
                                readded := s1.gh.readded || (s1.gh.acked.any fun a => a.id == d.id) } }, .ok)

def execRemove (s : Store) (id : Id) : Store × Out :=
  if !running s then (s, .errClosed) else
  match s.mts.getLast? with
  | none => (s, .ok)
  | some m =>
    match m.info.find? (·.id = id) with
    | none => (s, .errNotFound)
    | some i =>
      match s.T.remove i with
      | .error .vecDeleted => (s, .errVecDeleted)
      | .error _ => (s, .errVecNotFound)
      | .ok T' =>
        ({ s with T := T', mts := modifyLast (fun m => { m with info := m.info.filter fun j => j.id != id }) s.mts,
                  gh := { s.gh with removed := id :: s.gh.removed,
                                    gone := id :: s.gh.gone.filter fun j => j != id,
                                    sess := s.gh.sess.filter fun d => d.id != id } }, .ok)

/-- client `Flush()`. With `flushRotatesMutable` (the D12 repair) a non-empty mutable
    memtable would be rotated first. -/
def execFlush (s : Store) : Store × Out :=
  if !running s then (s, .errClosed) else
  let s1 := if flushRotatesMutable && (match s.mts.getLast? with | some m => decide (0 < m.count) | none => false)
            then { s with mts := rotateQ s.mts s.nextUid, nextUid := s.nextUid + 1 } else s
  let s2 := flushAll s1 (butLast s1.mts)
  ({ s2 with gh := { s2.gh with promised := promise s2.gh.promised s2.gh.sess } }, .ok)

def execSearch (s : Store) (q : Q) (sched : List SegEv) : Store × Out × Nat :=
  if !running s then (s, .errClosed, 0) else
  if !s.cfg.tpl.has q then (s, .errNoIndex, 0) else
  -- D13: every memtable's index wraps the shared templates: each memtable search returns matchIds T
  let acc0 := (s.mts.flatMap fun _ => s.T.matchIds q)
  let st := sched.foldl (segEvent s.cfg s.fs q) ⟨s.T, s.segs, acc0, 0, s.gh⟩
  ({ s with T := st.T, segs := st.segs, gh := st.gh }, .ids st.acc.eraseDups, st.loads)

def fwDone (final : Bool) : FW := if final then .exited else .idle

def execBg (s : Store) : Bg → Store × Out
  | .fwake =>
    match s.fw with
    | .idle => if s.opened && s.flushSig then ({ s with fw := .woken false, flushSig := false }, .ok) else (s, .notEnabled)
    | _ => (s, .notEnabled)
  | .ffinal =>
    match s.fw with
    | .idle => if s.opened && s.closed then ({ s with fw := .woken true }, .ok) else (s, .notEnabled)
    | _ => (s, .notEnabled)
  | .flist =>
    match s.fw with
    | .woken f =>
      match butLast s.mts with
      | [] => ({ s with fw := fwDone f }, .ok)
      | l => ({ s with fw := .todo f l }, .ok)
    | _ => (s, .notEnabled)
  | .fwrite =>
    match s.fw with
    | .todo f (m :: rest) =>
      let (s', id) := flushOne s m
      ({ s' with fw := .written f m rest }, .seg id)
    | _ => (s, .notEnabled)
  | .fremove =>
    match s.fw with
    | .written f m rest =>
      ({ s with mts := removeMt m.uid s.mts, fw := match rest with | [] => fwDone f | _ => .todo f rest }, .ok)
    | _ => (s, .notEnabled)
  | .cwake =>
    match s.cw with
    | .idle => if s.opened && s.compSig then ({ s with cw := .woken, compSig := false }, .ok) else (s, .notEnabled)
    | _ => (s, .notEnabled)
  | .cexit =>
    match s.cw with
    | .idle => if s.opened && s.closed then ({ s with cw := .exited }, .ok) else (s, .notEnabled)
    | _ => (s, .notEnabled)
  | .clist =>
    match s.cw with
    | .woken =>
      if s.segs.length < s.cfg.compThr then ({ s with cw := .idle }, .ok) else
      match (s.segs.take s.cfg.compThr).map (·.id) with
      | [] => ({ s with cw := .idle }, .ok)
      | srcs => ({ s with cw := .loading srcs srcs }, .ok)
    | _ => (s, .notEnabled)
  | .cload =>
    match s.cw with
    | .loading srcs (id :: rest) =>
      -- seg.getIndex on the segment object captured by maybeCompact
      match isCached s.segs id with
      | some false =>
        let (ok, T') := loadSeg s.cfg.tpl s.fs id s.T
        let gh := { s.gh with loadLost := s.gh.loadLost || !T'.coversLive s.T,
                              revived := s.gh.revived || T'.livesAny s.gh.gone }
        if ok then ({ s with T := T', segs := setCached s.segs id true, cw := .loading srcs rest, gh := gh }, .ok)
        else ({ s with T := T', cw := .idle, gh := gh }, .ok)   -- "failed to load segment": compaction gives up
      | _ => ({ s with cw := .loading srcs rest }, .ok)
    | _ => (s, .notEnabled)
  | .cwrite =>
    match s.cw with
    | .loading srcs [] =>
      -- mergedIndex = fresh wrapper (docInfo ∅) over the shared templates; nothing is merged
      let (s', id) := writeSegment s []
      ({ s' with cw := .wrote srcs id, gh := { s'.gh with compacted := true } }, .seg id)
    | _ => (s, .notEnabled)
  | .cswap =>
    match s.cw with
    | .wrote srcs id =>
      let segs := srcs.foldl removeSwap (s.segs ++ [⟨id, false⟩])
      let fs := applySteps s.fs (srcs.flatMap deleteSteps)
      ({ s with segs := segs, fs := fs, cw := .idle, gh := { s.gh with compacted := true } }, .ok)
    | _ => (s, .notEnabled)

/-- OpenPersistentHybridIndex on directory `fs` with templates whose content is `T0`
    (fresh templates: `Shared.empty`) -/
def openOn (cfg : Cfg) (fs : FS) (T0 : Shared) (gh : Ghost) : Store × Out :=
  if FS.has fs .lock then
    (⟨cfg, T0, [], 0, [], fs, 0, false, true, false, false, .exited, .exited, { gh with sess := [] }⟩, .errLocked)
  else
    let fs' := FS.put fs .lock ⟨.lock, .full⟩
    (⟨cfg, T0, [newMemtable 0], 1, (listSegments fs').map (⟨·, false⟩), fs', initCounter fs',
      true, false, false, false, .idle, .idle,
      { gh with sess := [] }⟩, .ok)

def exec (s : Store) : Step → Store × Out
  | .add d => execAdd s d
  | .remove id => execRemove s id
  | .flush => execFlush s
  | .rotate =>
    if !running s then (s, .errClosed) else
    ({ s with mts := rotateQ s.mts s.nextUid, nextUid := s.nextUid + 1 }, .ok)
  | .trigger => if !s.opened then (s, .ok) else ({ s with compSig := true }, .ok)
  | .evict =>
    if !running s then (s, .errClosed) else
    ({ s with segs := s.segs.map fun g => { g with cached := false } }, .ok)
  | .search q sched => let r := execSearch s q sched; (r.1, r.2.1)
  | .close =>
    if !running s then (s, .errAlreadyClosed) else
    let s1 := if flushRotatesMutable && (match s.mts.getLast? with | some m => decide (0 < m.count) | none => false)
              then { s with mts := rotateQ s.mts s.nextUid, nextUid := s.nextUid + 1 } else s
    ({ s1 with closed := true }, .ok)
  | .closeDone =>
    if s.opened && s.closed && s.fw = .exited && s.cw = .exited then
      ({ s with opened := false, fs := FS.erase s.fs .lock,
                gh := { s.gh with promised := promise s.gh.promised s.gh.sess } }, .ok)
    else (s, .notEnabled)
  | .reopen =>
    if s.opened then (s, .errLocked) else
    openOn s.cfg s.fs Shared.empty s.gh
  | .bg b => execBg s b

def run (s : Store) (steps : List Step) : Store := steps.foldl (fun s st => (exec s st).1) s

/-- a store freshly opened on an empty directory -/
def Store.init (cfg : Cfg) : Store := (openOn cfg [] Shared.empty {}).1

end Comet.Storage
