/-
  Comet.Storage.Lock — small-step model of directory ownership in the persistent
  store (storage_provider.go: newStorageProvider / acquireLock / releaseLock /
  initSegmentCounter / listSegments / close;  storage.go: OpenPersistentHybridIndex,
  Close, and the `closed` test at the start of the public methods listed below).

  What is modelled, line by line:

    OpenPersistentHybridIndex(cfg)              model steps of `Call.open fail`
      newStorageProvider
        os.MkdirAll(baseDir)                    oMkdir      (failure → return error, nothing to undo)
        acquireLock
          OpenFile(LOCK, O_CREATE|O_EXCL|…)     oCreate     (exists → "locked"; other error → return; else LOCK now exists)
          lockFile.WriteString(pid)             oWritePid   (failure → lockFile.Close(); os.Remove(LOCK); return error)
          p.lockFile = lockFile
        initSegmentCounter: os.ReadDir          oReadDir1   (failure → provider.releaseLock(); return error)
      provider.listSegments: os.ReadDir         oReadDir2   (failure → provider.close() = releaseLock(); return error)
      wg.Add(2); go flushWorker; go compaction  oSpawn      (cannot fail; the handle is returned)
    the clean-up of the three error paths after a successful create is one step
    `oCleanup` = close the descriptor (local) + os.Remove(LOCK) (+ p.lockFile = nil).

    Close()
      mu.Lock; if closed {return err}; closed = true; mu.Unlock     cTest    (one atomic region)
      close(closeChan)                                              cSignal
      wg.Wait()                                                     cWait    (enabled when both workers have exited)
      provider.close() = releaseLock:
         if p.lockFile == nil {return nil}; p.lockFile.Close()                  cRelease
         os.Remove(LOCK)                                                       cRemove
         p.lockFile = nil; return nil                                          cClear
    flushWorker / compactionWorker                                  Actor.worker h …
      may write segment files while alive (`write`); exit only after closeChan is closed
      (`exit`; the flush worker's final flush is a `write` after the signal).

    Add / AddWithID / Remove / Train / Flush / (search).Execute
      mu.RLock; if closed {RUnlock; return "storage is closed"}; RUnlock      pTest   (own atomic region)
      … body …                                                               pBody   (NOT under the store lock:
                                                         it may run after a concurrent Close has finished)

  `os.Remove(LOCK)` is path based: the model's remove step clears the LOCK entry
  whoever created it — that it only ever removes the caller's own LOCK is a theorem
  (`remove_only_own_lock` / `lock_mutex` in Properties/C17.lean), not built in.  Likewise
  `releaseLock`'s early return on `p.lockFile == nil` is modelled (cRelease) and proved
  dead on the Close path (close_release_never_skips).
  Not modelled: a nil config (returns before touching anything); the CONTENT of the
  listing read by the two ReadDirs (segment ids: C09/C10) — no file name can make them
  fail, parse errors are ignored by initSegmentCounter/listSegments; what an operation's
  body does besides possibly writing segment files (C08).

  Assumptions (stated, not proved): `OpenFile(O_CREATE|O_EXCL)` is an atomic
  test-and-set on the LOCK entry of one file system (the `oCreate` step is atomic);
  the clean-up system calls (close, unlink of the file just created) do not fail.

  A "thread" is a goroutine of this or of another process: the model lets any thread
  call on any returned handle, a superset of what processes can do.
  Threads run programs (`List Call`); a scheduler picks any enabled actor; failures
  are injected by the program (`Call.open (some pos)`): every position, every
  interleaving is covered by the theorems.  The global event log is write-only
  (returned by `step`, accumulated by `run`), so it cannot influence behaviour.
-/
namespace Comet.Lock

/-- An open attempt / store handle is named by (thread, index of the call in that
    thread's history): unique by construction. -/
abbrev Owner := Nat × Nat

/-- The storage directory as far as open/close touch it. -/
structure Dir where
  present : Bool
  /-- the LOCK entry and which open attempt created it -/
  lock : Option Owner
  /-- number of segment-file writes so far (version of the rest of the listing) -/
  writes : Nat
deriving DecidableEq, Repr, Hashable

/-- positions at which `open` can fail (spawning the workers cannot) -/
inductive OStep | mkdir | create | writePid | readDir1 | readDir2
deriving DecidableEq, Repr, Hashable

/-- the public operations that begin with the `closed` test; `flush n` writes `n`
    segment files in its body (n = number of frozen memtables, an input here) -/
inductive OpKind | add | addWithID | remove | train | search | flush (n : Nat)
deriving DecidableEq, Repr, Hashable

def OpKind.bodyWrites : OpKind → Nat
  | .flush n => n
  | _ => 0

inductive Call
  | open (fail : Option OStep)
  | close (h : Owner)
  | op (h : Owner) (k : OpKind)
deriving DecidableEq, Repr, Hashable

inductive Res
  | opened | errMkdir | errLocked | errCreate | errWritePid | errReadDir1 | errReadDir2
  | closedOk | errAlreadyClosed
  | opOk | errClosed
deriving DecidableEq, Repr, Hashable

inductive Pc
  | idle
  | oMkdir (f : Option OStep) | oCreate (f : Option OStep) | oWritePid (f : Option OStep)
  | oReadDir1 (f : Option OStep) | oReadDir2 (f : Option OStep) | oSpawn
  | oCleanup (r : Res)
  | cTest (h : Owner) | cSignal (h : Owner) | cWait (h : Owner)
  | cRelease (h : Owner) | cRemove (h : Owner) | cClear (h : Owner)
  | pTest (h : Owner) (k : OpKind) | pBody (h : Owner) (k : OpKind) (left : Nat)
deriving DecidableEq, Repr, Hashable

structure Thread where
  todo : List Call := []
  /-- number of calls this thread has completed = index of its current/next call -/
  idx : Nat := 0
  pc : Pc := .idle
  /-- results of the completed calls, newest first -/
  results : List Res := []
deriving DecidableEq, Repr, Hashable

/-- `*PersistentHybridIndex` + its `*storageProvider` -/
structure Handle where
  /-- returned to the caller by a successful open -/
  published : Bool := false
  /-- the descriptor this attempt obtained for LOCK (local `lockFile` in acquireLock,
      later `provider.lockFile`) is open -/
  fdOpen : Bool := false
  /-- `provider.lockFile != nil` -/
  lockFile : Bool := false
  closed : Bool := false
  /-- `closeChan` is closed -/
  signalled : Bool := false
  /-- background workers still alive (2 after a successful open) -/
  running : Nat := 0
deriving DecidableEq, Repr, Hashable

structure State where
  dir : Dir
  handles : Owner → Handle
  threads : Nat → Thread

/-- write-only trace -/
inductive Ev
  | inv (t i : Nat) (c : Call)
  /-- call (t,i) on attempt / handle `o` returned `r` -/
  | ret (t i : Nat) (o : Owner) (r : Res)
  /-- the O_EXCL create of attempt `o` succeeded -/
  | createOk (o : Owner)
  /-- os.Remove(LOCK) executed on behalf of attempt / handle `o` -/
  | removeLock (o : Owner)
  /-- Close's atomic test-and-set of `closed` on handle `h` by call (t,i) -/
  | testSet (t i : Nat) (h : Owner) (won : Bool)
  /-- a public operation's atomic `closed` test -/
  | test (t i : Nat) (h : Owner) (passed : Bool)
deriving DecidableEq, Repr

inductive WAct | write | exit
deriving DecidableEq, Repr

inductive Actor
  | thread (t : Nat)
  | worker (h : Owner) (a : WAct)
deriving DecidableEq, Repr

def upd {α β : Type} [DecidableEq α] (f : α → β) (a : α) (b : β) : α → β :=
  fun x => if x = a then b else f x

@[simp] theorem upd_same {α β : Type} [DecidableEq α] (f : α → β) (a : α) (b : β) :
    upd f a b a = b := by simp [upd]

@[simp] theorem upd_other {α β : Type} [DecidableEq α] (f : α → β) (a x : α) (b : β) (h : x ≠ a) :
    upd f a b x = f x := by simp [upd, h]

def init (present : Bool) (progs : Nat → List Call) : State :=
  { dir := { present := present, lock := none, writes := 0 }
    handles := fun _ => {}
    threads := fun t => { todo := progs t } }

/-- the current call of thread `t` returns `r` -/
def State.ret (s : State) (t : Nat) (o : Owner) (r : Res) : State × List Ev :=
  let th := s.threads t
  ({ s with threads := upd s.threads t { th with pc := .idle, idx := th.idx + 1, results := r :: th.results } },
   [Ev.ret t th.idx o r])

def State.goto (s : State) (t : Nat) (pc : Pc) : State :=
  { s with threads := upd s.threads t { s.threads t with pc := pc } }

def State.setHandle (s : State) (h : Owner) (f : Handle → Handle) : State :=
  { s with handles := upd s.handles h (f (s.handles h)) }

/-- one atomic step of thread `t`; `none` = not enabled -/
def tstep (s : State) (t : Nat) : Option (State × List Ev) :=
  let th := s.threads t
  let o : Owner := (t, th.idx)
  match th.pc with
  | .idle =>
    match th.todo with
    | [] => none
    | c :: rest =>
      let start (pc : Pc) : State := { s with threads := upd s.threads t { th with todo := rest, pc := pc } }
      match c with
      | .open f => some (start (.oMkdir f), [Ev.inv t th.idx (.open f)])
      | .close h => if (s.handles h).published then some (start (.cTest h), [Ev.inv t th.idx (.close h)]) else none
      | .op h k => if (s.handles h).published then some (start (.pTest h k), [Ev.inv t th.idx (.op h k)]) else none
  -- os.MkdirAll
  | .oMkdir f =>
    if f = some .mkdir then some (s.ret t o .errMkdir)
    else some (({ s with dir := { s.dir with present := true } } : State).goto t (.oCreate f), [])
  -- os.OpenFile(LOCK, O_CREATE|O_EXCL|O_WRONLY)
  | .oCreate f =>
    if f = some .create then some (s.ret t o .errCreate)
    else match s.dir.lock with
      | some _ => some (s.ret t o .errLocked)
      | none =>
        some ((({ s with dir := { s.dir with lock := some o } } : State).setHandle o
                fun h => { h with fdOpen := true }).goto t (.oWritePid f), [Ev.createOk o])
  -- lockFile.WriteString(pid); p.lockFile = lockFile
  | .oWritePid f =>
    if f = some .writePid then some (s.goto t (.oCleanup .errWritePid), [])
    else some ((s.setHandle o fun h => { h with lockFile := true }).goto t (.oReadDir1 f), [])
  -- initSegmentCounter
  | .oReadDir1 f =>
    if f = some .readDir1 then some (s.goto t (.oCleanup .errReadDir1), [])
    else some (s.goto t (.oReadDir2 f), [])
  -- listSegments
  | .oReadDir2 f =>
    if f = some .readDir2 then some (s.goto t (.oCleanup .errReadDir2), [])
    else some (s.goto t .oSpawn, [])
  -- wg.Add(2); go flushWorker(); go compactionWorker(); return storage
  | .oSpawn =>
    let (s2, ev) := (s.setHandle o fun h => { h with published := true, running := 2 }).ret t o .opened
    some (s2, ev)
  -- lockFile.Close(); os.Remove(lockPath)   /   releaseLock()
  | .oCleanup r =>
    let s1 : State := { s with dir := { s.dir with lock := none } }
    let (s2, ev) := (s1.setHandle o fun h => { h with fdOpen := false, lockFile := false }).ret t o r
    some (s2, Ev.removeLock o :: ev)
  -- Close: test-and-set under the store lock
  | .cTest h =>
    if (s.handles h).closed then
      let (s2, ev) := s.ret t h .errAlreadyClosed
      some (s2, Ev.testSet t th.idx h false :: ev)
    else some ((s.setHandle h fun x => { x with closed := true }).goto t (.cSignal h), [Ev.testSet t th.idx h true])
  | .cSignal h => some ((s.setHandle h fun x => { x with signalled := true }).goto t (.cWait h), [])
  | .cWait h => if (s.handles h).running = 0 then some (s.goto t (.cRelease h), []) else none
  -- releaseLock: nil check, p.lockFile.Close()
  | .cRelease h =>
    if (s.handles h).lockFile then
      some ((s.setHandle h fun x => { x with fdOpen := false }).goto t (.cRemove h), [])
    else some (s.ret t h .closedOk)
  -- os.Remove(lockPath)
  | .cRemove h =>
    some (({ s with dir := { s.dir with lock := none } } : State).goto t (.cClear h), [Ev.removeLock h])
  -- p.lockFile = nil
  | .cClear h =>
    some ((s.setHandle h fun x => { x with lockFile := false }).ret t h .closedOk)
  -- public operation: the `closed` test in its own region, then the body
  | .pTest h k =>
    if (s.handles h).closed then
      let (s2, ev) := s.ret t h .errClosed
      some (s2, Ev.test t th.idx h false :: ev)
    else some (s.goto t (.pBody h k k.bodyWrites), [Ev.test t th.idx h true])
  | .pBody h k left =>
    match left with
    | 0 => some (s.ret t h .opOk)
    | n + 1 => some (({ s with dir := { s.dir with writes := s.dir.writes + 1 } } : State).goto t (.pBody h k n), [])

/-- one step of a background worker of handle `h` -/
def wstep (s : State) (h : Owner) : WAct → Option (State × List Ev)
  | .write =>
    if (s.handles h).running = 0 then none
    else some ({ s with dir := { s.dir with writes := s.dir.writes + 1 } }, [])
  | .exit =>
    if (s.handles h).running = 0 ∨ ¬ (s.handles h).signalled then none
    else some (s.setHandle h fun x => { x with running := x.running - 1 }, [])

def step (s : State) : Actor → Option (State × List Ev)
  | .thread t => tstep s t
  | .worker h a => wstep s h a

/-- run a schedule; the log is newest-first; `none` if some chosen actor was not enabled -/
def run (s : State) (log : List Ev) : List Actor → Option (State × List Ev)
  | [] => some (s, log)
  | a :: rest =>
    match step s a with
    | none => none
    | some (s', ev) => run s' (ev.reverse ++ log) rest

/-- like `run`, but a chosen actor that is not enabled is skipped (used by the examples,
    through `after` in CometProofs/Storage/Lock.lean) -/
def runSkip (s : State) (log : List Ev) : List Actor → State × List Ev
  | [] => (s, log)
  | a :: rest =>
    match step s a with
    | none => runSkip s log rest
    | some (s', ev) => runSkip s' (ev.reverse ++ log) rest

/-- `s` with trace `log` is reachable from the initial state of `progs` -/
inductive Reachable (present : Bool) (progs : Nat → List Call) : State → List Ev → Prop
  | init : Reachable present progs (init present progs) []
  | step {s log a s' ev} : Reachable present progs s log → step s a = some (s', ev) →
      Reachable present progs s' (ev.reverse ++ log)

/-! ### trace predicates -/

/-- attempt `o` is between its successful O_EXCL create and the removal of its LOCK -/
def Between (log : List Ev) (o : Owner) : Prop :=
  Ev.createOk o ∈ log ∧ Ev.removeLock o ∉ log

instance (log : List Ev) (o : Owner) : Decidable (Between log o) := by
  unfold Between; exact inferInstance

/-- a usable handle: returned by open, no Close has passed the test-and-set -/
def Live (s : State) (o : Owner) : Prop :=
  (s.handles o).published = true ∧ (s.handles o).closed = false

instance (s : State) (o : Owner) : Decidable (Live s o) := by
  unfold Live; exact inferInstance

/-- has a winning Close test-and-set on `h` been logged? -/
def absClosed (h : Owner) : List Ev → Bool
  | [] => false
  | Ev.testSet _ _ h' true :: rest => h' == h || absClosed h rest
  | _ :: rest => absClosed h rest

/-- The atomic `closed` tests on `h`, in execution order, answer exactly like a
    sequential closable object: an operation's test passes iff no Close has won
    before it; a Close wins iff none has won before it.  (log is newest first) -/
def LinLegal (h : Owner) : List Ev → Prop
  | [] => True
  | Ev.test _ _ h' passed :: rest => (h' = h → passed = !absClosed h rest) ∧ LinLegal h rest
  | Ev.testSet _ _ h' won :: rest => (h' = h → won = !absClosed h rest) ∧ LinLegal h rest
  | _ :: rest => LinLegal h rest

/-- number of winning Close test-and-sets on `h` -/
def wins (h : Owner) : List Ev → Nat
  | [] => 0
  | Ev.testSet _ _ h' true :: rest => (if h' = h then 1 else 0) + wins h rest
  | _ :: rest => wins h rest

/-- what the return of a Close / public operation must find earlier in the trace -/
def retOk (rest : List Ev) (t i : Nat) (h : Owner) : Res → Prop
  | .errClosed => Ev.test t i h false ∈ rest
  | .opOk => Ev.test t i h true ∈ rest
  | .closedOk => Ev.testSet t i h true ∈ rest
  | .errAlreadyClosed => Ev.testSet t i h false ∈ rest
  | .opened | .errMkdir | .errLocked | .errCreate | .errWritePid | .errReadDir1 | .errReadDir2 => True

def evOk (rest : List Ev) : Ev → Prop
  | .ret t i h r => retOk rest t i h r
  | .test t i h _ => (∃ k, Ev.inv t i (.op h k) ∈ rest) ∧ ∀ h' r, Ev.ret t i h' r ∉ rest
  | .testSet t i h _ => Ev.inv t i (.close h) ∈ rest ∧ ∀ h' r, Ev.ret t i h' r ∉ rest
  | .inv t i _ => (∀ h b, Ev.test t i h b ∉ rest) ∧ (∀ h b, Ev.testSet t i h b ∉ rest)
  | .createOk _ | .removeLock _ => True

/-- Every atomic `closed` test lies inside its own call (after the invocation, before
    the return), and every return of a Close / public operation reports exactly what
    its test decided.  (log is newest first) -/
def TestsInsideCalls : List Ev → Prop
  | [] => True
  | e :: rest => TestsInsideCalls rest ∧ evOk rest e

/-- which kind of call a control point belongs to -/
inductive CallKind | none | open | close (h : Owner) | op (h : Owner) (k : OpKind)
deriving DecidableEq, Repr

def Pc.kind : Pc → CallKind
  | .idle => .none
  | .oMkdir _ => .open | .oCreate _ => .open | .oWritePid _ => .open | .oReadDir1 _ => .open
  | .oReadDir2 _ => .open | .oSpawn => .open | .oCleanup _ => .open
  | .cTest h => .close h | .cSignal h => .close h | .cWait h => .close h | .cRelease h => .close h
  | .cRemove h => .close h | .cClear h => .close h
  | .pTest h k => .op h k | .pBody h k _ => .op h k

def Call.kind : Call → CallKind
  | .open _ => .open
  | .close h => .close h
  | .op h k => .op h k

/-- control point `pc` belongs to an execution of call `c` -/
def Pc.runs (c : Call) (pc : Pc) : Prop := pc.kind = c.kind

/-- results a call of kind `c` (named `ti`) may report, and about which handle -/
def Call.mayReturn (c : Call) (ti : Owner) (o : Owner) (r : Res) : Prop :=
  match c with
  | .open _ => o = ti ∧ (r = .opened ∨ r = .errMkdir ∨ r = .errLocked ∨ r = .errCreate ∨
                         r = .errWritePid ∨ r = .errReadDir1 ∨ r = .errReadDir2)
  | .close h => o = h ∧ (r = .closedOk ∨ r = .errAlreadyClosed)
  | .op h _ => o = h ∧ (r = .opOk ∨ r = .errClosed)

/-- `e₁` was logged before `e₂` -/
def Before (log : List Ev) (e₁ e₂ : Ev) : Prop :=
  ∃ l₁ l₂ l₃, log = l₃ ++ e₂ :: l₂ ++ e₁ :: l₁

end Comet.Lock
