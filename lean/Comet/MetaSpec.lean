/-
  Comet.MetaSpec — the specification C04 is judged against (no bitmaps, no BSI):

  * `Docs` : the live documents, `Id ⇀ (Field ⇀ Value)`;
  * `sat`  : denotational meaning of one filter on one document, ordinary signed
    comparison (`BitVec.toInt`), floats already at two-decimal fixed point;
  * `satLeaf` : `Not(f)` = complement of `f` within `f`'s universe;
  * `satQuery` : AND inside a simple list / an AND group, OR inside an OR group,
    OR across groups, empty list / empty group = every live document;
  * the decidable side conditions of the `…_partial` theorem (`wellTypedQ`, `conform`,
    `noColon`, `noMixedSign`, `noNotRange`) and the per-leaf triggers of the known
    findings D8 / D9.

  A field is *numeric* when some `Add` has ever carried a number under its name
  (`numSeen`; this is what "a BSI exists for the name" means on the model side, BSIs
  are never deleted), otherwise it is categorical — which includes every field the
  index has never seen ("absent from the index").
-/
import Comet.Meta
namespace Comet.Meta

abbrev Doc := List (String × Value)
abbrev Docs := List (Nat × Doc)

/-- specification state: live documents and the numeric field names seen so far -/
structure Spec where
  docs : Docs := []
  numSeen : List String := []
deriving Repr

def Docs.get (D : Docs) (d : Nat) (f : String) : Option Value := (D.lookup d).bind (·.lookup f)

/-- the document, when every value has a supported type -/
def docOf : List (String × Option Value) → Option Doc
  | [] => some []
  | (k, some v) :: r => (docOf r).map ((k, v) :: ·)
  | (_, none) :: _ => none

def intFields : Doc → List String
  | [] => []
  | (k, .int _) :: r => k :: intFields r
  | (_, .str _) :: r => intFields r

def Spec.step (sp : Spec) : HOp → Spec
  | .add id kvs =>
    match docOf kvs with
    | some doc => { docs := (id, doc) :: sp.docs, numSeen := intFields doc ++ sp.numSeen }
    | none => sp      -- rejected: no effect
  | .remove id => { sp with docs := sp.docs.filter (·.1 != id) }

def Spec.run (ops : List HOp) : Spec := ops.foldl Spec.step {}

/-- signed comparison of a stored value with an operand; false unless both are numbers -/
def numRel (rel : Int → Int → Bool) (g : String → Option Value) (f : String) (o : Operand) : Bool :=
  match g f, o.val with
  | some (.int y), .int x => rel y.toInt x.toInt
  | _, _ => false

/-- meaning of one filter on one document `g : Field ⇀ Value`; `N` = numeric field names -/
def sat (N : List String) (g : String → Option Value) : Filter → Bool
  | .cmp .eq f o => g f == some o.val
  | .cmp .ne f o =>
    if N.contains f then
      -- numeric: the documents that HAVE the field with another value
      match g f with
      | some v => v != o.val
      | none => false
    else
      -- string / bool: every document that does not match eq, incl. those lacking the field
      !(g f == some o.val)
  | .cmp .gt f o => numRel (fun y x => decide (y > x)) g f o
  | .cmp .gte f o => numRel (fun y x => decide (y ≥ x)) g f o
  | .cmp .lt f o => numRel (fun y x => decide (y < x)) g f o
  | .cmp .lte f o => numRel (fun y x => decide (y ≤ x)) g f o
  | .range f lo hi => numRel (fun y x => decide (y ≥ x)) g f lo && numRel (fun y x => decide (y ≤ x)) g f hi
  | .isIn false f (some vs) => vs.any fun o => g f == some o.val
  | .isIn true f (some vs) => !(vs.any fun o => g f == some o.val)
  | .isIn _ _ none => false
  | .ex false f => (g f).isSome
  | .ex true f => (g f).isNone

/-- the universe `Not(f)` complements in: the documents carrying the field for numeric
    comparisons, every live document otherwise -/
def univ (N : List String) (g : String → Option Value) : Filter → Bool
  | .cmp _ f _ | .range f _ _ => if N.contains f then (g f).isSome else true
  | _ => true

/-- a filter as the caller wrote it: `f` or `Not(f)` -/
structure Leaf where
  neg : Bool
  f : Filter
deriving Repr

def satLeaf (N : List String) (g : String → Option Value) (l : Leaf) : Bool :=
  if l.neg then univ N g l.f && !sat N g l.f else sat N g l.f

/-- what the caller hands to the implementation -/
def Leaf.toFilter (l : Leaf) : Filter := if l.neg then notF l.f else l.f

structure LGroup where
  logic : Logic
  leaves : List Leaf
deriving Repr

def LGroup.toGroup (g : LGroup) : Group := ⟨g.logic, g.leaves.map Leaf.toFilter⟩

def satGroup (N : List String) (g : String → Option Value) (gr : LGroup) : Bool :=
  if gr.leaves.isEmpty then true
  else if gr.logic == .and then gr.leaves.all (satLeaf N g) else gr.leaves.any (satLeaf N g)

/-- simple filters are ANDed; groups are ORed; no filter at all = every live document -/
def satQuery (N : List String) (g : String → Option Value) (fs : List Leaf) (gs : List LGroup) : Bool :=
  if !gs.isEmpty then gs.any (satGroup N g) else fs.all (satLeaf N g)

/-- the answer the property demands: ids of the live documents satisfying the query -/
def specAnswer (sp : Spec) (fs : List Leaf) (gs : List LGroup) : List Nat :=
  (sp.docs.filter fun p => satQuery sp.numSeen (fun f => p.2.lookup f) fs gs).map (·.1)

/-! ### side conditions (all decidable) -/

def Value.isInt : Value → Bool | .int _ => true | .str _ => false
def Operand.isInt : Operand → Bool | .int _ _ => true | .str _ => false

/-- no live document carries the field -/
def fieldAbsent (D : Docs) (f : String) : Bool := D.all fun p => (p.2.lookup f).isNone

/-- operator and operand types fit the field's type -/
def wellTypedF (N : List String) (D : Docs) : Filter → Bool
  | .cmp op f o =>
    if N.contains f then o.isInt
    else (op == .eq || op == .ne) && (!o.isInt || fieldAbsent D f)
  | .range f lo hi => N.contains f && lo.isInt && hi.isInt
  | .isIn _ f (some vs) => !N.contains f && vs.all fun o => !o.isInt || fieldAbsent D f
  | .isIn _ _ none => false
  | .ex _ _ => true

def noColon (s : String) : Bool := !s.toList.contains ':'

/-- per-field fixed type: numbers exactly under the numeric names; unique keys per
    document (a Go map); unique live ids; no ':' in field names -/
def conform (sp : Spec) : Bool :=
  (sp.docs.all fun p => (p.2.all fun kv => (kv.2.isInt == sp.numSeen.contains kv.1) && noColon kv.1)
      && decide (p.2.map (·.1)).Nodup) &&
  decide (sp.docs.map (·.1)).Nodup

def leavesOf (fs : List Leaf) (gs : List LGroup) : List Leaf :=
  if !gs.isEmpty then gs.flatMap (·.leaves) else fs

/-- the query is inside the property's domain: well-typed leaves, colon-free field names,
    `AND`/`OR` groups, simple filters and groups not mixed -/
def wellTypedQ (sp : Spec) (fs : List Leaf) (gs : List LGroup) : Bool :=
  (fs.isEmpty || gs.isEmpty) &&
  gs.all (fun g => g.logic != .other) &&
  (leavesOf fs gs).all fun l => wellTypedF sp.numSeen sp.docs l.f && noColon l.f.field

/-- D8 trigger of one leaf: a numeric comparison whose operand and some stored value of
    the field differ in sign -/
def mixedSignF (N : List String) (D : Docs) : Filter → Bool
  | .cmp _ f o => N.contains f && mixed f [o]
  | .range f lo hi => N.contains f && mixed f [lo, hi]
  | _ => false
where
  mixed (f : String) (os : List Operand) : Bool :=
    D.any fun p => match p.2.lookup f with
      | some (.int y) => os.any fun o => match o with
        | .int x _ => x.msb != y.msb
        | .str _ => false
      | _ => false

def Filter.isRange : Filter → Bool
  | .range _ _ _ => true
  | _ => false

/-- D9 trigger of one leaf: `Not` applied to `range` -/
def notRangeL (l : Leaf) : Bool := l.neg && l.f.isRange

def noMixedSign (sp : Spec) (fs : List Leaf) (gs : List LGroup) : Bool :=
  (leavesOf fs gs).all fun l => !mixedSignF sp.numSeen sp.docs l.f

def noNotRange (fs : List Leaf) (gs : List LGroup) : Bool :=
  (leavesOf fs gs).all fun l => !notRangeL l

/-- set of live documents satisfying one leaf (specification side) -/
def specLeaf (sp : Spec) (l : Leaf) : List Nat :=
  (sp.docs.filter fun p => satLeaf sp.numSeen (fun f => p.2.lookup f) l).map (·.1)

end Comet.Meta
